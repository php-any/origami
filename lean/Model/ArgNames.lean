import Model.Types
/-!
# C07 — named arguments: how the arguments of one call reach the parameters

Mirrors `node/name_argument.go resolveNamedArguments` (added by `fixes/C07-7-named-arguments`), which every
binding loop calls first (`CallExpression.GetValue`, `createInstanceFromClassStmt`, `callMethodParams`,
`handleFuncValue`), and what the loops then do with a parameter that received nothing
(`node/function.go missingArgument`, `Parameter.GetValue`):

```go
out := make([]data.GetValue, 0, len(params))
for _, a := range arguments {
    na, ok := a.(*NamedArgument)
    if !ok { out = append(out, a); continue }             // positional: stays where it is
    idx := <index of the first parameter called na.Name>  // none: error "无法找到变量"
    for len(out) <= idx { out = append(out, omittedArg) } // parameters in between receive nothing
    if !isOmittedArgument(out[idx]) { error "命名实参覆盖了已经传入的实参" }
    out[idx] = na.Value                                   // named: moves to the parameter it names
}
```

(`hasNamedArgument`: a call without a named argument is returned untouched — that is what the loop computes for
it, `Proofs.AccessNamed.resolveFrom_positional`; a call that mixes names with a `...spread` is not modelled.)

The binding loops then run over the parameters by position: parameter `i` receives `out[i]` when there is one and
it is not the placeholder; otherwise its default (taken without a type test, `Parameter.GetValue`), or — no
default — it stays `null` when its declared type accepts `null`, else the call is refused (`missingArgument`).
-/
namespace Model.ArgNames
open Model.Access (Name)
open Model.Types

/-- parameter names -/
abbrev PName := Nat

/-- an argument expression once it is evaluated: a value, or it throws -/
inductive ArgV where
  | val (v : ValKind)
  | throws
deriving DecidableEq, Repr, Inhabited

/-- an argument as written at the call -/
inductive CallArg where
  | pos (a : ArgV)
  | named (n : PName) (a : ArgV)
deriving DecidableEq, Repr, Inhabited

inductive ResErr where
  | unknown (n : PName)    -- no parameter of that name
  | duplicate (n : PName)  -- the parameter already received an argument
  | crash                  -- `out[idx]` out of range (proved impossible: `place_no_crash`)
deriving DecidableEq, Repr, Inhabited

/-- index of the first parameter called `n` -/
def indexOf (n : PName) : List PName → Option Nat
  | [] => none
  | p :: r => if p = n then some 0 else (indexOf n r).map (· + 1)

/-- a named argument whose parameter stands at `idx`: pad with placeholders up to `idx`, then the slot must still
hold the placeholder -/
def placeAt (out : List (Option ArgV)) (n : PName) (a : ArgV) (idx : Nat) : Except ResErr (List (Option ArgV)) :=
  match (out ++ List.replicate (idx + 1 - out.length) none)[idx]? with
  | some none => .ok ((out ++ List.replicate (idx + 1 - out.length) none).set idx (some a))
  | some (some _) => .error (.duplicate n)
  | none => .error .crash

/-- one iteration of the loop; `none` inside the list is the placeholder `omittedArg` -/
def place (names : List PName) (out : List (Option ArgV)) : CallArg → Except ResErr (List (Option ArgV))
  | .pos a => .ok (out ++ [some a])
  | .named n a =>
    match indexOf n names with
    | none => .error (.unknown n)
    | some idx => placeAt out n a idx

def resolveFrom (names : List PName) : List (Option ArgV) → List CallArg → Except ResErr (List (Option ArgV))
  | out, [] => .ok out
  | out, c :: r =>
    match place names out c with
    | .ok o => resolveFrom names o r
    | .error e => .error e

/-- `resolveNamedArguments(params, arguments)` -/
def resolve (names : List PName) (args : List CallArg) : Except ResErr (List (Option ArgV)) :=
  resolveFrom names [] args

/-- what parameter `i` receives: `len(arguments) > index && !isOmittedArgument(arguments[index])` -/
def recv (out : List (Option ArgV)) (i : Nat) : Option ArgV :=
  match out[i]? with
  | some (some a) => some a
  | _ => none

/-- a declared parameter: its name, the boundary it is bound through, its declared type, the kind of its
default value if it has one -/
structure Param where
  name : PName
  k : BKind
  t : Ty
  dflt : Option ValKind
deriving Repr, Inhabited

/-- the slot the loop binds for parameter `p` -/
def slotOf (isA : Name → Name → Bool) (p : Param) : Option ArgV → Slot
  | some (.val v) => ⟨p.k, p.t, .val v⟩
  | some .throws => ⟨p.k, p.t, .throws⟩
  | none =>
    match p.dflt with
    | some d => ⟨.unchecked, p.t, .val d⟩          -- the default is taken as it is
    | none =>
      if admits isA p.k p.t .null then ⟨p.k, p.t, .val .null⟩  -- stays null, which the type accepts
      else ⟨p.k, p.t, .missing⟩                                  -- 缺少参数

/-- `for index, param := range params`: the slots in parameter order -/
def slotsFrom (isA : Name → Name → Bool) (out : List (Option ArgV)) : Nat → List Param → List Slot
  | _, [] => []
  | i, p :: r => slotOf isA p (recv out i) :: slotsFrom isA out (i+1) r

inductive Outcome where
  | unresolved (e : ResErr)  -- the call is refused before anything is evaluated or bound
  | call (o : CallOut)
deriving DecidableEq, Repr, Inhabited

/-- one call: resolve the names, then the binding loop; `evalFirst`: every argument is evaluated before the first
is bound (`callMethodParams`) -/
def callNamed (sh : LoopShape) (evalFirst : Bool) (isA : Name → Name → Bool) (params : List Param)
    (args : List CallArg) : Outcome :=
  match resolve (params.map (·.name)) args with
  | .error e => .unresolved e
  | .ok out =>
    let slots := slotsFrom isA out 0 params
    .call (if evalFirst then bindEvalFirst sh isA slots else bindArgs sh isA slots)

end Model.ArgNames
