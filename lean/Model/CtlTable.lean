/-!
# C02 — a clause list dispatched through a construction-time table

`switch`, `match`, `if / elseif` (and a `catch` list) are ORDERED scans over their clauses: the tests are evaluated
top to bottom up to and including the first that succeeds, and that clause is the entry point. A seeded change built,
in `NewSwitchStatement`, a map `label → case index` (`table[v] = i`, top to bottom) and let `GetValue` find the start
case with one lookup. This file says what the scan computes (`scanDispatch`), what a table built by a Go loop
`for i, l := range labels { [if _, ok := t[l]; !ok] t[l] = i }` holds (`buildBy guarded`), and which label expressions
each of the two evaluates (`scanEffects`; the lookup evaluates none).

Keys are `Nat` (the value of a literal label); a clause is its key and whether evaluating its label has an effect.
-/
namespace Model.CtlTable

/-- the ordered scan: index of the first clause carrying key `k` -/
def scanDispatch : List Nat → Nat → Option Nat
  | [], _ => none
  | l :: ls, k => if l = k then some 0 else (scanDispatch ls k).map (· + 1)

/-- index of the LAST clause carrying key `k` -/
def lastDispatch : List Nat → Nat → Option Nat
  | [], _ => none
  | l :: ls, k =>
    match lastDispatch ls k with
    | some j => some (j + 1)
    | none => if l = k then some 0 else none

/-- a Go map from label value to clause index -/
abbrev Table := Nat → Option Nat

def Table.empty : Table := fun _ => none

/-- `t[k] = i` -/
def Table.set (t : Table) (k i : Nat) : Table := fun x => if x = k then some i else t x

/-- the construction loop: `for i, l := range labels { t[l] = i }`, with (`guarded`) or without
`if _, ok := t[l]; !ok` around the store; `i` = index of the head of the list -/
def buildBy (guarded : Bool) : List Nat → Nat → Table → Table
  | [], _, t => t
  | l :: ls, i, t => buildBy guarded ls (i + 1) (if guarded && (t l).isSome then t else t.set l i)

/-- dispatch through the table: one lookup -/
def tableDispatch (t : Table) (k : Nat) : Option Nat := t k

/-- the reference: the entry point of key `k` is the first clause carrying it -/
def FirstWins (ls : List Nat) (t : Table) : Prop :=
  ∀ k, match t k with
    | some i => ls[i]? = some k ∧ ∀ j, j < i → ls[j]? ≠ some k
    | none => k ∉ ls

/-- a clause: key of the label, and whether evaluating the label expression has an effect -/
structure Clause where
  key : Nat
  effect : Bool
  deriving DecidableEq, Repr

/-- the effects the ordered scan performs for condition `k`: positions of the effectful labels it evaluates (`i` =
position of the head) -/
def scanEffects : List Clause → Nat → Nat → List Nat
  | [], _, _ => []
  | c :: cs, i, k => (if c.effect then [i] else []) ++ (if c.key = k then [] else scanEffects cs (i + 1) k)

end Model.CtlTable
