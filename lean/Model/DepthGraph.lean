import Model.Wire
/-!
# Model.DepthGraph — the call graph of a recursive decoder with its depth counter (C14, regenerated facts)

What `extract/c14` reads off a group of mutually recursive functions that carry a depth counter
(`std/protowire/parser.go`: `parseFields`, `consumeFieldValue`, `consumeGroup`):

* per function, the test it makes of its depth at its entry (`if depth >= opts.MaxDepth { return …, ErrMaxDepth }` → `ge`)
  and the expression it compares with;
* per recursive call site, the value handed to the callee's depth parameter (`depth` → `plus 0`,
  `depth+1` → `plus 1`, a literal → `const`, anything else → `unknown`) and a test of that value in the
  caller just before the call, if there is one;
* the calls that enter the group from outside with their literal start depth, and the default the
  entering function gives the limit (`if opts.MaxDepth <= 0 { opts.MaxDepth = 64 }`).

Functions are numbers (the order in which they are reached from the entry); names are for the reader.

Meaning: a *stack* of frames `(function, depth)`, innermost first, built by entering the group and then
following call sites; a frame may be entered only if the site test and the callee's entry test let its
depth through (`Stack`). `WF` is the decidable discipline under which the length of every stack is bounded by
a function of the limit alone (`C14.C14_depth_graph_bounds_recursion`): every call hands on `depth + literal`, no
cycle of calls keeps the depth unchanged, every cycle passes a limit test.

`FitsVia` reads a three-function graph (0 = field list of a message, 1 = one field value, 2 = field list of a
group) as a depth budget on field trees; for the graph the hand-written model embodies (`wireGraph`) it is
`Spec.Wire.Fits` (`Proofs.DepthGraph.fitsVia_wire`).
-/
namespace Model.DepthGraph

/-- the comparison of an entry test, depth on the left, refusing when it holds -/
inductive Cmp where
  | ge      -- `depth >= limit`
  | gt      -- `depth > limit`
  | other   -- any other comparison (`==`, `<`, …): refuses nothing one can rely on
  deriving DecidableEq, Repr

/-- the depth argument of a call site, relative to the caller's own depth -/
inductive Arg where
  | plus (k : Nat)
  | const (k : Nat)
  | unknown
  deriving DecidableEq, Repr

structure Fn where
  name : String
  guard : Option Cmp
  limit : String
  deriving DecidableEq, Repr

structure Edge where
  src : Nat
  dst : Nat
  arg : Arg
  site : Option Cmp
  deriving DecidableEq, Repr

structure Entry where
  caller : String
  dst : Nat
  arg : Arg
  deriving DecidableEq, Repr

/-- `if L cmp bound { L = value }` in an entering function -/
structure Default where
  fn : String
  cmp : String
  bound : Int
  value : Nat
  deriving DecidableEq, Repr

structure Graph where
  file : String
  fns : List Fn
  edges : List Edge
  entries : List Entry
  defaults : List Default
  deriving DecidableEq, Repr

/-! ## meaning -/

/-- does the test let depth `d` through under limit `lim` -/
def Cmp.admits : Cmp → Nat → Nat → Bool
  | .ge, lim, d => decide (d < lim)
  | .gt, lim, d => decide (d ≤ lim)
  | .other, _, _ => true

def admitsOpt : Option Cmp → Nat → Nat → Bool
  | none, _, _ => true
  | some c, lim, d => c.admits lim d

/-- a test that really bounds the depth by the limit -/
def strict : Option Cmp → Bool
  | some .ge => true
  | some .gt => true
  | _ => false

def Graph.guardOf (g : Graph) (f : Nat) : Option Cmp :=
  match g.fns[f]? with
  | some fn => fn.guard
  | none => none

/-- the callee's depth, given the caller's -/
def Arg.reaches : Arg → Nat → Nat → Prop
  | .plus k, d, d' => d' = d + k
  | .const k, _, d' => d' = k
  | .unknown, _, _ => True

/-- a frame of function `f` at depth `d` may be entered through a site with test `site` -/
def Graph.enter (g : Graph) (lim : Nat) (site : Option Cmp) (f d : Nat) : Bool :=
  admitsOpt site lim d && admitsOpt (g.guardOf f) lim d

structure Frame where
  fn : Nat
  depth : Nat
  deriving DecidableEq, Repr

/-- the call stacks the group can build under limit `lim`, innermost frame first -/
inductive Stack (g : Graph) (lim : Nat) : List Frame → Prop
  | entry (en : Entry) (d : Nat) : en ∈ g.entries → en.arg.reaches 0 d → g.enter lim none en.dst d = true →
      Stack g lim [⟨en.dst, d⟩]
  | call (e : Edge) (f d d' : Nat) (rest : List Frame) : Stack g lim (⟨f, d⟩ :: rest) → e ∈ g.edges → e.src = f →
      e.arg.reaches d d' → g.enter lim e.site e.dst d' = true → Stack g lim (⟨e.dst, d'⟩ :: ⟨f, d⟩ :: rest)

/-! ## the discipline -/

/-- a call is tested: in the caller just before it, or by the callee at its entry -/
def Graph.tested (g : Graph) (e : Edge) : Bool := strict e.site || strict (g.guardOf e.dst)

def maxOf : List Nat → Nat
  | [] => 0
  | x :: xs => max x (maxOf xs)

/-- longest chain of calls that keep the depth unchanged, starting in `f` (cut off at `fuel` calls) -/
def Graph.rank (g : Graph) : Nat → Nat → Nat
  | 0, _ => 0
  | fuel + 1, f =>
      maxOf ((g.edges.filter (fun e => e.src == f && e.arg == .plus 0)).map (fun e => 1 + g.rank fuel e.dst))

def Graph.rankOf (g : Graph) (f : Nat) : Nat := g.rank g.fns.length f

def Arg.inc : Arg → Nat
  | .plus k => k
  | _ => 0

def Arg.start : Arg → Nat
  | .const k => k
  | _ => 0

/-- largest increment of a call site -/
def Graph.maxInc (g : Graph) : Nat := maxOf (g.edges.map (·.arg.inc))

/-- largest literal start depth -/
def Graph.maxStart (g : Graph) : Nat := maxOf (g.entries.map (·.arg.start))

def Arg.isPlus : Arg → Bool
  | .plus _ => true
  | _ => false

def Arg.isConst : Arg → Bool
  | .const _ => true
  | _ => false

/-- every recursive call hands on the caller's depth plus a literal -/
def Graph.argsRead (g : Graph) : Bool := g.edges.all (·.arg.isPlus)

/-- no cycle of calls keeps the depth unchanged: a call that hands it on unchanged goes down in rank -/
def Graph.noFlatCycle (g : Graph) : Bool :=
  g.edges.all (fun e => e.arg != .plus 0 || decide (g.rankOf e.dst < g.rankOf e.src))

/-- every cycle passes a limit test: an untested call starts in a function that is entered through tested calls only -/
def Graph.cyclesTested (g : Graph) : Bool :=
  g.edges.all (fun e => g.tested e || g.edges.all (fun e' => e'.dst != e.src || g.tested e'))

/-- the group is entered at a literal depth -/
def Graph.entriesRead (g : Graph) : Bool := !g.entries.isEmpty && g.entries.all (·.arg.isConst)

/-- no comparison the translator could not classify, one limit expression for all tests -/
def Graph.testsRead (g : Graph) : Bool :=
  g.fns.all (fun f => f.guard != some .other) && g.edges.all (fun e => e.site != some .other) &&
  (match (g.fns.filter (fun f => f.guard.isSome)).map (·.limit) with
   | [] => true
   | l :: ls => ls.all (· == l))

def Graph.WF (g : Graph) : Bool :=
  g.argsRead && g.noFlatCycle && g.cyclesTested && g.entriesRead && g.testsRead

/-- the bound `WF` buys: frames of one stack, for any input -/
def Graph.bound (g : Graph) (lim : Nat) : Nat :=
  (max lim g.maxStart + g.maxInc + 1) * (g.fns.length + 1)

/-! ## the graph of the hand-written wire model -/

/-- `Model.Wire.valueWith` / `loopF` / `loopG`: a message met at depth `d` is parsed at `d+1` after
`d+1 < max`; a group met at `d` needs `d < max`, its members are consumed at `d+1`; the top level starts
at 0 under the same test (`parse`). -/
def wireGraph : Graph where
  file := "std/protowire/parser.go"
  fns := [⟨"parseFields", some .ge, "opts.MaxDepth"⟩, ⟨"consumeFieldValue", none, ""⟩,
          ⟨"consumeGroup", some .ge, "opts.MaxDepth"⟩]
  edges := [⟨0, 1, .plus 0, none⟩, ⟨1, 0, .plus 1, none⟩, ⟨1, 2, .plus 0, none⟩, ⟨2, 1, .plus 1, none⟩]
  entries := [⟨"ParseRawFields", 0, .const 0⟩]
  defaults := [⟨"ParseRawFields", "le", 0, 64⟩]

/-- the test a frame passes when it is entered through a site: the stronger of the site's test and the callee's entry test -/
def eff (a b : Option Cmp) : Option Cmp :=
  if a = some .ge ∨ b = some .ge then some .ge
  else if a = some .gt ∨ b = some .gt then some .gt
  else if a = some .other ∨ b = some .other then some .other
  else none

/-- what is compared when a regenerated graph is held against the model's: per call site and per entry the depth handed
on and the test the callee's frame passes (wherever it is written: in the caller before the call, at the callee's entry,
or both), and the default of the limit. Names are not compared. -/
structure Shape where
  edges : List (Nat × Nat × Arg × Option Cmp)
  entries : List (Nat × Arg × Option Cmp)
  defaults : List (String × Int × Nat)
  deriving DecidableEq, Repr

def Graph.shape (g : Graph) : Shape :=
  ⟨g.edges.map (fun e => (e.src, e.dst, e.arg, eff e.site (g.guardOf e.dst))),
   g.entries.map (fun e => (e.dst, e.arg, eff none (g.guardOf e.dst))),
   g.defaults.map (fun d => (d.cmp, d.bound, d.value))⟩

/-- the limit after the entering function applied its default -/
def Default.apply (d : Default) (given : Int) : Nat :=
  if (d.cmp = "le" ∧ given ≤ d.bound) ∨ (d.cmp = "lt" ∧ given < d.bound) ∨ (d.cmp = "eq" ∧ given = d.bound) then d.value
  else given.toNat

/-! ## a three-function graph as a depth budget on field trees -/

/-- the increment and the site test of the first call site from `s` to `t` -/
def Graph.hop (g : Graph) (s t : Nat) : Option (Nat × Option Cmp) :=
  match g.edges.find? (fun e => e.src == s && e.dst == t) with
  | some e => (match e.arg with
      | .plus k => some (k, e.site)
      | _ => none)
  | none => none

/-- from a field value at depth `d` down into a sub-list handled by function `via` (0 message, 2 group) and on to
its field values: the depth those are consumed at, if both entries are let through -/
def Graph.descend (g : Graph) (lim via d : Nat) : Option Nat :=
  match g.hop 1 via, g.hop via 1 with
  | some (a, s), some (b, s') =>
      if g.enter lim s via (d + a) && g.enter lim s' 1 (d + a + b) then some (d + a + b) else none
  | _, _ => none

def viaOf (grp : Bool) : Nat := if grp then 2 else 0

open Model.Wire in
/-- the trees the graph lets through, `d` = depth at which the values of this list are consumed -/
def FitsVia (g : Graph) (lim : Nat) : FT → Nat → Prop
  | .nil, _ => True
  | .leaf _ _ rest, d => FitsVia g lim rest d
  | .sub _ grp kids rest, d =>
      (match g.descend lim (viaOf grp) d with
       | some d' => FitsVia g lim kids d'
       | none => False) ∧ FitsVia g lim rest d

end Model.DepthGraph
