import Model.Hier
/-!
# C05 — executable model of origami's `try / catch / finally / throw`

Mirrors (file → definition):

* `node/try.go`   `TryStatement.GetValue` → `tryStmt` (the three guarded phases, after fix
  `C05-try-finally-on-panic`) and `tryPinned` (the pinned code: one deferred `recover` around the whole statement,
  whose branch runs `tryValue` on the converted panic and returns **without** the finally loop);
  `tryValue` → `tryValue` + `execC` (the `for _, catchBlock := range t.CatchBlocks` loop, first clause whose
  `catchTypeMatches`, bind, run the body, `return` its control or `nil, nil`); `catchTypeMatches` → `clauseMatches`
  (single type: `Class.Is(*ThrowValue)` + the `Throwable` fallback = `Model.Hier.isThrown`; `A | B`:
  `UnionType.Is` = any member's `Class.Is`, no fallback; a throwable without object — a converted Go panic, a
  runtime error of the interpreter, `throw` of a non-object — matches by base name `Throwable/Exception/Error`);
* `node/throw.go` `ThrowStatement.GetValue` → `.throw` (`new K(...)`, `NewErrorThrowFromClassValue`), `.rethrow`
  (`throw $e`: after fix `C05-rethrow-keeps-class` the caught `*ThrowValue` itself; pinned: `NewErrorThrow` of
  its text, i.e. a class-less throwable; an unbound variable is `null` → class-less throwable, both before and after);
* `node/for.go` → `loopN` (Break ends the loop with no control, Continue goes to the increment, anything else is
  returned), `node/function.go FunctionStatement.Call` → `callResult` (Return → value; any other control,
  *including Break/Continue*, is handed to the caller), statement lists (`for … { v, c = st.GetValue(ctx); if c != nil … }`)
  → `execB`, `node/node.go Program.GetValue` → `run`/`final`.

The language is kept small: markers, `throw new K("s<site>")`, `throw $e`, a host function that panics, `return n`,
`break`, `continue`, `for` with a constant trip count, a call of a function whose body is given at the call site
(`call`), and a call `g<k>($n - 1)` of one of the program's **named functions** (`callf k`), guarded by `if ($n > 0)`.

**Re-entrancy.** Named functions may call themselves and each other (from a try block, a catch body, a finally block,
a loop body): every function has one parameter `$n`, a call passes `$n - 1`, and an activation with `$n = 0` makes no
call. An activation is `Act`: its level `$n` and what a call made *from* it does (`env`, the callee's body run in a
fresh activation one level down). The statement evaluator `exec / execB / execC` takes the activation as a parameter
and is structurally recursive on the syntax; `envAt` ties the knot by recursion on the level. So there is still **no
fuel**: every theorem is about every program, every depth of recursion, outright, and the theorems that quantify over
`Act` hold whatever the callees do. Every number a statement prints or hands on (marker, try id, return value, site
of a `new`) carries the level of the activation that executed it, so the trace says *which* activation of a function
entered a block, returned or threw.

Every run returns the outcome and the event trace; events are what the generated scripts print.
-/
namespace Model.Exc
open Model.Hier (Name Cls Graph getClass isThrown isClassValue R throwableName exceptionName errorName)

/-- what travels in a `*data.ThrowValue`: an object (`Object != nil`; the name of its class — the VM's class table is
keyed by name — and the `new` site that made it), or no object at all -/
inductive Thrown where
  | obj (cls : Name) (site : Nat)
  | internal
deriving DecidableEq, Repr

/-- `data.Control` as the statements of the language can produce it (`normal` = `nil`); `panic` = a Go panic in flight -/
inductive Out where
  | normal | brk | cont
  | ret (v : Nat)
  | thr (t : Thrown)
  | panic
deriving DecidableEq, Repr

/-- `a` = the level `$n` of the activation that executed the statement -/
inductive Ev where
  | enterTry (a i : Nat)
  | enterFinally (a i : Nat)
  | caught (a i k : Nat) (t : Thrown)   -- clause `k` (0-based, source order) of try `i` starts with `$e` bound to `t`
  | echo (a m : Nat)
  | result (v : Option Nat)             -- the caller prints what a call returned
deriving DecidableEq, Repr

abbrev Res := Out × List Ev

/-- one activation of a function (or of the script's top level): the value of its parameter `$n`, and what the call
`g<k>($n - 1)` made from it does to the trace (the body of `g<k>` run in a fresh activation one level down, up to the
point where control comes back to the call) -/
structure Act where
  lvl : Nat
  env : Nat → List Ev → Res

/-- `$n * 1000 + v`: the values an activation returns, and the messages of the objects it throws, identify it -/
def tag (lvl v : Nat) : Nat := lvl * 1000 + v

mutual
inductive Stmt where
  | echo (m : Nat)
  | throw (cls : Name) (site : Nat)
  | rethrow
  | gopanic
  | ret (v : Nat)
  | brk
  | cont
  | loop (k : Nat) (body : Block)
  | call (body : Block)
  | callf (k : Nat)
  | try_ (i : Nat) (body : Block) (catches : Catches) (hasFin : Bool) (fin : Block)
inductive Block where
  | nil
  | cons (s : Stmt) (rest : Block)
inductive Catches where
  | nil
  | cons (types : List Name) (body : Block) (rest : Catches)
end

/-- which of the two repaired behaviours are in force (`fixed` = the tree with the C05 patches, `pinned` = before) -/
structure Cfg where
  guarded : Bool        -- fix C05-try-finally-on-panic
  rethrowKeeps : Bool   -- fix C05-rethrow-keeps-class
deriving DecidableEq, Repr

def Cfg.fixed : Cfg := ⟨true, true⟩
def Cfg.pinned : Cfg := ⟨false, false⟩

/-! ### `catchTypeMatches` -/

/-- `Class{ty}.Is(cv)` -/
def classIs (G : Graph) (ty : Name) : Thrown → Bool
  | .obj n _ =>
    match getClass G n with
    | some c => isClassValue G ty c == .yes
    | none => false
  | .internal => ty == throwableName || ty == exceptionName || ty == errorName

/-- `catchTypeMatches(Class{ty}, cv)`: `Is`, then the `Throwable` fallback -/
def singleMatches (G : Graph) (ty : Name) : Thrown → Bool
  | .obj n _ =>
    match getClass G n with
    | some c => isThrown G ty c == .yes
    | none => false
  | .internal => ty == throwableName || ty == exceptionName || ty == errorName

/-- `catchTypeMatches(exceptionType, cv)`; the parser builds a `Class` for one name, a `UnionType` for several -/
def clauseMatches (G : Graph) (tys : List Name) (t : Thrown) : Bool :=
  match tys with
  | [ty] => singleMatches G ty t
  | _ => tys.any (fun ty => classIs G ty t)

/-! ### non-recursive phases (each takes the recursive calls as parameters) -/

/-- `TryStatement.guard` of the repaired code: a Go panic becomes a class-less script exception -/
def protect : Res → Res
  | (.panic, tr) => (.thr .internal, tr)
  | r => r

/-- `tryValue(ctx, c)`: only a `*ThrowValue` is offered to the catch clauses -/
def tryValue (catchLoop : Thrown → List Ev → Res) : Res → Res
  | (.thr t, tr) => catchLoop t tr
  | r => r

/-- `if len(t.FinallyBlock) > 0 { … if nAcl != nil { return nil, nAcl } }; return v, c` -/
def finallyPhase (a i : Nat) (hasFin : Bool) (runFin : List Ev → Res) (r2 : Res) : Res :=
  if hasFin then
    match runFin (r2.2 ++ [.enterFinally a i]) with
    | (.normal, tr3) => (r2.1, tr3)
    | r3 => r3
  else r2

/-- `if c != nil { v, c = tryValue(ctx, c) }` -/
def catchPhase (handle : Res → Res) : Res → Res
  | (.normal, tr) => (.normal, tr)
  | r => handle r

/-- repaired `TryStatement.GetValue` -/
def tryStmt (a i : Nat) (hasFin : Bool) (runBody : List Ev → Res) (catchLoop : Thrown → List Ev → Res)
    (runFin : List Ev → Res) (tr : List Ev) : Res :=
  let r1 := protect (runBody (tr ++ [.enterTry a i]))
  let r2 := catchPhase (fun r => protect (tryValue catchLoop r)) r1
  finallyPhase a i hasFin (fun t => protect (runFin t)) r2

/-- the deferred branch of the pinned code: `v, c = t.tryValue(ctx, NewErrorThrow(panic))`, and return -/
def recovered (catchLoop : Thrown → List Ev → Res) (tr : List Ev) : Res := catchLoop .internal tr

/-- pinned `TryStatement.GetValue`: wherever the Go panic comes from (body, a catch body, the finally block) the
deferred function offers it to this statement's catch clauses and returns; the finally loop is not run (again) -/
def tryPinned (a i : Nat) (hasFin : Bool) (runBody : List Ev → Res) (catchLoop : Thrown → List Ev → Res)
    (runFin : List Ev → Res) (tr : List Ev) : Res :=
  let fin := fun (r2 : Res) =>
    if hasFin then
      match runFin (r2.2 ++ [.enterFinally a i]) with
      | (.normal, tr3) => (r2.1, tr3)
      | (.panic, tr3) => recovered catchLoop tr3
      | r3 => r3
    else r2
  match runBody (tr ++ [.enterTry a i]) with
  | (.panic, tr1) => recovered catchLoop tr1
  | (.normal, tr1) => fin (.normal, tr1)
  | r1 =>
    match tryValue catchLoop r1 with
    | (.panic, tr2) => recovered catchLoop tr2
    | r2 => fin r2

/-- `ForStatement.GetValue` with a constant trip count -/
def loopN (step : List Ev → Res) : Nat → List Ev → Res
  | 0, tr => (.normal, tr)
  | k+1, tr =>
    match step tr with
    | (.normal, tr') => loopN step k tr'
    | (.cont, tr') => loopN step k tr'
    | (.brk, tr') => (.normal, tr')
    | r => r

/-- `FunctionStatement.Call` + the caller's `$r = f(); echo "R…"` -/
def callResult : Res → Res
  | (.ret v, tr) => (.normal, tr ++ [.result (some v)])
  | (.normal, tr) => (.normal, tr ++ [.result none])
  | r => r

/-- `throw $e` where `$e` is what the innermost enclosing catch clause of the same function bound -/
def rethrown (cfg : Cfg) : Option Thrown → Thrown
  | some t => if cfg.rethrowKeeps then t else .internal
  | none => .internal

/-- `throw new K("s<site>")`; an undeclared class never gets this far (origami refuses the program when loading it) -/
def thrownNew (G : Graph) (cls : Name) (site : Nat) : Thrown :=
  match getClass G cls with
  | some _ => .obj cls site
  | none => .internal

/-! ### the evaluator -/

/-- the call `if ($n > 0) { $r = g<k>($n - 1); echo "R…"; }` made from activation `A` -/
def callNamed (A : Act) (k : Nat) (tr : List Ev) : Res :=
  if A.lvl = 0 then (.normal, tr) else callResult (A.env k tr)

mutual
def exec (G : Graph) (cfg : Cfg) (cur : Option Thrown) (A : Act) : Stmt → List Ev → Res
  | .echo m, tr => (.normal, tr ++ [.echo A.lvl m])
  | .throw cls site, tr => (.thr (thrownNew G cls (tag A.lvl site)), tr)
  | .rethrow, tr => (.thr (rethrown cfg cur), tr)
  | .gopanic, tr => (.panic, tr)
  | .ret v, tr => (.ret (tag A.lvl v), tr)
  | .brk, tr => (.brk, tr)
  | .cont, tr => (.cont, tr)
  | .loop k body, tr => loopN (fun t => execB G cfg cur A body t) k tr
  | .call body, tr => callResult (execB G cfg none A body tr)
  | .callf k, tr => callNamed A k tr
  | .try_ i body cs hasFin fin, tr =>
    if cfg.guarded then
      tryStmt A.lvl i hasFin (fun t => execB G cfg cur A body t) (fun x t => execC G cfg A i 0 x cs t)
        (fun t => execB G cfg cur A fin t) tr
    else
      tryPinned A.lvl i hasFin (fun t => execB G cfg cur A body t) (fun x t => execC G cfg A i 0 x cs t)
        (fun t => execB G cfg cur A fin t) tr
def execB (G : Graph) (cfg : Cfg) (cur : Option Thrown) (A : Act) : Block → List Ev → Res
  | .nil, tr => (.normal, tr)
  | .cons s rest, tr =>
    match exec G cfg cur A s tr with
    | (.normal, tr') => execB G cfg cur A rest tr'
    | r => r
/-- the loop of `tryValue` over the catch clauses, `k` = index of the clause at the head -/
def execC (G : Graph) (cfg : Cfg) (A : Act) (i k : Nat) (x : Thrown) : Catches → List Ev → Res
  | .nil, tr => (.thr x, tr)
  | .cons tys body rest, tr =>
    if clauseMatches G tys x then execB G cfg (some x) A body (tr ++ [.caught A.lvl i k x])
    else execC G cfg A i (k+1) x rest tr
end

/-! ### named functions: the activation one level down

`envAt fns n` is the `env` of an activation whose `$n` is `n`: the call `g<k>($n - 1)` runs the body of function `k`
with `$n = n - 1`, no catch variable bound, and in turn `envAt fns (n - 1)` for its own calls. An activation with
`$n = 0` never calls (`callNamed`). A name that is not declared is a runtime error of the interpreter
(`CallExpression`: a class-less throwable). -/

def envAt (G : Graph) (cfg : Cfg) (fns : List Block) : Nat → Nat → List Ev → Res
  | 0, _, tr => (.normal, tr)
  | n+1, k, tr =>
    match fns[k]? with
    | some b => execB G cfg none ⟨n, envAt G cfg fns n⟩ b tr
    | none => (.thr .internal, tr)

/-- a program: the named functions `g0, g1, …`, the top-level statements, and the value `$n` has at top level (the
top level is itself an activation: its calls pass `$n - 1`) -/
structure Prog where
  fns : List Block
  main : Block
  depth : Nat

/-- a program without named functions -/
def Prog.ofBlock (b : Block) : Prog := ⟨[], b, 0⟩

/-- the activation of function bodies / of the top level of `fns` at level `n` -/
def actAt (G : Graph) (cfg : Cfg) (fns : List Block) (n : Nat) : Act := ⟨n, envAt G cfg fns n⟩

/-! ### top level: `Program.GetValue` -/

/-- how a run ends, as `Program.GetValue` and the VM's handler distinguish it -/
inductive Final where
  | ok                       -- fell off the end
  | returned (v : Nat)       -- top-level `return`
  | uncaught (t : Thrown)    -- handed to `vm.ThrowControl`
  | stray                    -- a Break/Continue control reached the program node (handed to `vm.ThrowControl` too)
  | goPanic                  -- a Go panic left the interpreter
deriving DecidableEq, Repr

def final : Out → Final
  | .normal => .ok
  | .ret v => .returned v
  | .thr t => .uncaught t
  | .brk => .stray
  | .cont => .stray
  | .panic => .goPanic

def run (G : Graph) (cfg : Cfg) (p : Prog) : Final × List Ev :=
  let r := execB G cfg none (actAt G cfg p.fns p.depth) p.main []
  (final r.1, r.2)

/-! ### long-running loops: one iteration, repeated

The evaluator threads nothing but the trace through a loop: no counter, stack or cache of the interpreter is part of
the state. `repeatIter o ext k` is what `k` iterations do when *each* of them ends with outcome `o` after appending
`ext` — `ForStatement.GetValue` read with "every iteration is the first one". `Proofs.Properties.C05` proves that
`loopN` over any body *is* this (`C05_iteration_independence`), which is what the long-running correspondence runs
lean on: a real run whose n-th iteration departs from its first has state that survives an iteration. -/

def repeatIter (o : Out) (ext : List Ev) : Nat → List Ev → Res
  | 0, tr => (.normal, tr)
  | k+1, tr =>
    match o with
    | .normal => repeatIter o ext k (tr ++ ext)
    | .cont => repeatIter o ext k (tr ++ ext)
    | .brk => (.normal, tr ++ ext)
    | o => (o, tr ++ ext)

/-- how many iterations run when each ends with `o`, and how the loop ends then (closed form of `repeatIter`,
`Proofs.Exc.repeatIter_eq`) -/
def iterCount (o : Out) (k : Nat) : Nat :=
  match o with
  | .normal => k
  | .cont => k
  | _ => min k 1

def loopOutcome (o : Out) (k : Nat) : Out :=
  if k = 0 then .normal else
    match o with
    | .normal => .normal
    | .cont => .normal
    | .brk => .normal
    | o => o

/-- a program whose top level is one loop `for (…k times…) { body }`, evaluated by running the body once from the
empty trace and repeating what it did (linear in `k`; `run` threads the growing trace through every statement) -/
def runLoop (G : Graph) (cfg : Cfg) (fns : List Block) (body : Block) (k depth : Nat) : Final × List Ev :=
  let r := execB G cfg none (actAt G cfg fns depth) body []
  (final (loopOutcome r.1 k), (List.replicate (iterCount r.1 k) r.2).flatten)

/-! ### the value bound to the catch variable

`ctx.SetVariableValue(catchBlock.Variable, c)` stores the `*ThrowValue` control, not `c.Object`: the script sees a
wrapper that answers `get_class`, `getMessage`, `getLine`… for the object but is not the object (`$e === $o` is
false, `$e instanceof K` is false, user properties and methods are unreachable). -/
inductive Bound where
  | object (t : Thrown)
  | wrapper (t : Thrown)
deriving DecidableEq, Repr

def Bound.underlying : Bound → Thrown
  | .object t => t
  | .wrapper t => t

def boundValue (t : Thrown) : Bound := .wrapper t

end Model.Exc
