import Model.Gen
/-!
# Model.GenFacts — what the source has to look like for `Model.Gen` to be a model of it (C19, tie)

`Model.Gen` rests on a handful of facts about the anchored source, all of the kind "this is per
instantiation, that is shared":

* `ClassGeneric.Clone(mT)` builds a NEW class object whose type-argument map is the parameter; the
  declaration (`*ClassStatement`) and the parameter list are shared and never written; any other table a
  method of the class fills lazily (a memo of substituted declarations, …) is NOT taken over from the
  receiver; `Clone` does not hand back an object it kept from an earlier call;
* a `new` AST node keeps the class it resolved — and what it keeps is what it returns (the specialised
  clone); no other AST node of the typed-store / call path keeps anything between executions;
* every typed store obtains the declaration through the run-time object (`GetPropertyStmt`), so the type it
  checks is the one of that object's own instantiation, and rejects exactly on `type != nil && !type.Is(v)`;
* a written type argument reaches `data.NewBaseType` untouched, `data.Class.Is` compares names with `==`,
  the k-th argument goes to the k-th parameter's name.

The translator `extract/c19` regenerates these facts (`Generated.C19…`) from the source on every run.  This
file gives the record types the generated file is written in, and for each group a small PARAMETRISED
version of the corresponding piece of `Model.Gen`: the parameter is the fact, and the instance at the
well-formed fact is the piece of `Model.Gen` itself (proved in `Proofs.Lemmas.GenFacts`; for the resolver, the
lookups and the sites in `Proofs.Properties.C19`).  An ill-formed fact selects a different machine, on which the
guarantee fails (negation witnesses).
-/
namespace Model.GenFacts
open Model.Gen

/-! ## Record types of the generated facts -/

/-- where `Clone` takes the value of a field of the object it returns from -/
inductive Src where
  | receiver   -- from the receiver (`c.F`, `inst := *c`, anything computed from the receiver)
  | param      -- from the `mT` parameter
  | fresh      -- `make(…)`, a literal
  | zero       -- not mentioned / `nil`
  | other
  deriving DecidableEq, Repr, Inhabited

inductive Role where
  | decl       -- the embedded `*ClassStatement`: the class text, shared by every instantiation
  | params     -- the type-parameter list handed out by `GenericList()`
  | tyargs     -- the per-instantiation type-argument map
  | aux        -- anything else
  deriving DecidableEq, Repr, Inhabited

structure Field where
  name : String
  ty : String
  role : Role
  clone : Src
  /-- a method of `ClassGeneric` assigns the field, stores into it, or writes through it after construction -/
  written : Bool
  deriving DecidableEq, Repr, Inhabited

/-- what a `return` of `Clone` hands back -/
inductive Ret where
  | fresh      -- the object constructed by this call
  | stored     -- something read out of the receiver (a memo of earlier instantiations, the receiver itself)
  | other
  deriving DecidableEq, Repr, Inhabited

structure ClassWrite where
  fn : String
  field : String
  how : String
  deriving DecidableEq, Repr, Inhabited

inductive Owner where
  | receiver      -- the map of the class object the method was called on
  | objectClass   -- the map of the class of the run-time object / context handed in
  | nodeState     -- a map reached through the AST node that is executing
  | other
  deriving DecidableEq, Repr, Inhabited

inductive Key where
  | genericName   -- `<data.Generic>.Name`
  | typeString    -- `<declared type>.String()`
  | nodeText      -- the name written at the node (`new T()`)
  | other
  deriving DecidableEq, Repr, Inhabited

structure Lookup where
  fn : String
  owner : Owner
  key : Key
  deriving DecidableEq, Repr, Inhabited

structure NodeWrite where
  node : String
  field : String
  fn : String
  how : String
  value : String
  deriving DecidableEq, Repr, Inhabited

/-- what a resolver leaves in the node field, relative to what it returns -/
inductive Stored where
  | returned   -- the last store before every successful `return x` is `n.f = x`
  | other      -- something else (an earlier value of the variable, what a callee stored, …)
  | none       -- nothing
  deriving DecidableEq, Repr, Inhabited

structure Resolver where
  node : String
  field : String
  fn : String
  /-- the field is read back somewhere (`if n.f != nil { return n.f }`) -/
  cacheRead : Bool
  stored : Stored
  /-- the returned variable is bound to `<generic class>.Clone(<map>)` -/
  specialises : Bool
  deriving DecidableEq, Repr, Inhabited

inductive PropSrc where
  | objLookup    -- `<run-time object>.GetPropertyStmt(name)`
  | objTypeArg   -- a function that reads the type-argument map of the run-time object's class
  | nodeState    -- through the executing AST node (a field or a method of it)
  | other
  deriving DecidableEq, Repr, Inhabited

inductive Conj where
  | typeNotNil | notIs | notNull | other
  deriving DecidableEq, Repr, Inhabited

inductive SiteKind where
  | prop | param
  deriving DecidableEq, Repr, Inhabited

structure Site where
  file : String
  fn : String
  kind : SiteKind
  src : PropSrc
  conj : List Conj
  rejects : Bool
  deriving DecidableEq, Repr, Inhabited

/-- `data.ClassValue.GetPropertyStmt` -/
structure ObjLookup where
  /-- the first thing it does is `<receiver>.Class.GetProperty(name)` -/
  ownClassFirst : Bool
  /-- writes to the object (or through it) made by the lookup -/
  writes : List String
  deriving DecidableEq, Repr, Inhabited

def ObjLookup.ok (o : ObjLookup) : Bool := o.ownClassFirst && o.writes.isEmpty

inductive NameStep where
  | lower | upper
  | other (fn : String)
  deriving DecidableEq, Repr, Inhabited

structure BuildLoop where
  /-- `n.T[i]` is indexed with the index of the loop over the type parameters -/
  indexIsRange : Bool
  /-- the map key is the name of the type parameter of this iteration -/
  keyIsParamName : Bool
  /-- the map filled by the loop is the one handed to `Clone` -/
  mapCloned : Bool
  /-- the result of that `Clone` is what the function returns -/
  cloneReturned : Bool
  ctor : String
  deriving DecidableEq, Repr, Inhabited

inductive CmpOp where
  | eq | fold | other
  deriving DecidableEq, Repr, Inhabited

structure NameCmp where
  fn : String
  op : CmpOp
  /-- the other side is a name as stored (identifier, field, `GetName()`), not a computed string -/
  plainName : Bool
  against : String
  deriving DecidableEq, Repr, Inhabited

/-! ## A. `Clone` and the tables an instantiation keeps -/

/-- some method fills an auxiliary table of the class object lazily -/
def memoised (fs : List Field) : Bool :=
  fs.any fun f => f.role == .aux && f.written

/-- … and `Clone` lets the new object start with the receiver's table -/
def sharedAux (fs : List Field) : Bool :=
  fs.any fun f => f.role == .aux && f.written && !(f.clone == .fresh || f.clone == .zero)

/-- the declaration, the parameter list or the type-argument map is written after construction -/
def sharedWritten (fs : List Field) : Bool :=
  fs.any fun f => f.role != .aux && f.written

def tyargsFromParam (fs : List Field) : Bool :=
  (fs.filter (·.role == .tyargs)).map (·.clone) == [.param]

/-- `Clone` may hand back an object that is not the one it has just built -/
def cloneMemo (rets : List Ret) : Bool :=
  rets.isEmpty || rets.any (· != .fresh)

def CloneWF (fs : List Field) (rets : List Ret) : Bool :=
  tyargsFromParam fs && !sharedAux fs && !sharedWritten fs && !cloneMemo rets

/-- a class object as `GetProperty` sees it: its own type arguments and the table it memoises in -/
structure Obj where
  gmap : GMap
  cell : Nat

/-- the class objects of one generic class (index 0 = the registered, un-instantiated one) and the memo
tables (table ↦ member ↦ effective type of the member as first computed) -/
structure Heap where
  cells : Nat → Nat → Option (Option Ty)
  next : Nat
  objs : List Obj

inductive TOp where
  | clone (g : GMap)       -- `Clone(g)` on the registered class
  | lookup (i p : Nat)     -- `GetProperty(p)` on class object `i`

/-- answer of a lookup: `none` = no such class object, `some none` = member not declared,
`some (some t)` = effective type `t` (`none` = unchecked) -/
abbrev Ans := Option (Option (Option Ty))

def tinit : Heap := ⟨fun _ _ => none, 1, [⟨GMap.empty, 0⟩]⟩

/-- one operation under the discipline (`shared`, `memo`) read off the field table.  A shared table is
modelled at its worst: the template's table exists when `Clone` copies the header. -/
def tstep (shared memo : Bool) (c : Class) (h : Heap) : TOp → Heap × Ans
  | .clone g =>
    if shared then ({ h with objs := h.objs ++ [⟨g, 0⟩] }, none)
    else ({ h with objs := h.objs ++ [⟨g, h.next⟩], next := h.next + 1 }, none)
  | .lookup i p =>
    match h.objs[i]? with
    | none => (h, none)
    | some o =>
      if memo then
        match h.cells o.cell p with
        | some t => (h, some (some t))
        | none =>
          match getProperty c o.gmap p with
          | none => (h, some none)
          | some t =>
            ({ h with cells := fun k q => if k = o.cell ∧ q = p then some t else h.cells k q }, some (some t))
      else (h, some (getProperty c o.gmap p))

def trun (shared memo : Bool) (c : Class) : Heap → List TOp → Heap × List Ans
  | h, [] => (h, [])
  | h, o :: os =>
    let (h1, a) := tstep shared memo c h o
    let (h2, as) := trun shared memo c h1 os
    (h2, a :: as)

/-- what `Model.Gen` assumes: every lookup is `getProperty` with the class object's OWN map -/
def tspec (c : Class) : List GMap → List TOp → List Ans
  | _, [] => []
  | gs, .clone g :: os => none :: tspec c (gs ++ [g]) os
  | gs, .lookup i p :: os => (gs[i]?).map (fun g => getProperty c g p) :: tspec c gs os

/-- the machine the field table selects -/
def trunOf (fs : List Field) (c : Class) (ops : List TOp) : List Ans :=
  (trun (sharedAux fs) (memoised fs) c tinit ops).2

/-- whose type arguments a read of the type-argument map sees: `own` = those of the class object the
operation is about, `kept` = whatever is reachable through the executing AST node -/
def Lookup.map (l : Lookup) (own kept : GMap) : GMap :=
  if l.owner == .receiver || l.owner == .objectClass then own else kept

def Lookup.ok (l : Lookup) : Bool :=
  (l.owner == .receiver || l.owner == .objectClass) && l.key != .other

/-! ### `Clone` that hands back a kept instantiation -/

/-- `Clone` memoised under `key`: the arguments of the instantiation a request for `args` really gets -/
def cloneVia {K : Type} [DecidableEq K] (key : List Ty → K) (tbl : List (K × List Ty)) (args : List Ty) :
    List Ty × List (K × List Ty) :=
  match tbl.find? (fun e => e.1 = key args) with
  | some e => (e.2, tbl)
  | none => (args, (key args, args) :: tbl)

def cloneRun {K : Type} [DecidableEq K] (key : List Ty → K) : List (K × List Ty) → List (List Ty) → List (List Ty)
  | _, [] => []
  | tbl, a :: as =>
    let (r, tbl') := cloneVia key tbl a
    r :: cloneRun key tbl' as

/-- what the sequence of requests gets under the `returns` fact -/
def cloneRunOf {K : Type} [DecidableEq K] (rets : List Ret) (key : List Ty → K) (reqs : List (List Ty)) : List (List Ty) :=
  if cloneMemo rets then cloneRun key [] reqs else reqs

def Ty.code : Ty → Nat
  | .int => 0 | .string => 1 | .array => 2 | .cls n => 3 + n

def insertSorted (x : Nat) : List Nat → List Nat
  | [] => [x]
  | y :: ys => if x ≤ y then x :: y :: ys else y :: insertSorted x ys

/-- "a stable key for a set of type arguments": the sorted argument names -/
def sortedKey (args : List Ty) : List Nat :=
  (args.map Ty.code).foldr insertSorted []

/-! ## C. AST nodes that keep state -/

def Resolver.ok (r : Resolver) : Bool :=
  !r.cacheRead || r.stored != .other

/-- one execution of a node under resolver discipline `r`: `raw` is the registered class, `spec` what
this node's text denotes (the specialised clone; `raw` itself for a plain `new C`) -/
def execNode {α : Type} (r : Resolver) (raw spec : α) (cache : Option α) : α × Option α :=
  match (if r.cacheRead then cache else none) with
  | some x => (x, cache)
  | none =>
    (spec, match r.stored with
      | .returned => some spec
      | .other => some raw
      | .none => cache)

/-- the classes the first `n` executions of one node obtain -/
def nodeRuns {α : Type} (r : Resolver) (raw spec : α) : Nat → Option α → List α
  | 0, _ => []
  | n + 1, cache =>
    let (x, cache') := execNode r raw spec cache
    x :: nodeRuns r raw spec n cache'

/-- `Model.Gen.resolveAt` with the resolver discipline as a parameter -/
def resolveAtR (r : Resolver) (s : State) (site c : Nat) (args : Option (List Ty)) : State × Built :=
  match (if r.cacheRead then s.cache site else none) with
  | some o => (s, .ok o)
  | none =>
    match build s.classes c args with
    | .ok o =>
      let kept : Option Inst :=
        match r.stored with
        | .returned => some o
        | .other => (match build s.classes c none with | .ok w => some w | _ => none)
        | .none => s.cache site
      ({ s with cache := fun k => if k = site then kept else s.cache k }, .ok o)
    | .crash => (s, .crash)
    | .noClass => (s, .noClass)

/-- `new C<args>()` through node `site` under discipline `r` (`Model.Gen.step` on `instAt`) -/
def instAtR (r : Resolver) (s : State) (site c : Nat) (args : List Ty) : State × Out :=
  match resolveAtR r s site c (some args) with
  | (s1, .noClass) => (s1, .noClass)
  | (s1, .crash) => (s1, .crash)
  | (s1, .ok o) => ({ s1 with insts := s1.insts ++ [o] }, .created s1.insts.length)

/-- node state the model knows about: the class cache of `new` nodes -/
def modelledNodeState : List (String × String) := [("NewExpression", "class")]

def NodesWF (ws : List NodeWrite) (rs : List Resolver) (pkgWrites : List String) : Bool :=
  ws.all (fun w => modelledNodeState.contains (w.node, w.field) &&
    rs.any (fun r => r.fn == w.fn && r.node == w.node && r.field == w.field)) &&
  rs.all (fun r => modelledNodeState.contains (r.node, r.field) && r.ok) &&
  pkgWrites.isEmpty

/-! ## E. The type checks of the typed-store / call path -/

def Conj.holds (ty : Option Ty) (v : Val) (extra : Bool) : Conj → Bool
  | .typeNotNil => ty.isSome
  | .notIs => !(check ty v)
  | .notNull => v != .null
  | .other => extra

/-- does the site reject `v`?  `own` = the effective type under the receiver object's own instantiation,
`kept` = whatever the executing node has kept from earlier executions, `extra` = the value of a conjunct the
translator does not understand -/
def Site.rejected (s : Site) (own kept : Option Ty) (extra : Bool) (v : Val) : Bool :=
  s.rejects && s.conj.all (Conj.holds (if s.src == .objLookup || s.src == .objTypeArg then own else kept) v extra)

def Site.ok (s : Site) : Bool :=
  s.rejects && (s.src == .objLookup || s.src == .objTypeArg) &&
  s.conj.contains .notIs && s.conj.contains .typeNotNil &&
  (match s.kind with
   | .prop => s.conj.all (fun c => c == .typeNotNil || c == .notIs)
   | .param => s.conj.contains .notNull && s.conj.all (fun c => c == .typeNotNil || c == .notIs || c == .notNull))

/-! ## D. From the written type argument to the specialised type -/

/-- the wrappers applied to a name, innermost first; `sem` gives each wrapper its meaning -/
def applyChain {N : Type} (sem : NameStep → N → N) : List NameStep → N → N
  | [], n => n
  | s :: rest, n => applyChain sem rest (sem s n)

/-- `Class{Name: f a}.Is(<object of class d>)` when names are compared through `q` (`q = id`: `==`;
`q = lower`: `strings.EqualFold`) -/
def acceptsName {N Q : Type} [DecidableEq Q] (q : N → Q) (f : N → N) (a d : N) : Bool :=
  q (f a) == q d

def NamesWF (arg parse : List NameStep) (cmps : List NameCmp) (loop : BuildLoop) (defaultIsClassOfArg : Bool) : Bool :=
  arg.isEmpty && parse.isEmpty && !cmps.isEmpty && cmps.all (fun c => c.op == .eq && c.plainName) &&
  loop.indexIsRange && loop.keyIsParamName && loop.mapCloned && loop.cloneReturned && loop.ctor == "data.NewBaseType" && defaultIsClassOfArg

/-- names as the interpreter has them -/
abbrev Name := List Char

def lowerName (n : Name) : Name := n.map Char.toLower

def charSem : NameStep → Name → Name
  | .lower, n => lowerName n
  | .upper, n => n.map Char.toUpper
  | .other _, n => n

/-- `resolveClass`'s loop with the argument index as a function of the loop index -/
def buildMapIx (π : Nat → Nat) (args : List Ty) : List Nat → Nat → GMap → Option GMap
  | [], _, m => some m
  | p :: ps, i, m =>
    match args[π i]? with
    | none => none
    | some t => buildMapIx π args ps (i + 1) (m.set p t)

/-! ## F. The argument-binding loops of the generic call path

`createInstanceAndCallConstructorWithStmt` (the constructor of `new C<…>(…)`) and `CallObjectMethod` each have
their own copy of the loop that binds the arguments of a call to the parameters, one `bindTypedParameter`
(= one `Site` of kind `param`) per position.  What the loop does with the results is regenerated
(`Generated.C19.bindLoops`). -/

inductive LoopShape where
  | eachChecked   -- the result of binding one argument is tested (and returned) before the next one is bound
  | lastOnly      -- the results are kept in ONE variable that is tested after the loop
  | unchecked     -- the result is dropped
  | other
  deriving DecidableEq, Repr, Inhabited

structure BindLoop where
  file : String
  fn : String
  shape : LoopShape
  deriving DecidableEq, Repr, Inhabited

/-- one argument position of a call: the effective type of the parameter under the receiver object's OWN
instantiation (`none`: untyped parameter / raw instantiation) and the value passed -/
abbrev Arg := Option Ty × Val

/-- what a well-formed `param` site answers for this position (`C19_sites_generic`) -/
def argRefused (a : Arg) : Bool := a.2 != .null && !(check a.1 a.2)

/-- the loop as written in the unchanged code: the first refusal leaves the function; the parameters bound so far
are all that happened.  Result: (call refused?, per position reached: parameter bound?) -/
def bindEach : List Arg → Bool × List Bool
  | [] => (false, [])
  | a :: as => if argRefused a then (true, []) else ((bindEach as).1, true :: (bindEach as).2)

/-- the loop with ONE result variable: every iteration overwrites what the one before left -/
def bindLastGo (ctl : Bool) : List Arg → Bool
  | [] => ctl
  | a :: as => bindLastGo (argRefused a) as

/-- a binding loop of the given shape run over the arguments of one call: is the call refused (no body, no
instance), and which parameters are bound when the loop is left (a refused position binds nothing) -/
def bindRun : LoopShape → List Arg → Bool × List Bool
  | .eachChecked, args => bindEach args
  | .lastOnly, args => (bindLastGo false args, args.map (fun a => !argRefused a))
  | _, args => (false, args.map (fun a => !argRefused a))

def BindLoop.ok (l : BindLoop) : Bool := l.shape == .eachChecked

def BindLoopsWF (ls : List BindLoop) : Bool :=
  ls.all BindLoop.ok && ls.any (·.file == "new.go") && ls.any (·.file == "call_object_method.go")

end Model.GenFacts
