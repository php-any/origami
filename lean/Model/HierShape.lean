import Model.Hier
/-!
# C08 — the SHAPE of the hierarchy walks, as data

`Model.Hier` mirrors the walks of origami by hand: `bfs` (queue loop with visited set), `dfs` (recursion without),
`walkUp` (parent-chain loops), `visitIs` (what one class contributes to a subtype test). The correctness argument
RESTS ON a handful of syntactic facts of the Go source: the queue loop re-reads the queue every trip and pushes
*all* parents, an already visited name is skipped (not: the loop is left), a parent-chain loop leaves at the first
hit and advances to the parent of the class it just looked at, every subtype decider tests the name, scans the
whole implements list and goes on to the parent chain. The translator `extract/c08` regenerates those facts
(`lean/Generated/C08Walks.lean`) from `/repo` on every run; this file says what each fact MEANS: an interpreter per
kind of walk, parameterised by the fact record. `Proofs/Lemmas/Hier{Bfs,ShapeR,Dispatch,ShapeD}.lean` prove, for EVERY record that passes
the decidable check `….ok`, that the interpreted walk is the model's walk (hence reachability / most-derived);
`Proofs/Properties/C08.lean` discharges `….ok` for the regenerated records by `decide` and shows, for each realistic
mistake, a concrete record and hierarchy on which the guarantee fails.

Four kinds of walk:

* `Worklist` — `data/type_class.go interfaceExtends`: a slice used as a queue;
* `RecWalk`  — `node/class.go checkInterfaceIs`: recursion over the parents of an interface;
* `Chain`    — every `for … { …; x = parent(x) }` loop over the extends chain (`extendISClass`, `ClassValue.GetMethod`,
               `GetPropertyStmt`, `CallParentMethod`, `CallStaticMethod`, `CallStaticKeywordMethod`,
               `findMethodInHierarchy`);
* `Decider`  — what a subtype decider does with ONE class (`isClassValueInstanceOf`, `Class.Is` arm `*ThisValue`,
               the body of `extendISClass`, `checkClassIs`) and where it goes next.
-/
namespace Model.HierShape
open Model.Hier

/-- which of the parents of the interface / class at hand a statement uses -/
inductive Sel where
  | all                      -- `x.GetExtends()...` / `range x.GetExtends()`
  | first                    -- `x.GetExtends()[0]`, `x.GetExtends()[:1]`
  | none                     -- nothing
  | other (src : String)
deriving DecidableEq, Repr

def Sel.of : Sel → List Name → List Name
  | .all, l => l
  | .first, l => l.take 1
  | _, _ => []

/-- how the loop over the queue is driven -/
inductive Loop where
  | live                     -- the condition reads the queue variable every trip (`for len(q) > 0`, `for i := 0; i < len(q); i++`)
  | snapshot                 -- `for _, x := range q`: Go evaluates the range operand ONCE
  | other (src : String)
deriving DecidableEq, Repr

/-- the end of the slice the next element is taken from -/
inductive Take where
  | head                     -- `x := q[0]; q = q[1:]` (or the index of a live index loop)
  | last                     -- `x := q[len(q)-1]; q = q[:len(q)-1]`
  | other (src : String)
deriving DecidableEq, Repr

/-- what happens to a name that was visited before -/
inductive OnSeen where
  | absent                   -- there is no visited test
  | skip                     -- `continue`
  | stop                     -- `return false` / `break`: the walk is over
deriving DecidableEq, Repr

/-- what a miss does to the iteration it happens in -/
inductive Next where
  | next                     -- go on with the next element
  | stop                     -- leave: the answer is `false`
deriving DecidableEq, Repr

/-! ### `Worklist`: `interfaceExtends` -/

structure Worklist where
  fn : String
  startHit : Bool            -- `if start == target { return true }` before anything is looked up
  seed : Sel                 -- what the queue holds before the loop: which parents of the start interface
  loop : Loop
  take : Take
  hitOnTake : Bool           -- `if name == target { return true }` on the name just taken, before it is looked up
  onSeen : OnSeen
  marks : Bool               -- `visited[name] = true` on every trip that gets past the visited test
  onMissing : Next           -- the name is not a registered interface
  hitOnLoad : Bool           -- `if parent.GetName() == target { return true }` on the interface just loaded
  push : Sel                 -- which parents of the loaded interface are appended to the queue
  dry : Bool                 -- the value returned when the loop ends
deriving DecidableEq, Repr

def Worklist.lifo (S : Worklist) : Bool :=
  match S.take with
  | .last => true
  | _ => false

/-- the queue, seen from the end the loop takes from, after the parents `ps` were appended to the slice: a loop that
ranges over a snapshot never sees what is appended -/
def Worklist.pushed (S : Worklist) (q ps : List Name) : List Name :=
  match S.loop with
  | .live => if S.lifo then (S.push.of ps).reverse ++ q else q ++ S.push.of ps
  | _ => q

def Worklist.seedQ (S : Worklist) (ps : List Name) : List Name :=
  if S.lifo then (S.seed.of ps).reverse else S.seed.of ps

/-- the loop; `none` = out of fuel (the Go loop would still be running) -/
def runW (S : Worklist) (G : Graph) (t : Name) : Nat → List Name → List Name → Option Bool
  | _, [], _ => some S.dry
  | 0, _ :: _, _ => none
  | f+1, n :: q, vis =>
    if S.hitOnTake && n == t then some true
    else if S.onSeen != .absent && vis.contains n then
      (match S.onSeen with
       | .stop => some false
       | _ => runW S G t f q vis)
    else
      match getIface G n with
      | none =>
        (match S.onMissing with
         | .stop => some false
         | .next => runW S G t f q (if S.marks then n :: vis else vis))
      | some p =>
        if S.hitOnLoad && p.name == t then some true
        else runW S G t f (S.pushed q p.ext) (if S.marks then n :: vis else vis)

/-- the whole function: start test, lookup of the start interface, loop -/
def runIE (S : Worklist) (G : Graph) (s t : Name) : Option Bool :=
  if S.startHit && s == t then some true
  else
    match getIface G s with
    | none => some false
    | some i => runW S G t (bfsFuel G) (S.seedQ i.ext) []

def Worklist.ok (S : Worklist) : Bool :=
  S.startHit && S.seed == .all && S.loop == .live && (S.take == .head || S.take == .last) && S.hitOnTake &&
  S.onSeen == .skip && S.marks && S.onMissing == .next && S.push == .all && !S.dry

/-! ### `RecWalk`: `checkInterfaceIs` -/

structure RecWalk where
  fn : String
  selfHit : Bool             -- `if source.GetName() == target { return true }` before the loop
  over : Sel                 -- the parents the loop ranges over
  onSeen : OnSeen            -- a parent that is in the seen set (if the walk keeps one; it then marks on entry)
  onMissing : Next           -- a parent that is not a registered interface
  childTrue : Bool           -- `if walk(parent) { return true }`
  childFalse : Next          -- what a parent that does not reach the target does to the loop
  dry : Bool                 -- the value returned after the loop
deriving DecidableEq, Repr

/-- outcome of one trip of a `range` loop -/
inductive Step where
  | hit | next | halt
deriving DecidableEq, Repr

def Next.step : Next → Step
  | .next => .next
  | .stop => .halt

/-- a `range` loop that threads the seen set: `hit` → `true`, `halt` → `false`, dry → `dry` -/
def iter (f : Name → List Name → Option (Step × List Name)) (dry : Bool) :
    List Name → List Name → Option (Bool × List Name)
  | [], seen => some (dry, seen)
  | x :: r, seen =>
    match f x seen with
    | none => none
    | some (.hit, s) => some (true, s)
    | some (.halt, s) => some (false, s)
    | some (.next, s) => iter f dry r s

def RecWalk.keepsSeen (S : RecWalk) : Bool := S.onSeen != .absent

/-- the recursive walk; fuel = recursion depth; the seen set is threaded through (and unused when the walk keeps none) -/
def runR (S : RecWalk) (G : Graph) (t : Name) : Nat → Ifc → List Name → Option (Bool × List Name)
  | 0, _, _ => none
  | f+1, i, seen =>
    if S.selfHit && i.name == t then some (true, seen)
    else
      iter (fun p s =>
        if S.keepsSeen && s.contains p then
          some ((match S.onSeen with
                 | .stop => Step.halt
                 | _ => Step.next), s)
        else
          match getIface G p with
          | none => some (S.onMissing.step, s)
          | some j =>
            match runR S G t f j s with
            | none => none
            | some (true, s') => some (if S.childTrue then Step.hit else Step.next, s')
            | some (false, s') => some (S.childFalse.step, s'))
        S.dry (S.over.of i.ext) (if S.keepsSeen then i.name :: seen else seen)

def RecWalk.okCore (S : RecWalk) : Bool :=
  S.selfHit && S.over == .all && S.onMissing == .next && S.childTrue && S.childFalse == .next && !S.dry

/-- the shape of the pinned code (no seen set: total on acyclic graphs only) or the same with a seen set whose
members are skipped (total on every graph) -/
def RecWalk.ok (S : RecWalk) : Bool := S.okCore && (S.onSeen == .absent || S.onSeen == .skip)

/-! ### `Chain`: loops over the extends chain -/

/-- which classes the loop examines, relative to the class `B` the site resolves the call against (the runtime class
for `$o->m()`, `StaticClass` for `static::`, the named class for `C::m()`, the class `parent::` is resolved against) -/
inductive From where
  | base                     -- `B`, then its ancestors
  | above                    -- the ancestors of `B` only (`parent::`)
  | handed                   -- the loop is handed the parent POINTER by its callers (`extendISClass`)
  | other (src : String)
deriving DecidableEq, Repr

/-- where the cursor goes at the end of a trip -/
inductive Adv where
  | parentOfVisited          -- to the parent of the class examined in this trip
  | other (src : String)
deriving DecidableEq, Repr

inductive OnHit where
  | leave                    -- `return` / `break`
  | goOn                     -- the result is kept and the loop goes on
deriving DecidableEq, Repr

/-- the class reported together with the member that was found -/
inductive Found where
  | current                  -- the class examined in the trip that hit
  | start (src : String)     -- a variable that received the cursor before the loop: the class the walk started from
  | stale (src : String)     -- a variable assigned anywhere else outside the hit branch
  | unrecorded               -- only the member is returned
deriving DecidableEq, Repr

structure Chain where
  fn : String
  role : String              -- which construct the loop serves (see `expectedChains`)
  start : String             -- the expression the walk starts from, as written
  «from» : From
  advance : Adv
  lookups : List String      -- the tables consulted per class, in order (`GetMethod`, `GetStaticMethod`, …)
  extra : List String        -- conditions of the hit test beyond "the table has the name"
  onHit : OnHit
  found : Found
  repair : Bool              -- after the loop the class handed on is re-derived from the found variable and the member:
                             -- `lexicalClassOfMethod(vm, <found>, <member>)` (the class of the chain whose OWN table holds
                             -- this very member) overrides it
  onMissing : String         -- a parent that cannot be loaded: `error` | `notFound` | `stop`
deriving DecidableEq, Repr

def Chain.next (S : Chain) (c : Cls) : Option Name :=
  match S.advance with
  | .parentOfVisited => c.ext
  | .other _ => some c.name

def Chain.filters (S : Chain) : Bool := !S.extra.isEmpty

def finish {α : Type} : Option (Cls × α) → Walk (Cls × α)
  | some r => .found r
  | none => .absent

/-- the class reported with a member found in class `c`: `stale` is what a found-variable assigned outside the hit branch
holds. When that variable holds the class the walk STARTED from and the site re-derives the class from it (`repair`), the
re-derivation — a walk up from the start class to the class whose own table holds the very member found — arrives at `c`,
which is on the chain above the start by construction -/
def Chain.reported (S : Chain) (stale c : Cls) : Cls :=
  match S.found with
  | .stale _ => stale
  | .start _ => if S.repair then c else stale
  | _ => c

/-- the hit test on one class: `decl` is the table lookup, `keep` the value of the extra conditions -/
def examine {α : Type} (S : Chain) (decl : Cls → Option α) (keep : α → Bool) (stale c : Cls) : Option (Cls × α) :=
  match decl c with
  | none => none
  | some x =>
    if S.filters && !keep x then none
    else some (S.reported stale c, x)

/-- the loop, the cursor being the parent pointer `e`; `cand` is the result kept so far (`goOn` loops) -/
def runC {α : Type} (S : Chain) (G : Graph) (decl : Cls → Option α) (keep : α → Bool) (stale : Cls) :
    Nat → Option (Cls × α) → Option Name → Walk (Cls × α)
  | _, cand, none => finish cand
  | 0, _, some _ => .fuel
  | f+1, cand, some e =>
    match getClass G e with
    | none => .missing e
    | some c =>
      match examine S decl keep stale c with
      | some r =>
        (match S.onHit with
         | .leave => .found r
         | .goOn => runC S G decl keep stale f (some r) (S.next c))
      | none => runC S G decl keep stale f cand (S.next c)

/-- the lookup of a site for the class `b` it resolves against -/
def lookupS {α : Type} (S : Chain) (G : Graph) (decl : Cls → Option α) (keep : α → Bool) (stale b : Cls) :
    Walk (Cls × α) :=
  match S.«from» with
  | .base =>
    (match examine S decl keep stale b with
     | some r =>
       (match S.onHit with
        | .leave => .found r
        | .goOn => runC S G decl keep stale (classFuel G) (some r) (S.next b))
     | none => runC S G decl keep stale (classFuel G) none (S.next b))
  | _ => runC S G decl keep stale (classFuel G) none b.ext

/-- own class, then the chain, for an arbitrary table lookup (`Model.Hier.lookupFrom` is the instance
`decl k = findM (pick k) m`) -/
def lookupG {α : Type} (G : Graph) (decl : Cls → Option α) (c : Cls) : Walk (Cls × α) :=
  match decl c with
  | some x => .found (c, x)
  | none => walkUp G (fun d => some ((decl d).map (fun x => (d, x)))) (classFuel G) c.ext

def Chain.foundOK (S : Chain) : Bool :=
  match S.found with
  | .current => true
  | .unrecorded => true
  | .start _ => S.repair
  | .stale _ => false

def Chain.okCore (S : Chain) : Bool :=
  S.advance == .parentOfVisited && S.extra.isEmpty && S.onHit == .leave && S.foundOK

/-- role, classes examined, tables consulted, meaning of a parent that cannot be loaded — what `Model.Hier` mirrors -/
abbrev ChainSig := String × From × List String × String

def Chain.sig (S : Chain) : ChainSig := (S.role, S.«from», S.lookups, S.onMissing)

/-- loops the model has a counterpart for; the other loops over the extends chain in the scanned functions (`unmodelledRoles`:
magic methods, the `self::` fallback outside a class body) only have to be well-shaped -/
def expectedChains : List ChainSig :=
  [ ("extendISClass", .handed, ["decider"], "stop"),
    ("property", .base, ["GetProperty"], "notFound"),
    ("method", .base, ["GetMethod"], "notFound"),
    ("method.static", .base, ["GetStaticMethod"], "notFound"),
    ("parent", .above, ["GetMethod", "GetStaticMethod"], "error"),
    ("named", .base, ["GetStaticMethod"], "error"),
    ("named.dynamic", .base, ["GetStaticMethod"], "error"),
    ("static", .base, ["GetStaticMethod"], "error"),
    ("like", .base, ["GetMethod"], "notFound") ]

def unmodelledRoles : List String := ["-self", "-magic", "-named.magic"]

def Chain.modelled (S : Chain) : Bool := !unmodelledRoles.contains S.role

def chainsOK (tbl : List Chain) : Bool :=
  tbl.all Chain.okCore && (tbl.filter Chain.modelled).map Chain.sig == expectedChains

/-! ### `Decider`: what a subtype test does with one class -/

/-- one `range` over the implements list of the class -/
structure ImplLoop where
  direct : Bool              -- `if target == s { return true }`
  walk : String              -- the interface walk called on `s` (`""`: none)
  argsOK : Bool              -- it is called as walk(s, target), not the other way round
  onMiss : Next              -- an implemented interface that does not reach the target
deriving DecidableEq, Repr

/-- where the test goes when the class itself does not answer -/
inductive Via where
  | call (f : String)        -- `return f(target, class.GetExtend(), …)`: another function walks the chain
  | loop                     -- the decider IS the body of a chain loop
  | recurse                  -- it calls itself on the parent class
  | none                     -- nowhere
  | other (src : String)
deriving DecidableEq, Repr

structure Decider where
  fn : String
  nameTest : Bool            -- `if target == class.GetName() { return true }`
  impls : List ImplLoop
  chain : Via
deriving DecidableEq, Repr

inductive Scan where
  | hit | dry | halt | fuel
deriving DecidableEq, Repr

def scanLoop (L : ImplLoop) (walk : String → Name → Name → Option Bool) (t : Name) : List Name → Scan
  | [] => .dry
  | s :: r =>
    if L.direct && t == s then .hit
    else if L.walk == "" then
      (match L.onMiss with
       | .stop => .halt
       | .next => scanLoop L walk t r)
    else
      match (if L.argsOK then walk L.walk s t else walk L.walk t s) with
      | none => .fuel
      | some true => .hit
      | some false =>
        (match L.onMiss with
         | .stop => .halt
         | .next => scanLoop L walk t r)

def scanAll (walk : String → Name → Name → Option Bool) (t : Name) (impl : List Name) : List ImplLoop → Scan
  | [] => .dry
  | L :: r =>
    match scanLoop L walk t impl with
    | .dry => scanAll walk t impl r
    | s => s

def visitD (D : Decider) (walk : String → Name → Name → Option Bool) (t : Name) (c : Cls) : Scan :=
  if D.nameTest && t == c.name then .hit else scanAll walk t c.impl D.impls

/-- the parent chain, every class examined by the decider `D`; a parent that cannot be loaded answers `miss` -/
def climbD (D : Decider) (walk : String → Name → Name → Option Bool) (G : Graph) (t : Name) (miss : R) :
    Nat → Option Name → R
  | _, none => .no
  | 0, some _ => .fuel
  | f+1, some e =>
    match getClass G e with
    | none => miss
    | some c =>
      match visitD D walk t c with
      | .hit => .yes
      | .halt => .no
      | .fuel => .fuel
      | .dry => climbD D walk G t miss f c.ext

/-- the whole test: the class itself by `D`, its ancestors by `Dc` -/
def decideD (D Dc : Decider) (walk : String → Name → Name → Option Bool) (G : Graph) (t : Name) (miss : R) (c : Cls) : R :=
  match visitD D walk t c with
  | .hit => .yes
  | .halt => .no
  | .fuel => .fuel
  | .dry =>
    match D.chain with
    | .none => .no
    | .other _ => .no
    | _ => climbD Dc walk G t miss (classFuel G) c.ext

def ImplLoop.walks (L : ImplLoop) : Bool := L.walk != "" && L.argsOK

def Decider.ok (D : Decider) : Bool :=
  D.nameTest && D.impls.any (·.direct) && D.impls.any ImplLoop.walks &&
  D.impls.all (fun L => L.onMiss == .next && (L.walk == "" || L.argsOK)) &&
  (match D.chain with
   | .none => false
   | .other _ => false
   | _ => true)

/-- the decider another one hands the parent chain to -/
def chainOf (tbl : List Decider) (D : Decider) : Option Decider :=
  match D.chain with
  | .call f => tbl.find? (fun X => X.fn == f && X.chain == .loop)
  | .recurse => some D
  | .loop => some D
  | _ => none

/-- every decider is well-shaped and hands the chain to a decider of the table -/
def decidersOK (tbl : List Decider) : Bool :=
  tbl.all (fun D => D.ok && (chainOf tbl D).isSome)

/-! ### which decider each construct reaches, what `parent::` / `static::` start from, state kept on AST nodes -/

/-- `site` calls the functions `calls` (of the deciders / walks in the tables above) -/
structure Route where
  site : String
  calls : List String
deriving DecidableEq, Repr

def expectedRoutes : List Route :=
  [ ⟨"data/type_class.go:Class.Is#ClassValue", ["isClassValueInstanceOf"]⟩,
    ⟨"data/type_class.go:Class.Is#ThisValue", ["extendISClass", "interfaceExtends"]⟩,
    ⟨"data/type_class.go:Class.Is#ThrowValue", ["isClassValueInstanceOf"]⟩,
    ⟨"data/type_class.go:extendISClass", ["interfaceExtends"]⟩,
    ⟨"data/type_class.go:isClassValueInstanceOf", ["extendISClass", "interfaceExtends"]⟩,
    ⟨"node/class.go:checkClassIs", ["checkClassIs", "checkInterfaceIs"]⟩,
    ⟨"node/instanceof.go:instanceof", ["checkClassIs"]⟩,
    ⟨"node/try.go:catchTypeMatches", ["Is"]⟩ ]

/-- the order in which a site picks the class it resolves `parent::` / `static::` against: the first field of the
method context that is set -/
structure Base where
  fn : String
  order : List String
deriving DecidableEq, Repr

/-- the fields of `data.ClassMethodContext` a base can come from, plus the class name the parser recorded -/
inductive Src where
  | selfClass | staticClass | currentClass | cls
deriving DecidableEq, Repr

def Src.ofString : String → Option Src
  | "SelfClass" => some .selfClass
  | "StaticClass" => some .staticClass
  | "CurrentClass" => some .currentClass
  | "Class" => some .cls
  | _ => none

/-- `CurrentClass` is used only if it is registered and has a parent (`CallParentMethod.GetValue`) -/
def Src.get (G : Graph) (ctx : Ctx) (cur : Name) : Src → Option Cls
  | .selfClass => ctx.selfC
  | .staticClass => ctx.staticC
  | .currentClass =>
    match getClass G cur with
    | some c => if c.ext.isSome then some c else none
    | none => none
  | .cls => some ctx.cls

def baseOf (G : Graph) (ctx : Ctx) (cur : Name) : List String → Option Cls
  | [] => none
  | s :: r =>
    match Src.ofString s with
    | none => none
    | some src =>
      match src.get G ctx cur with
      | some c => some c
      | none => baseOf G ctx cur r

def expectedBases : List Base :=
  [ ⟨"node/call_parent_method.go:CallParentMethod.GetValue", ["SelfClass", "CurrentClass", "Class"]⟩,
    ⟨"node/call_static_keyword_method.go:CallStaticKeywordMethod.GetValue", ["StaticClass", "Class"]⟩ ]

/-- an assignment to a field of an AST node made while the program runs -/
structure NodeWrite where
  fn : String
  field : String
deriving DecidableEq, Repr

/-- `CallStaticMethodLater.call` caches the resolution of the class NAME written in the source: a function of the
node's own constants, the same for every runtime class that reaches the site -/
def allowedNodeWrites : List NodeWrite :=
  [ ⟨"node/call_static_method.go:CallStaticMethodLater.resolveCall", "call"⟩ ]

def nodeWritesOK (ws : List NodeWrite) : Bool := ws.all (fun w => allowedNodeWrites.contains w)

/-- a call site that runs for the runtime classes `cs` in turn; with `memo` the first answer found by walking is kept on
the node and given to every later class that does not declare the member itself -/
def siteRun {α : Type} (memo : Bool) (own : Cls → Option α) (look : Cls → Option α) : Option α → List Cls → List (Option α)
  | _, [] => []
  | m, c :: r =>
    match own c with
    | some x => some x :: siteRun memo own look m r
    | none =>
      match (if memo then m else none) with
      | some x => some x :: siteRun memo own look m r
      | none => look c :: siteRun memo own look (if memo then look c else none) r

end Model.HierShape
