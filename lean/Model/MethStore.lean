import Model.Meth
/-!
C15 — the callback-taking array methods (`forEach`, `map`, `filter`, `find`,
`findIndex`, `every`, `some`, `flatMap`, `reduce`) at the level of the storage
they work on, as coded in `data/value_array_*.go` (with fix
C15-callback-invocation applied).

What the Go code has in its hands during one call:

* `recv` — the receiver variable's slots (`a.source`).  Script code can reach
  them while the method runs: a callback that captured the receiver by
  reference may replace any of them.
* `snap` — `sourceValues := tempArray.ToValueList()`, a slice of the
  receiver's values taken when the method starts.  It is private to the
  method, it is what the loop ranges over, and it is re-wrapped with
  `NewArrayValue(sourceValues)` for the callback's array argument at **every**
  invocation — so whatever is stored in `snap` between two invocations is what
  the next invocation sees.
* the result buffer of `map` / `filter` / `flatMap`.  `OutBuf` says where it
  lives: `fresh` (`var result []Value`, `make([]Value, n)` — storage of its
  own, what the code does), `inSnap` (`result := sourceValues[:0]`, the "filter
  in place" idiom: element `k` of the result is written to `snap[k]`) or
  `inRecv` (carved out of the receiver's slots).

`Model.Meth` gives the callback an immutable list; here the callback gets
whatever `snap` holds at the moment of the invocation, and may itself replace
the receiver.  `Proofs/Lemmas/MethStore.lean` and `Proofs/Properties/C15.lean` show that with a `fresh` result
buffer nothing the method writes can be seen through the callback's arguments
(`Model.MethStore.run .fresh` = the loops of `Model.Meth`), and that the two
aliased layouts are observably different.
-/
namespace Model.MethStore
open Model.Meth

/-- where the result buffer of map / filter / flatMap lives -/
inductive OutBuf where
  | fresh
  | inSnap
  | inRecv
  deriving DecidableEq, Repr

/-- the nine callback-taking methods -/
inductive Kind where
  | forEach | map | filter | find | findIndex | every | someP | flatMap | reduce
  deriving DecidableEq, Repr

/-- the storage during one call; `k` = `len(result)` -/
structure St where
  recv : List Val
  snap : List Val
  out : List Val
  k : Nat
  deriving Repr

/-- `buf = append(buf[:k], v)` while `k < cap` (the slot is overwritten in place);
beyond the end the model simply extends the list (Go would move the result to a
new backing array there — not reached by `filter`, whose `k` never exceeds the
number of elements already visited). -/
def writeAt (l : List Val) (k : Nat) (v : Val) : List Val :=
  if k < l.length then l.set k v else l.take k ++ [v]

/-- one element appended to the result -/
def emit (b : OutBuf) (st : St) (v : Val) : St :=
  match b with
  | .fresh => { st with out := st.out ++ [v], k := st.k + 1 }
  | .inSnap => { st with snap := writeAt st.snap st.k v, k := st.k + 1 }
  | .inRecv => { st with recv := writeAt st.recv st.k v, k := st.k + 1 }

def emitAll (b : OutBuf) (st : St) (vs : List Val) : St := vs.foldl (emit b) st

/-- the result buffer read back -/
def result (b : OutBuf) (st : St) : List Val :=
  match b with
  | .fresh => st.out
  | .inSnap => st.snap.take st.k
  | .inRecv => st.recv.take st.k

/-- what one invocation is given -/
structure Inv where
  acc : Val          -- reduce: the accumulator; `null` for the other methods
  el : Val
  idx : Nat
  arr : List Val
  deriving Repr

/-- a callback as script code: it sees its arguments and the receiver as it can reach it
now (through a captured reference); it answers a value and the receiver afterwards.
Everything else it may touch — its own copies of the arguments — is invisible to the method. -/
abbrev ECb := Inv → List Val → Val × List Val

/-- one observed invocation: the arguments and the receiver as the callback found it -/
structure Ev where
  inv : Inv
  recv : List Val
  deriving Repr

/-- `AsBool` of a predicate's answer, for the answers the model covers: real booleans
(a missing result is `null`, not true). -/
def truthy : Val → Bool
  | .bool true => true
  | _ => false

inductive Next where
  | cont (st : St) (acc : Val)
  | stop (st : St) (ret : Val)

/-- the storage after one step, whichever way the method goes on -/
def Next.st : Next → St
  | .cont st _ => st
  | .stop st _ => st

/-- what the method does with the callback's answer `r` for element `el` at index `i` -/
def consume (b : OutBuf) (kind : Kind) (st : St) (acc el : Val) (i : Nat) (r : Val) : Next :=
  match kind with
  | .forEach => .cont st acc
  | .map => .cont (emit b st r) acc
  | .filter => .cont (if truthy r then emit b st el else st) acc
  | .flatMap => .cont (emitAll b st (spread r)) acc
  | .find => if truthy r then .stop st el else .cont st acc
  | .findIndex => if truthy r then .stop st (.int i) else .cont st acc
  | .every => if truthy r then .cont st acc else .stop st (.bool false)
  | .someP => if truthy r then .stop st (.bool true) else .cont st acc
  | .reduce => .cont st r

/-- the value returned when the loop runs to its end -/
def finish (b : OutBuf) (kind : Kind) (st : St) (acc : Val) : Val :=
  match kind with
  | .forEach => .null
  | .find => .null
  | .map => .list (result b st)
  | .filter => .list (result b st)
  | .flatMap => .list (result b st)
  | .findIndex => .int (-1)
  | .every => .bool true
  | .someP => .bool false
  | .reduce => acc

/-- `for i := start; i < n; i++`: the element is read from `snap[i]` when its turn comes, the
callback gets `NewArrayValue(snap)` as `snap` is then.  `none` = index out of range (Go panic). -/
def loop (b : OutBuf) (kind : Kind) (cb : ECb) : Nat → Nat → St → Val → Option (Val × St × List Ev)
  | 0, _, st, acc => some (finish b kind st acc, st, [])
  | fuel + 1, i, st, acc =>
    match st.snap[i]? with
    | none => none
    | some el =>
      let inv : Inv := ⟨acc, el, i, st.snap⟩
      let ev : Ev := ⟨inv, st.recv⟩
      match consume b kind { st with recv := (cb inv st.recv).2 } acc el i (cb inv st.recv).1 with
      | .stop st' ret => some (ret, st', [ev])
      | .cont st' acc' =>
        match loop b kind cb fuel (i + 1) st' acc' with
        | none => none
        | some (v, s, t) => some (v, s, ev :: t)

/-- one call.  `args` are the arguments after the callback (reduce's initial value). -/
def run (b : OutBuf) (kind : Kind) (cb : ECb) (xs args : List Val) : Option (Val × St × List Ev) :=
  let st : St := ⟨xs, xs, [], 0⟩
  match kind with
  | .reduce =>
    if given (slot args 0) then loop b kind cb xs.length 0 st (slot args 0)
    else match xs with
      | [] => some (.null, st, [])
      | a :: _ => loop b kind cb (xs.length - 1) 1 st a
  | _ => loop b kind cb xs.length 0 st .null

/-- the answer in the shape of `Model.Meth.Res`: returned value and receiver afterwards -/
def runRes (b : OutBuf) (kind : Kind) (cb : ECb) (xs args : List Val) : Res :=
  match run b kind cb xs args with
  | none => .crash
  | some (v, st, _) => .ok ⟨v, st.recv⟩

/-- the invocations of one call -/
def trace (b : OutBuf) (kind : Kind) (cb : ECb) (xs args : List Val) : List Ev :=
  match run b kind cb xs args with
  | none => []
  | some (_, _, t) => t

/-! ## callbacks without effects, as `Model.Meth` has them -/

def ofCb (f : Cb) : ECb := fun inv recv => (f inv.el inv.idx inv.arr, recv)
def ofPred (p : Pred) : ECb := fun inv recv => (.bool (p inv.el inv.idx inv.arr), recv)
def ofCb4 (f : Cb4) : ECb := fun inv recv => (f inv.acc inv.el inv.idx inv.arr, recv)

end Model.MethStore
