/-
C10 — abstract model of the lock protocol around the registry maps of
`runtime/vm.go` (`VM.mu sync.RWMutex` guarding classMap / interfaceMap / funcMap /
constantMap / globalVars / phpFileCache / compiledFiles).

Threads (goroutines: `spawn`, HTTP handlers) execute *sections*
    acquire mode ; access₁ ; … ; accessₙ ; release
where `mode` is the lock the Go method holds around the accesses
(`none` = the method touches the maps with no lock, `R` = `RLock … RUnlock`,
`W` = `Lock … Unlock`).  An access has a duration (a `begin` step and an `end`
step, the effect on the store happens at `end`), so that "two goroutines are
inside conflicting accesses of the same map at the same time" — what the Go
runtime turns into `fatal error: concurrent map writes` and the race detector
into a report — is a state of the model.

Modelled-not-verified (trusted): `sync.RWMutex` as coded here — `Lock` is
enabled only when there is no writer and no reader, `RLock` only when there is
no writer (Go additionally blocks new readers while a writer is *waiting*; the
model allows strictly more schedules, which is sound for the safety theorems);
the Go memory model ("no two conflicting accesses overlap" ⇒ the accesses behave
atomically).

The number of threads is not bounded: thread ids are all of `Nat`, a thread
with an empty program never moves.  A schedule is a list of thread ids; a
choice whose step is not enabled (lock not available, nothing left to do) is a
stutter.
-/
namespace Model.RW

abbrev Tid := Nat
/-- a registry map (`"classMap"`, …) -/
abbrev MapId := String

inductive Mode | none | R | W
deriving DecidableEq, Repr, Inhabited

inductive Kind | rd | wr
deriving DecidableEq, Repr, Inhabited

/-- does holding `m` allow an access of kind `k` to a shared map? -/
def permits : Mode → Kind → Bool
  | .W, _ => true
  | .R, .rd => true
  | _, _ => false

/-- One access to a map.  `L` = the goroutine's private state (arguments,
results so far), `S` = the shared store.  A read cannot change the store *by
type*; a write may read and change it. -/
inductive Acc (L S : Type)
  | rd (m : MapId) (f : L → S → L)
  | wr (m : MapId) (f : L → S → L × S)

namespace Acc
variable {Λ L S : Type}
def map : Acc L S → MapId
  | .rd m _ => m
  | .wr m _ => m
def kind : Acc L S → Kind
  | .rd _ _ => .rd
  | .wr _ _ => .wr
/-- effect of the access (takes place at its `end` step) -/
def apply : Acc L S → L × S → L × S
  | .rd _ f, (l, s) => (f l s, s)
  | .wr _ f, (l, s) => f l s
end Acc

structure Sec (Λ L S : Type) where
  /-- which operation this section is (ignored by the lock semantics) -/
  lbl : Λ
  mode : Mode
  accs : List (Acc L S)

/-- sequential effect of a list of accesses -/
def execAccs {L S : Type} : List (Acc L S) → L × S → L × S
  | [], p => p
  | a :: rest, p => execAccs rest (a.apply p)

/-- every access of the section is allowed by the lock it holds -/
def Sec.ok {Λ L S : Type} (sec : Sec Λ L S) : Prop := ∀ a ∈ sec.accs, permits sec.mode a.kind = true

inductive Pc (Λ L S : Type)
  | idle
  | held (sec : Sec Λ L S) (rest : List (Acc L S))
  | inAcc (sec : Sec Λ L S) (a : Acc L S) (rest : List (Acc L S))

/-- lock mode a thread currently holds -/
def Pc.mode {Λ L S : Type} : Pc Λ L S → Mode
  | .idle => .none
  | .held sec _ => sec.mode
  | .inAcc sec _ _ => sec.mode

structure Thread (Λ L S : Type) where
  pc : Pc Λ L S
  loc : L
  prog : List (Sec Λ L S)

structure State (Λ L S : Type) where
  writer : Option Tid
  readers : List Tid
  store : S
  thr : Tid → Thread Λ L S
  /-- ghost: completed sections in the order of their release -/
  log : List (Tid × Sec Λ L S)

def upd {α : Type} (f : Tid → α) (t : Tid) (v : α) : Tid → α :=
  fun x => if x = t then v else f x

variable {Λ L S : Type}

/-- try to enter the next section `sec` (acquire its lock) -/
def enter (s : State Λ L S) (t : Tid) (sec : Sec Λ L S) (more : List (Sec Λ L S)) : State Λ L S :=
  let th := s.thr t
  let s' : State Λ L S := { s with thr := upd s.thr t { th with pc := .held sec sec.accs, prog := more } }
  match sec.mode with
  | .none => s'
  | .R => if s.writer = Option.none then { s' with readers := t :: s.readers } else s
  | .W => if s.writer = Option.none ∧ s.readers = [] then { s' with writer := some t } else s

/-- leave the section (release its lock) and log it -/
def leave (s : State Λ L S) (t : Tid) (sec : Sec Λ L S) : State Λ L S :=
  let th := s.thr t
  let s' : State Λ L S := { s with thr := upd s.thr t { th with pc := .idle }, log := s.log ++ [(t, sec)] }
  match sec.mode with
  | .none => s'
  | .R => { s' with readers := s.readers.erase t }
  | .W => { s' with writer := Option.none }

/-- one step of thread `t` (a stutter when nothing is enabled) -/
def step (s : State Λ L S) (t : Tid) : State Λ L S :=
  let th := s.thr t
  match th.pc with
  | .idle =>
    match th.prog with
    | [] => s
    | sec :: more => enter s t sec more
  | .held sec (a :: rest) => { s with thr := upd s.thr t { th with pc := .inAcc sec a rest } }
  | .held sec [] => leave s t sec
  | .inAcc sec a rest =>
    let p := a.apply (th.loc, s.store)
    { s with store := p.2, thr := upd s.thr t { th with pc := .held sec rest, loc := p.1 } }

def run (s : State Λ L S) (sched : List Tid) : State Λ L S := sched.foldl step s

/-- initial state: lock free, every thread between sections -/
def mkInit (store : S) (loc : Tid → L) (prog : Tid → List (Sec Λ L S)) : State Λ L S :=
  { writer := Option.none, readers := [], store := store,
    thr := fun t => { pc := .idle, loc := loc t, prog := prog t }, log := [] }

/-- the access a thread is inside of, if any -/
def Pc.cur : Pc Λ L S → Option (Acc L S)
  | .inAcc _ a _ => some a
  | _ => Option.none

/-- two different threads are simultaneously inside accesses of the same map,
at least one of them a write — Go: `concurrent map writes` / `concurrent map
read and map write` / a race report. -/
def Conflict (s : State Λ L S) (t1 t2 : Tid) : Prop :=
  t1 ≠ t2 ∧ ∃ a1 a2, (s.thr t1).pc.cur = some a1 ∧ (s.thr t2).pc.cur = some a2 ∧
    a1.map = a2.map ∧ (a1.kind = .wr ∨ a2.kind = .wr)

/-- decidable version for concrete states -/
def conflictB (s : State Λ L S) (t1 t2 : Tid) : Bool :=
  t1 != t2 &&
  match (s.thr t1).pc.cur, (s.thr t2).pc.cur with
  | some a1, some a2 => a1.map == a2.map && (a1.kind == .wr || a2.kind == .wr)
  | _, _ => false

/-- the sequential reading of a log: run each logged section completely, one
after the other, on the store and on its thread's private state -/
def seqStep (p : S × (Tid → L)) (e : Tid × Sec Λ L S) : S × (Tid → L) :=
  let r := execAccs e.2.accs (p.2 e.1, p.1)
  (r.2, upd p.2 e.1 r.1)

def seqExec (log : List (Tid × Sec Λ L S)) (p : S × (Tid → L)) : S × (Tid → L) :=
  log.foldl seqStep p

/-- sections of thread `t` in a log, in order -/
def logOf (log : List (Tid × Sec Λ L S)) (t : Tid) : List (Sec Λ L S) :=
  (log.filter (fun e => e.1 == t)).map (·.2)

/-- the section a thread is inside of -/
def Pc.sec : Pc Λ L S → List (Sec Λ L S)
  | .idle => []
  | .held sec _ => [sec]
  | .inAcc sec _ _ => [sec]

/-- accesses of the current section still to be executed -/
def Pc.todo : Pc Λ L S → List (Acc L S)
  | .idle => []
  | .held _ rest => rest
  | .inAcc _ a rest => a :: rest

/-- is some step enabled for thread `t`? -/
def enabled (s : State Λ L S) (t : Tid) : Bool :=
  match (s.thr t).pc with
  | .idle =>
    match (s.thr t).prog with
    | [] => false
    | sec :: _ =>
      match sec.mode with
      | .none => true
      | .R => s.writer.isNone
      | .W => s.writer.isNone && s.readers.isEmpty
  | _ => true

/-! ## Facts regenerated from `runtime/vm.go` (see `extract/c10`) -/

/-- one access to a registry map inside a method of `*VM`, with the lock mode
held at that program point -/
structure Fact where
  method : String
  map : MapId
  kind : Kind
  held : Mode
deriving DecidableEq, Repr

/-- a call made while `vm.mu` is held.  `cls`: `"loader"` (can reach
`LoadClass`/autoload/parse/run and so re-enter the registry), `"reentrant"`
(a `*VM` method that itself takes `vm.mu`), `"other"`. -/
structure HeldCall where
  method : String
  callee : String
  held : Mode
  cls : String
deriving DecidableEq, Repr

def Fact.bad (f : Fact) : Bool := !permits f.held f.kind
def HeldCall.bad (c : HeldCall) : Bool := c.cls == "loader" || c.cls == "reentrant"

/-- what the obligation forbids, as readable strings -/
def violations (facts : List Fact) (calls : List HeldCall) (shape : List String) : List String :=
  (facts.filter Fact.bad).map (fun f =>
      f.method ++ ":" ++ f.map ++ ":" ++ (if f.kind == .wr then "write" else "read") ++ "-under-" ++
        (match f.held with | .none => "no-lock" | .R => "RLock" | .W => "Lock")) ++
  (calls.filter HeldCall.bad).map (fun c => c.method ++ ":calls-" ++ c.callee ++ "-while-holding:" ++ c.cls) ++
  shape.map (fun w => "shapeChanged:" ++ w)

/-- the lock a method holds around its accesses of the maps: the weakest mode
over its facts (`none` if it has an unlocked access or no recorded access at all) -/
def weakest : Mode → Mode → Mode
  | .none, _ => .none
  | _, .none => .none
  | .R, _ => .R
  | _, .R => .R
  | .W, .W => .W

def methodMode (facts : List Fact) (m : String) : Mode :=
  match facts.filter (fun f => f.method == m) with
  | [] => .none          -- unknown method: nothing is known about its locking
  | f :: fs => fs.foldl (fun acc g => weakest acc g.held) f.held

def methodWrites (facts : List Fact) (m : String) : Bool :=
  facts.any (fun f => f.method == m && f.kind == .wr)

end Model.RW
