import Model.Ser
/-!
# Model.ReaderOrder (C14, round 7): several readers of one input, tried in order

A decoder that keeps a compatibility branch (a prefix sniff, a magic marker, a "looks like JSON" test) next to
its exact reader is a *list of readers tried in order*: each either answers (`some r`, final) or declines (`none`,
the next one is asked). When the grammar of a later reader is embedded in the VALUE space of the exact one — the
legacy wrapper `s:<len>:"__origami_a:<json>";` is at the same time the exact serialization of the string
`__origami_a:<json>` — the order decides whether `decode ∘ encode` is the identity.

* `decode rs dflt t`: the first answer in `rs`, `dflt` when every reader declines.
* `emptyR`, `exactR`, `legacyR`: the three steps of `UnserializeFunction.Call` (std/php/unserialize.go) in the
  vocabulary of `Model.Ser`; `Model.Ser.unserializeT` is `decode [emptyR, exactR, legacyR] .false`
  (`C14.C14_unserialize_is_ordered_readers`).
* `sniffFirstR`: the compatibility branch written so that it can stand BEFORE the exact reader (answers only when it
  recognises a wrapper, declines otherwise) — the order of the seeded change.
* `ReaderStep`: one row of the regenerated fact `Generated.C14Readers.readers` (extract/c14/order.go): the top-level
  `if strings.HasPrefix(raw, …) { … }` statements of `Call` in source order, each classified by what its body does.
* `orderOK`: the decidable obligation on that list.
-/
namespace Model.ReaderOrder
open Model.Ser

/-- readers tried in order; `none` = "not mine" -/
def decode {T R : Type} : List (T → Option R) → R → T → R
  | [], dflt, _ => dflt
  | r :: rest, dflt, t =>
      match r t with
      | some x => x
      | none => decode rest dflt t

/-- `if raw == "" { return false }` -/
def emptyR (raw : Bytes) : Option Out := if raw = [] then some .false else none

/-- the gated exact reader: `if HasPrefix(raw, "N;") || … { if v, ok := parsePhpSerializedValue(raw); ok { return v } }` -/
def exactR (raw : Bytes) : Option Out :=
  match (if knownPrefix raw then parseAll raw else none) with
  | some v => some (.value v)
  | none => none

/-- the compatibility branch as it stands in the pinned code: final for every input that starts with `s:` -/
def legacyR (raw : Bytes) : Option Out :=
  if startsWith [115, 58] raw then some (legacyStr raw) else none

/-- the compatibility branch in a form that can be placed first: answers on a wrapper, declines otherwise -/
def sniffFirstR (raw : Bytes) : Option Out :=
  if startsWith [115, 58] raw then
    match legacyStr raw with
    | .legacy => some .legacy
    | _ => none
  else none

/-- one top-level reader attempt of `Call`, as the translator reports it -/
structure ReaderStep where
  /-- `exact`: the body hands the text to the package's own recursive-descent reader and compares it with no literal;
  `sniff`: the body compares (a part of) the text with string literals; `mixed`: both; `other`: neither -/
  kind : String
  /-- the prefixes of the `if` -/
  gate : List String
  /-- the literals the body compares with -/
  markers : List String
  /-- `final`: every path through the body returns; `falls`: the next statement can be reached -/
  tail : String
deriving DecidableEq, Repr

/-- the pinned code -/
def pinned : List ReaderStep := [
  { kind := "exact", gate := ["N;", "b:", "i:", "d:", "s:", "a:"], markers := [], tail := "falls" },
  { kind := "sniff", gate := ["s:"], markers := ["__origami_a:", "__origami_o:"], tail := "final" }]

/-- **the order obligation**: the first reader is the exact one behind the model's gate, and nothing but sniffing
readers follow it (no second exact reader, no step the translator could not classify) -/
def orderOK : List ReaderStep → Bool
  | [] => false
  | r :: rest => r.kind == "exact" && r.gate == ["N;", "b:", "i:", "d:", "s:", "a:"] && r.markers.isEmpty &&
      rest.all (fun s => s.kind == "sniff")

/-- what a row denotes: the exact reader for `exact`, whatever the caller supplies for the others -/
def denote (sn : ReaderStep → Bytes → Option Out) (s : ReaderStep) : Bytes → Option Out :=
  if s.kind = "exact" then exactR else sn s

end Model.ReaderOrder
