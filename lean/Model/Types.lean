import Model.Access
/-!
# C07 — executable model of the declared-type tests (`data.Types.Is`) and of the three boundaries

Mirrors:

* `data/type_int.go Int.Is`, `data/type_string.go String.Is`, `data/type_array.go Arrays.Is`
  (`*ArrayValue` and `*ObjectValue`: a string-keyed array literal is an `ObjectValue`),
  `data/type_class.go Class.Is` (arm `*ClassValue` → `isA`, parameter of the model; arm `*ArrayValue` only for
  the name `iterable`, which the fixtures do not declare), `data/types.go NullableType.Is`, `UnionType.Is`
  → `accepts`;
* the boundaries → `Boundary`, `admits`:
  - typed property store `node/call_object_property.go SetValue` / `call_object_dynamic_property.go SetValue`:
    `property.GetType() != nil && !property.GetType().Is(value)` ⇒ error → `exact`;
  - parameter binding `node/function.go Parameter.SetValue`: `Is`, else `null` only when `p.nullAllowed()` — the
    parameter's default value is `null` (`T $x = null`, PHP's implicit nullable: the declared type then *is*
    `?T`) or the parameter belongs to a built-in (Go) function (no source position) — else error. A parameter
    declared in a script without a `null` default, which is what the boundaries `fnParam` … `promotedParam` are
    about, is → `exact`. (Before `fixes/C07-4-*`: `null` was let through for every declared type → `nullAlso`.)
  - function return `node/function.go`: `f.Ret.Is(ret)` else error → `exact`;
  - method return `node/class.go ClassMethod.Call`: `m.Ret.Is(ret)` else error → `exact` (before
    `fixes/C07-5-*` a `null` was *replaced by ""* and returned → `nullAlso`);
  - `$o['p'] = v`: `prop.GetType().Is(value)` else error → `exact` (before `fixes/C07-6-*`: `unchecked`);
    `A::$p = v` stores without looking at the declared type → `unchecked`;
  - the return type of a closure / arrow function is dropped by `NewLambdaExpression` → `unchecked`.
  Which kind a boundary has is regenerated by the translator (`Generated.C07Access.boundary`).
-/
namespace Model.Types
open Model.Access (Name Hier)

/-- runtime value kinds (`data.Value` implementations the fixtures produce) -/
inductive ValKind where
  | int | str | arr | assoc | null | float | bool
  | obj (cls : Name)
deriving DecidableEq, Repr, Inhabited

/-- declared types: `int`, `string`, `array`, a class/interface name, `?T`, `T1|T2|…` -/
inductive Ty where
  | int | str | arr
  | cls (n : Name)
  | nullable (t : Ty)
  | union (ts : List Ty)
deriving Repr, Inhabited

mutual
/-- `Types.Is(value)`; `isA c t`: `isClassValueInstanceOf(t, class c)` -/
def accepts (isA : Name → Name → Bool) : Ty → ValKind → Bool
  | .int, v => (match v with | .int => true | _ => false)
  | .str, v => (match v with | .str => true | _ => false)
  | .arr, v => (match v with | .arr => true | .assoc => true | _ => false)
  | .cls n, v => (match v with | .obj c => isA c n | _ => false)
  | .nullable t, v => (match v with | .null => true | _ => accepts isA t v)
  | .union ts, v => acceptsAny isA ts v
/-- `for _, t := range u.Types { if t.Is(value) { return true } }; return false` -/
def acceptsAny (isA : Name → Name → Bool) : List Ty → ValKind → Bool
  | [], _ => false
  | t :: r, v => accepts isA t v || acceptsAny isA r v
end

/-- what a boundary does with the declared type -/
inductive BKind where
  | exact      -- `Is` or error
  | nullAlso   -- `null` passes whatever the type is, otherwise `Is` or error
  | unchecked  -- the declared type is not looked at
  | shapeChanged
deriving DecidableEq, Repr, Inhabited

/-- does the boundary let value `v` into a slot declared `t` -/
def admits (isA : Name → Name → Bool) (k : BKind) (t : Ty) (v : ValKind) : Bool :=
  match k with
  | .exact => accepts isA t v
  | .nullAlso => (match v with | .null => true | _ => accepts isA t v)
  | .unchecked => true
  | .shapeChanged => false

/-! ### a typed slot crossed repeatedly within one VM

`Types.Is` reads the value and the declared type only; neither the property declaration nor the parameter
keeps a record of earlier crossings. A slot (`none`: never stored) that is stored into repeatedly: -/

def storeStep (isA : Name → Name → Bool) (k : BKind) (t : Ty) (slot : Option ValKind) (v : ValKind) :
    Bool × Option ValKind :=
  if admits isA k t v then (true, some v) else (false, slot)

def storeRun (isA : Name → Name → Bool) (k : BKind) (t : Ty) : Option ValKind → List ValKind → List Bool × Option ValKind
  | slot, [] => ([], slot)
  | slot, v :: rest =>
    let r := storeStep isA k t slot v
    let rr := storeRun isA k t r.2 rest
    (r.1 :: rr.1, rr.2)

/-- the boundaries of the pinned tree after the C07 fixes -/
inductive Boundary where
  | propStore      -- `$o->p = v`, `$this->p = v`
  | dynPropStore   -- `$o->$n = v`
  | idxStore       -- `$o['p'] = v`
  | staticStore    -- `A::$p = v`
  | fnParam        -- `f(v)`
  | methParam      -- `$o->m(v)`
  | staticParam    -- `A::m(v)`
  | ctorParam      -- `new A(v)`
  | fnReturn       -- `function f(): T { return v; }`
  | methReturn     -- `$o->m()` with `: T`
  | closureParam   -- `(function (T $x) {…})(v)`, `(fn (T $x) => …)(v)`
  | closureReturn  -- `function (…): T {…}`, `fn (…): T => …`
  | promotedParam  -- `new A(v)` for `__construct(public T $p)`
  | variadicParam  -- every argument collected by `T ...$xs` (function, method, static method, constructor, closure)
deriving DecidableEq, Repr, Inhabited

def Boundary.all : List Boundary :=
  [.propStore, .dynPropStore, .idxStore, .staticStore, .fnParam, .methParam, .staticParam, .ctorParam,
   .fnReturn, .methReturn, .closureParam, .closureReturn, .promotedParam, .variadicParam]

def pinnedKind : Boundary → BKind
  | .propStore | .dynPropStore | .fnReturn | .idxStore
  | .fnParam | .methParam | .staticParam | .ctorParam | .methReturn | .closureParam | .promotedParam
  | .variadicParam => .exact
  | .staticStore | .closureReturn => .unchecked

/-- the boundaries before the second round of repairs -/
def pinnedKindBefore : Boundary → BKind
  | .propStore | .dynPropStore | .fnReturn => .exact
  | .fnParam | .methParam | .staticParam | .ctorParam | .methReturn | .closureParam | .promotedParam => .nullAlso
  | .idxStore | .staticStore | .closureReturn | .variadicParam => .unchecked

/-! ### several typed slots crossed by ONE call, one statement sequence, one destructuring assignment

A callable with parameters `T₀ $a₀, …, Tₙ $aₙ` is entered through a loop over the parameters
(`node/call.go CallExpression.GetValue`, `node/new.go createInstanceFromClassStmt`,
`node/call_object_method.go callMethodParams`, `node/call_method.go handleFuncValue`): each iteration evaluates
the argument (functions, constructors, closures, static methods) or takes the already evaluated one (methods:
every argument is evaluated before the first is bound), binds it — `Parameter.SetValue`, which is `admits` — and
looks at the result **inside the loop** before it goes on: `if acl != nil { return nil, acl }`. After the loop
the callee's body runs. Named arguments are put into parameter order first (`resolveNamedArguments`), so the
slots below are in parameter order whatever the order at the call.

Whether the test sits inside the loop is regenerated by the translator (`Generated.C07Access.bindLoops`): a loop
that tests `acl` only after its last iteration keeps the result of the LAST parameter and nothing else. -/

/-- an argument expression yields a value, throws, or is not there at all although the parameter needs one -/
inductive Arg where
  | val (v : ValKind)
  | throws
  | missing
deriving DecidableEq, Repr, Inhabited

/-- one parameter together with what the call hands to it -/
structure Slot where
  k : BKind
  t : Ty
  a : Arg
deriving Repr, Inhabited

inductive CallOut where
  | ran                 -- every slot was bound; the callee's body runs (once)
  | rejected (i : Nat)  -- slot `i` refused what it was handed; the body does not run
  | raised (i : Nat)    -- evaluating argument `i` threw; the body does not run
  | shapeChanged
deriving DecidableEq, Repr, Inhabited

/-- what the loop does with the result of binding one parameter -/
inductive LoopShape where
  | eachChecked   -- `acl = bind(i); if acl != nil { return nil, acl }` inside the loop
  | lastOnly      -- `acl = bind(i)` inside, the test after the loop: iteration `i+1` overwrites the result of `i`
  | shapeChanged
deriving DecidableEq, Repr, Inhabited

/-- binding slot `i`: `none` = fine -/
def bindStep (isA : Name → Name → Bool) (i : Nat) (s : Slot) : Option CallOut :=
  match s.a with
  | .throws => some (.raised i)
  | .missing => some (.rejected i)
  | .val v => if admits isA s.k s.t v then none else some (.rejected i)

/-- `for i, param := range params { acl = bind(i); if acl != nil { return nil, acl } }; body` -/
def bindEach (isA : Name → Name → Bool) : Nat → List Slot → CallOut
  | _, [] => .ran
  | i, s :: r =>
    match bindStep isA i s with
    | some o => o
    | none => bindEach isA (i+1) r

/-- `for i, param := range params { acl = bind(i) }; if acl != nil { return nil, acl }; body` -/
def bindLast (isA : Name → Name → Bool) : Nat → Option CallOut → List Slot → CallOut
  | _, acl, [] => (match acl with | some o => o | none => .ran)
  | i, _, s :: r => bindLast isA (i+1) (bindStep isA i s) r

def bindArgs (sh : LoopShape) (isA : Name → Name → Bool) (slots : List Slot) : CallOut :=
  match sh with
  | .eachChecked => bindEach isA 0 slots
  | .lastOnly => bindLast isA 0 none slots
  | .shapeChanged => .shapeChanged

/-- the first argument whose evaluation throws -/
def firstThrow : Nat → List Slot → Option Nat
  | _, [] => none
  | i, s :: r => (match s.a with | .throws => some i | _ => firstThrow (i+1) r)

/-- `callMethodParams`: every argument is evaluated first (the first throw ends the call), then the loop binds -/
def bindEvalFirst (sh : LoopShape) (isA : Name → Name → Bool) (slots : List Slot) : CallOut :=
  match firstThrow 0 slots with
  | some i => .raised i
  | none => bindArgs sh isA slots

/-- how often the callee's body ran -/
def CallOut.bodyRuns : CallOut → Nat
  | .ran => 1
  | _ => 0

/-- the slot is handed a value and lets it in -/
def Slot.fine (isA : Name → Name → Bool) (s : Slot) : Bool :=
  match s.a with
  | .val v => admits isA s.k s.t v
  | _ => false

/-- Several typed properties written one after the other (`$o->a = x; $o->b = y; …`, `[$o->a, $o->b] = [x, y]`,
the body of a method or constructor): every store goes through `storeStep`; the first refusal raises, so nothing
after it is executed. Result: the index of the refused store (if any) and the slots afterwards. -/
def storeSeq (isA : Name → Name → Bool) : Nat → List (BKind × Ty × ValKind) → Option Nat × List (Option ValKind)
  | _, [] => (none, [])
  | i, (k, t, v) :: r =>
    if admits isA k t v then
      let rr := storeSeq isA (i+1) r
      (rr.1, some v :: rr.2)
    else (some i, none :: r.map (fun _ => none))

end Model.Types
