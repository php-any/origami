import Model.Emit
import Model.EmitCtx
/-!
# C16 — what is on record by hand about the struct table and the handlers' uses of the generator

The fields a handler or a reflective literal may leave out (`derivedFields`, `knownDropped`, `allowed`) and the
prints of a per-file value of the generator (`knownCtxEmits`), most entries with their reason. That an entry is
justified was decided by reading the code; it is not proved. What is machine-checked (by kernel evaluation, in
`Proofs/Lemmas/EmitObl.lean`; stated in `Proofs/Properties/C16.lean`) is that the regenerated tables of
`Generated.C16CompileNodes` ask for nothing that is not listed here.
-/
namespace C16
open Model.EmitCtx

/-- Fields no handler reads because their value is *derived*: recomputed by the constructor the
generated code calls, or filled in at run time. One line of justification on most entries. -/
def derivedFields : List (String × String) := [
  ("node.CallExpression", "Fun"),                -- resolved on first call by CallLater (NewCallTodo)
  ("node.CallLater>node.CallExpression", "Fun"), -- same
  ("node.CallStaticMethodLater", "call"),        -- `pp:"-"` cache filled on first call
  ("node.CallStaticPropertyLater", "access"),    -- `pp:"-"` cache
  ("node.NewExpression", "class"),               -- `pp:"-"` cache
  ("node.LambdaExpression", "ctx"),              -- definition context, set when the closure value is created
  ("node.FunctionStatement", "FuncStmt"),        -- embedded interface, nil in parsed functions
  ("node.FunctionStatement", "IsGenerator"),     -- NewFunctionStatement recomputes containsYield(body)
  ("node.FunctionStatement", "defineCtx"),       -- run time
  ("node.FunctionStatement", "staticLocals"),    -- run time
  ("node.LambdaExpression>node.FunctionStatement", "FuncStmt"),
  ("node.LambdaExpression>node.FunctionStatement", "Name"),         -- closures are anonymous
  ("node.LambdaExpression>node.FunctionStatement", "defineCtx"),
  ("node.LambdaExpression>node.FunctionStatement", "staticLocals"),
  ("node.ClassMethod", "IsGenerator"),           -- NewMethod recomputes containsYield(body)
  ("node.ClassMethod", "staticLocals"),          -- run time
  ("data.ClassValue", "Context"),                -- annotation instances are rebuilt by the Compiled…Value factories
  ("data.ClassValue", "ObjectValue"),
  ("data.NullValue", "Value"),                   -- NewNullValue()
  ("node.VariableExpression", "Type"),           -- only the list() targets and symbol-table entries written by hand; untyped
  ("node.VariableReference", "Type")
]

/-- Known findings: fields that carry program data and are not translated (props/C16.json). -/
def knownDropped : List (String × String) := [
  ("node.ClassStatement", "StaticProperty"),     -- class constants, static properties, enum cases: parse-time values, not emitted
  ("node.AbstractClassStatement>node.ClassStatement", "StaticProperty"),
  ("node.InterfaceStatement", "StaticProperty"), -- interface constants
  ("node.ClassStatement", "Construct"),          -- inherited constructor resolved by the parser; NewClassStatement only finds an own one
  ("node.AbstractClassStatement>node.ClassStatement", "Construct"),
  ("node.ClassProperty", "Annotations"),         -- property annotations
  ("node.LambdaExpression>node.FunctionStatement", "Ret"),              -- declared return type of a closure
  ("node.LambdaExpression>node.FunctionStatement", "IsGenerator"),      -- NewLambdaExpression does not recompute it
  ("node.LambdaExpression>node.FunctionStatement", "ReturnsReference")
]

def allowed : List (String × String) := derivedFields ++ knownDropped

/-- Prints of a per-file value on record: handlers that write `g.namespace` into the generated text,
with the reason the file-level value cannot matter. Whether it really cannot is decided by the
namespace-section stream of the differential run (harness/c16/nsfile.go), not here. -/
def knownCtxEmits : List KnownEmit := [
  ("node.CallExpression", "emitCallExpression", "namespace"),         -- a call the parser resolved: FunName is the function's full name, the first lookup answers (C16_ctx_resolve_found_first); the node has no namespace of its own
  ("node.CallStaticMethod", "emitCallStaticMethod", "namespace"),     -- the class was resolved at parse time: className is its full name, found by the first lookup
  ("node.CallStaticProperty", "emitCallStaticProperty", "namespace")  -- same
]

end C16
