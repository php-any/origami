import Model.Sites
import Model.Shared
/-!
# C20 — hand-written classification of the regenerated sites  (TRUSTED, by hand)

`Generated.C20MapRanges.sites` lists every `for … range <map>` of the packages in scope and
`Generated.C20PkgState.cells` every package-level variable written outside `init`; both are
regenerated from the source on every run. This file assigns

* to each map-range site an order-independence **pattern** — the generic theorem of
  `Proofs/Properties/C20.lean` that is meant to apply to the loop — together with the syntactic
  summary the classification was made for (a loop body that changes its summary has to be
  classified again);
* to each written package-level variable a **discipline** under which it cannot carry anything from
  one run into the next (`C20_no_residue`), or `leaks`.

That a loop really is an instance of its pattern (the accumulated operation commutes, the sort
key is total, at most one entry matches …) and that a cell really follows its discipline was
decided by reading the code; it is not proved. What is machine-checked (by kernel evaluation, in
`Proofs/Lemmas/SitesObl.lean`; stated in the property file) is that *every* regenerated site and cell is classified, with the summary it has
today, and that none is `firstMatch` / `leaks` unless listed as a known finding.

Further down, under headers of their own: the place that resets each reset-per-run cell, the probes of its observers, the
entry path the harness mirrors, the comparators of sorts over map-ordered slices, and the references handed out of
package-level variables.
-/
namespace C20Sites
open Model.Sites

inductive Pattern
  | fold        -- commutative / associative accumulation (min, count, set flags): `Pattern_fold_perm`
  | keyedWrite  -- every entry writes a place named by its own key (another map, a slice index, a constant,
                --   a variable); keys are distinct, so the steps commute: `Pattern_keyed_write_perm`
  | sort        -- collect, then sort by a key that is total on the collected entries: `Pattern_sort_perm`
  | sortedKeys  -- iterates `slices.Sorted(maps.Keys(m))`: `Pattern_sort_perm` with the key itself
  | unique      -- selection / early exit with at most one matching entry: `Pattern_unique_perm`
  | allAny      -- conjunction / disjunction with early exit: `Pattern_all_perm`, `Pattern_any_perm`
  | outOfScope  -- not reached by a sequential script run (HTTP request, Go embedding API, PHPT runner)
                --   or random by contract
  | firstMatch  -- NEGATIVE: first of possibly several matches: `Pattern_first_match_depends`
  | leaks       -- NEGATIVE: the iteration order reaches the result: `Pattern_collect_depends`
deriving DecidableEq, Repr

/-- the patterns under which the loop's result does not depend on the iteration order -/
def Pattern.safe : Pattern → Bool
  | .firstMatch | .leaks => false
  | _ => true

/-- which summaries a pattern can be claimed for (a loop that appends without sorting or
concatenates strings cannot be claimed order independent) -/
def Pattern.admits : Pattern → Summary → Bool
  | .fold, s => s == .accumulate || s == .other || s == .empty
  | .keyedWrite, s => s == .writesMap || s == .other
  | .sort, s => s == .appendSorted
  | .sortedKeys, s => s == .sortedKeys
  | .unique, s => s == .other || s == .exitsEarly
  | .allAny, s => s == .exitsEarly
  | .outOfScope, _ => true
  | .firstMatch, _ => true
  | .leaks, _ => true

structure Entry where
  file : String
  fn : String
  expr : String
  ord : Nat
  summary : Summary
  pat : Pattern
  why : String

def table : List Entry := [
  ⟨"data/value_class.go", "ClassValue.GetProperties", "instanceProps", 0, .writesMap, .keyedWrite,
    "copies a Go map into a fresh Go map, one key each"⟩,
  ⟨"node/binary_eq_strict.go", "isStrictEqual", "props1", 0, .exitsEarly, .allAny,
    "=== on two string-keyed arrays: every key of one must be present and equal in the other; pure recursion"⟩,
  ⟨"node/class.go", "ClassStatement.GetMethods", "c.Methods", 0, .appendSorted, .sort,
    "sorted by method name; names are the map keys, hence distinct"⟩,
  ⟨"node/class_abstract_validate.go", "abstractMethodsDeclaredOnClass", "cs.StaticMethods", 0, .appendSorted, .sort,
    "names sorted before the message is formatted"⟩,
  ⟨"node/class_abstract_validate.go", "abstractMethodsDeclaredOnClass", "cg.StaticMethods", 0, .appendSorted, .sort,
    "names sorted before the message is formatted"⟩,
  ⟨"node/class_abstract_validate.go", "abstractStaticMethodNames", "static", 0, .appendSorted, .sort,
    "map keys, sorted"⟩,
  ⟨"node/globals_files_variable.go", "FilesVariable.GetValue", "httpReq.MultipartForm.File", 0, .other, .outOfScope,
    "$_FILES of an HTTP request (C11); no request in a sequential run"⟩,
  ⟨"node/globals_get_variable.go", "GetVariable.GetValue", "httpReq.URL.Query()", 0, .other, .outOfScope,
    "$_GET of an HTTP request (C11)"⟩,
  ⟨"node/globals_post_variable.go", "PostVariable.GetValue", "httpReq.Form", 0, .other, .outOfScope,
    "$_POST of an HTTP request (C11)"⟩,
  ⟨"node/globals_server_variable.go", "ServerVariable.GetValue", "httpReq.Header", 0, .other, .outOfScope,
    "HTTP_* entries of $_SERVER of an HTTP request (C11)"⟩,
  ⟨"node/html.go", "HtmlNode.generateHtml", "h.Attributes", 0, .other, .unique,
    "picks the attribute value of type *AttrForValue and the one of type *AttrIfValue; a node carries at most one `for` and one member of the if-family"⟩,
  ⟨"node/html.go", "HtmlNode.generateNormalHtml", "slices.Sorted(maps.Keys(h.Attributes))", 0, .sortedKeys, .sortedKeys, ""⟩,
  ⟨"node/html.go", "HtmlTemplateNode.GetValue", "h.HtmlNode.Attributes", 0, .other, .unique,
    "as generateHtml"⟩,
  ⟨"node/init_class.go", "InitClass.GetValue", "slices.Sorted(maps.Keys(n.KV))", 0, .sortedKeys, .sortedKeys, ""⟩,
  ⟨"node/js_server.go", "formatObjectValue", "slices.Sorted(maps.Keys(v))", 0, .sortedKeys, .sortedKeys, ""⟩,
  ⟨"node/js_server.go", "formatClassOrObjectValue", "slices.Sorted(maps.Keys(properties))", 0, .sortedKeys, .sortedKeys, ""⟩,
  ⟨"node/lambda.go", "LambdaExpression.Call", "f.parent", 0, .other, .keyedWrite,
    "use-list of a closure: child slot ↦ parent slot; every entry fills its own slot of the fresh context from the defining context, which the loop does not modify"⟩,
  ⟨"parser/class_parser.go", "ClassParser.mergeTraitsIntoMaps", "cs.StaticMethods", 0, .writesMap, .keyedWrite,
    "trait static methods copied under their own names when absent"⟩,
  ⟨"parser/class_parser.go", "ClassParser.mergeTraits", "cs.StaticMethods", 0, .writesMap, .keyedWrite,
    "trait static methods copied under their own names when absent"⟩,
  ⟨"parser/new_parser.go", "NewStructParser.parseAnonymousClass", "staticProperties", 0, .exitsEarly, .leaks,
    "static initialisers of an anonymous class run in map order (side effects; which failing initialiser is reported) — fixes/C20-anon-class-static-order"⟩,
  ⟨"parser/scope_manager.go", "DefaultScope.GetVariables", "s.variables", 0, .other, .keyedWrite,
    "variables[v.GetIndex()] = v; indices are allocated once per name"⟩,
  ⟨"runtime/reflect_class.go", "ReflectClass.GetPropertyList", "rc.properties", 0, .appendSorted, .sort, "sorted by name (map key)"⟩,
  ⟨"runtime/reflect_class.go", "ReflectClass.GetMethods", "rc.methods", 0, .appendSorted, .sort, "sorted by name (map key)"⟩,
  ⟨"runtime/reflect_register.go", "VM.RegisterReflectFunctions", "functions", 0, .other, .outOfScope,
    "Go embedding API, not callable from a script; registers each function under its own name"⟩,
  ⟨"runtime/vm.go", "VM.findClassCaseInsensitive", "vm.classMap", 0, .other, .fold,
    "minimum by name over the EqualFold matches: min is commutative and associative"⟩,
  ⟨"runtime/vm.go", "VM.AllFuncs", "vm.funcMap", 0, .appendSorted, .sort, "sorted by name (map key)"⟩,
  ⟨"runtime/vm.go", "VM.AllClasses", "vm.classMap", 0, .appendSorted, .sort, "sorted by name (map key)"⟩,
  ⟨"runtime/vm.go", "bindTemplateVariables", "props", 0, .other, .keyedWrite,
    "each property sets the variable(s) of its own name"⟩,
  ⟨"runtime/vm_temp.go", "TempVM.AddedClasses", "vm.addedClasses", 0, .appendSorted, .sort, "sorted by name (map key)"⟩,
  ⟨"std/php/array/array_diff_ukey.go", "ArrayDiffUkeyFunction.Call", "allOtherKeys", 0, .exitsEarly, .allAny,
    "∃ other key the callback reports equal; order independent for a callback without side effects (the calls themselves happen in map order)"⟩,
  ⟨"std/php/array/array_diff_ukey.go", "ArrayDiffUkeyFunction.Call", "allOtherKeys", 1, .exitsEarly, .allAny,
    "as above"⟩,
  ⟨"std/php/array/array_intersect.go", "ArrayIntersectFunction.Call", "props", 0, .writesMap, .keyedWrite, "builds a set"⟩,
  ⟨"std/php/array/array_rand.go", "ArrayRandFunction.Call", "props", 0, .appendUnsorted, .outOfScope,
    "array_rand is random by contract"⟩,
  ⟨"std/php/array/krsort.go", "KrsortFunction.Call", "props", 0, .appendSorted, .sort, "keys, sorted"⟩,
  ⟨"std/php/array/ksort.go", "KsortFunction.Call", "props", 0, .appendSorted, .sort, "keys, sorted"⟩,
  ⟨"std/php/core/dom.go", "buildDOMNode", "slices.Sorted(maps.Keys(n.attrs))", 0, .sortedKeys, .sortedKeys, ""⟩,
  ⟨"std/php/core/ini_defaults.go", "InitIniDefaults", "iniDefaults", 0, .other, .keyedWrite,
    "stores each default under its own key when absent"⟩,
  ⟨"std/php/core/ini_defaults.go", "ApplyIniMap", "values", 0, .other, .outOfScope,
    "PHPT runner API (keys are lower-cased first, so two spellings of one key would collide)"⟩,
  ⟨"std/php/core/strtr.go", "StrtrFunction.Call", "v.GetProperties()", 0, .writesMap, .keyedWrite, "copies into a Go map"⟩,
  ⟨"std/php/core/strtr.go", "StrtrFunction.Call", "pairs", 0, .appendSorted, .sort,
    "keys sorted by length only; two keys that match at one position of the subject are prefixes of one another, hence of different length, so strings.NewReplacer (first argument wins per position) never sees a tie"⟩,
  ⟨"std/php/json_decode.go", "convertGoValue", "slices.Sorted(maps.Keys(val))", 0, .sortedKeys, .sortedKeys, ""⟩,
  ⟨"std/php/tokenizer.go", "InitTokenConstants", "consts", 0, .other, .keyedWrite, "SetConstant(name, …) per name"⟩,
  ⟨"std/protowire/helpers.go", "objectValueFromMap", "slices.Sorted(maps.Keys(m))", 0, .sortedKeys, .sortedKeys, ""⟩,
  ⟨"std/protowire/load.go", "Load", "constants", 0, .other, .keyedWrite, "SetConstant(name, …) per name"⟩,
  ⟨"std/serializer/json/json_serializer.go", "JsonSerializer.UnmarshalObject", "slices.Sorted(maps.Keys(m))", 0, .sortedKeys, .sortedKeys, ""⟩,
  ⟨"std/serializer/json/json_serializer.go", "JsonSerializer.UnmarshalClass", "slices.Sorted(maps.Keys(props))", 0, .sortedKeys, .sortedKeys, ""⟩
]

/-- map-range sites listed as known findings (`props/C20.json`, status `known`): none at present —
every order leak found in scope has a fix -/
def KnownSites : List (String × String × String × Nat) := []

/-! ## package-level state -/

inductive Discipline
  | resetBeforeRead  -- every run writes it before reading it (VM construction, `LoadAndRun`)
  | restoredAtEnd    -- a run that changes it puts the initial value back before it ends
  | lockOnly         -- mutex / once: no program-visible data
  | pureUse          -- pointer-receiver method that does not change the value (regexp matching)
  | memo             -- filled once with a value that does not depend on who fills it (token tables, parser routes)
  | deadWrite        -- the write cannot be reached from a script (observed, see `why`)
  | outOfScope       -- only written by library code the programs of the statement do not use (HTTP request
                     --   handling, annotation scanners, DI container, database, PHPT runner, compile tool)
  | leaks            -- NEGATIVE: survives into the next VM of the process and is read there
deriving DecidableEq, Repr

def Discipline.safe : Discipline → Bool
  | .leaks => false
  | _ => true

structure CellEntry where
  pkg : String
  name : String
  disc : Discipline
  why : String

def cells : List CellEntry := [
  ⟨"data", "CompileMode", .outOfScope, "set by the compile subcommand only"⟩,
  ⟨"data", "FlushAllBuffersFn", .resetBeforeRead, "php.Load assigns core.FlushAllBuffers on every VM construction"⟩,
  ⟨"data", "WriteOutput", .restoredAtEnd, "switched by ob_start / ob_get_clean; FlushAllBuffers at the end of LoadAndRun restores the default writer"⟩,
  ⟨"data", "userOutputEmitted", .resetBeforeRead, "LoadAndRun calls ResetUserOutput before parsing"⟩,
  ⟨"node", "CheckExecutionTimeLimit", .resetBeforeRead, "php.Load assigns the same closure on every VM construction"⟩,
  ⟨"node", "MarkHeaderOutputStarted", .resetBeforeRead, "php.Load"⟩,
  ⟨"node", "argcValue", .leaks, "cache of $argc, assignable from the script, never reset"⟩,
  ⟨"node", "argvValue", .leaks, "cache of $argv, assignable from the script, never reset"⟩,
  ⟨"node", "cookieValue", .leaks, "superglobal cache; ResetSuperglobals is only called per HTTP request"⟩,
  ⟨"node", "envValue", .leaks, "superglobal cache ($_ENV)"⟩,
  ⟨"node", "filesValue", .leaks, "superglobal cache"⟩,
  ⟨"node", "getValue", .leaks, "superglobal cache ($_GET)"⟩,
  ⟨"node", "globalsValue", .leaks, "superglobal cache ($GLOBALS)"⟩,
  ⟨"node", "includeOnceCache", .leaks, "return values of included files, keyed by path, shared by all VMs: a file included by one VM is not run by the next"⟩,
  ⟨"node", "postValue", .leaks, "superglobal cache"⟩,
  ⟨"node", "requestValue", .leaks, "superglobal cache"⟩,
  ⟨"node", "serverValue", .leaks, "superglobal cache ($_SERVER)"⟩,
  ⟨"node", "sessionValue", .leaks, "superglobal cache"⟩,
  ⟨"parser", "autoload", .leaks, "spl_autoload_register appends to a process-wide list"⟩,
  ⟨"parser", "globalScopeFactory", .outOfScope, "SetGlobalScopeFactory: tooling hook (LSP), not callable from a script"⟩,
  ⟨"parser", "parserRouter", .memo, "AddParse registers statement parsers at start-up; same table whoever builds it"⟩,
  ⟨"parser", "reBladeEnd", .pureUse, "regexp matching"⟩,
  ⟨"parser", "reElseColon", .pureUse, "regexp matching"⟩,
  ⟨"parser", "reEndfor", .pureUse, "regexp matching"⟩,
  ⟨"parser", "reEndforeach", .pureUse, "regexp matching"⟩,
  ⟨"parser", "reEndif", .pureUse, "regexp matching"⟩,
  ⟨"parser", "reEndswitch", .pureUse, "regexp matching"⟩,
  ⟨"parser", "reEndwhile", .pureUse, "regexp matching"⟩,
  ⟨"process", "os.Chdir", .leaks, "chdir(): working directory of the process"⟩,
  ⟨"process", "os.Setenv", .leaks, "putenv() / $_SERVER writes / cli_set_process_title: environment of the process"⟩,
  ⟨"runtime", "RunHeaderCallbacksFn", .resetBeforeRead, "php.Load"⟩,
  ⟨"runtime", "shutdownSignalOnce", .lockOnly, "sync.Once around installing the signal handler"⟩,
  ⟨"std/cli/annotation", "cliScanningDirs", .outOfScope, "annotation scanner of CLI applications"⟩,
  ⟨"std/cli/annotation", "registeredCliExitClasses", .outOfScope, "annotation scanner of CLI applications"⟩,
  ⟨"std/cli/annotation", "registeredCommands", .outOfScope, "annotation scanner of CLI applications"⟩,
  ⟨"std/container", "defaultEngine", .outOfScope, "DI container"⟩,
  ⟨"std/container", "defaultInstance", .outOfScope, "DI container"⟩,
  ⟨"std/container", "defaultOnce", .outOfScope, "DI container"⟩,
  ⟨"std/container", "metaByVM", .outOfScope, "DI container (keyed by the VM's address)"⟩,
  ⟨"std/container", "metaMu", .lockOnly, "mutex"⟩,
  ⟨"std/container", "registeringEngine", .outOfScope, "DI container"⟩,
  ⟨"std/container", "registeringMu", .lockOnly, "mutex"⟩,
  ⟨"std/database", "globalManager", .outOfScope, "database connections"⟩,
  ⟨"std/database", "once", .lockOnly, "sync.Once"⟩,
  ⟨"std/net/annotation", "ControllerInstantiator", .outOfScope, "HTTP annotation scanner"⟩,
  ⟨"std/net/annotation", "OnApplicationScanStart", .outOfScope, "HTTP annotation scanner"⟩,
  ⟨"std/net/annotation", "controllerMiddlewares", .outOfScope, "HTTP annotation scanner"⟩,
  ⟨"std/net/annotation", "pendingControllers", .outOfScope, "HTTP annotation scanner"⟩,
  ⟨"std/net/annotation", "pendingRoutes", .outOfScope, "HTTP annotation scanner"⟩,
  ⟨"std/net/annotation", "registeredExitClasses", .outOfScope, "HTTP annotation scanner"⟩,
  ⟨"std/net/annotation", "scanningDirs", .outOfScope, "HTTP annotation scanner"⟩,
  ⟨"std/net/http", "requestAttrBags", .outOfScope, "per-request attributes (C11)"⟩,
  ⟨"std/net/http", "requestFormatterSlots", .outOfScope, "per-request attributes (C11)"⟩,
  ⟨"std/php", "errorReportingLevel", .deadWrite, "error_reporting declares no parameter, so its argument is never bound and the assignment is not reached: error_reporting(0) leaves the level at E_ALL (probed on every run as a clean channel)"⟩,
  ⟨"std/php", "phpPositionalRe", .pureUse, "regexp matching"⟩,
  ⟨"std/php", "stringSpecRe", .pureUse, "regexp matching"⟩,
  ⟨"std/php", "varDumpObjIDs", .leaks, "object handle numbers of var_dump, keyed by address, process-wide"⟩,
  ⟨"std/php", "varDumpObjMu", .lockOnly, "mutex"⟩,
  ⟨"std/php", "varDumpObjNext", .leaks, "next object handle number of var_dump"⟩,
  ⟨"std/php/core", "executionDeadline", .leaks, "set_time_limit: the deadline stays armed for later VMs"⟩,
  ⟨"std/php/core", "executionLimitSec", .leaks, "set_time_limit"⟩,
  ⟨"std/php/core", "headerCallbacks", .restoredAtEnd, "RunHeaderCallbacks (from RunShutdownCallbacks) runs and clears the list at the end of the run that registered them"⟩,
  ⟨"std/php/core", "headerOutputStarted", .leaks, "set by the first echo of the process and never cleared: header_register_callback is ignored by every later VM"⟩,
  ⟨"std/php/core", "iniStore", .leaks, "ini_set stores process-wide; InitIniDefaults only fills absent keys"⟩,
  ⟨"std/php/core", "obStack", .restoredAtEnd, "FlushAllBuffers at the end of LoadAndRun empties the stack"⟩,
  ⟨"std/php/core", "phptInputBody", .outOfScope, "php://input of the PHPT runner"⟩,
  ⟨"std/php/core", "phptInputMu", .lockOnly, "mutex"⟩,
  ⟨"std/php/core", "timeLimitMu", .lockOnly, "mutex"⟩,
  ⟨"std/php/stream", "nextStreamContextID", .leaks, "resource ids of stream_context_create continue across VMs"⟩,
  ⟨"token", "TokenDefinitions", .memo, "token table built once (sync.Once)"⟩,
  ⟨"token", "initTokenDefinitions", .memo, "token table built once"⟩,
  ⟨"token", "once", .lockOnly, "sync.Once"⟩,
  ⟨"token", "tree", .memo, "token table built once"⟩
]

/-- package-level state listed as known findings (`props/C20.json`, status `known`); the comment
above each group is the signature under which the harness confirms it on every run -/
def KnownCells : List (String × String) := [
  -- residue:cell:std/php/core.iniStore
  ("std/php/core", "iniStore"),
  -- residue:cell:node.includeOnceCache
  ("node", "includeOnceCache"),
  -- residue:cell:node.superglobals
  ("node", "cookieValue"), ("node", "envValue"), ("node", "filesValue"), ("node", "getValue"), ("node", "globalsValue"),
  ("node", "postValue"), ("node", "requestValue"), ("node", "serverValue"), ("node", "sessionValue"),
  -- residue:cell:node.argvValue
  ("node", "argcValue"), ("node", "argvValue"),
  -- residue:cell:std/php.varDumpObjIDs
  ("std/php", "varDumpObjIDs"), ("std/php", "varDumpObjNext"),
  -- residue:cell:std/php/stream.nextStreamContextID
  ("std/php/stream", "nextStreamContextID"),
  -- residue:cell:std/php/core.headerOutputStarted
  ("std/php/core", "headerOutputStarted"),
  -- residue:cell:parser.autoload
  ("parser", "autoload"),
  -- residue:cell:process.os.Setenv
  ("process", "os.Setenv"), ("process", "os.Chdir"),
  -- residue:cell:std/php/core.executionDeadline
  ("std/php/core", "executionDeadline"), ("std/php/core", "executionLimitSec")
]

/-! ## the decidable obligations -/

def findSite (tbl : List Entry) (s : RangeSite) : Option Entry :=
  tbl.find? (fun e => e.file == s.file && e.fn == s.fn && e.expr == s.expr && e.ord == s.ord)

/-- a regenerated site is in order: classified, for the summary it has today, with a pattern that
admits that summary, and safe unless listed known -/
def siteOK (tbl : List Entry) (known : List (String × String × String × Nat)) (s : RangeSite) : Bool :=
  match findSite tbl s with
  | none => false
  | some e => e.summary == s.summary && e.pat.admits s.summary &&
      (e.pat.safe || known.contains (s.file, s.fn, s.expr, s.ord))

/-- the sites that are not in order (`echo bad | vm_c20` lists them when the obligation fails) -/
def badSites (tbl : List Entry) (known : List (String × String × String × Nat)) (sites : List RangeSite) : List RangeSite :=
  sites.filter (fun s => !siteOK tbl known s)

def findCell (tbl : List CellEntry) (c : StateCell) : Option CellEntry :=
  tbl.find? (fun e => e.pkg == c.pkg && e.name == c.name)

def cellOK (tbl : List CellEntry) (known : List (String × String)) (c : StateCell) : Bool :=
  match findCell tbl c with
  | none => false
  | some e => e.disc.safe || known.contains (c.pkg, c.name)

def badCells (tbl : List CellEntry) (known : List (String × String)) (cs : List StateCell) : List StateCell :=
  cs.filter (fun c => !cellOK tbl known c)

/-! ## resets that are executed on every run

`Generated.C20Resets.uses` lists, for every package-level variable that some function sets to a
constant, every place that touches it, with the conditions under which that place is executed
inside its function (`conds`, `guards`), and `Generated.C20Resets.entry` the calls of the functions
a run of the command-line interpreter goes through around the script's own code. The tables below
say, for every cell whose discipline is `resetBeforeRead` or `restoredAtEnd`, **which place keeps
it clean** — it must exist, lie directly in the body of its function (`conds` exactly as listed,
normally none) and be preceded by no other way out of the function than the listed `guards`, each of
which is argued in `why`. A reset that is deleted, moved under a condition, or moved behind a new
early return no longer meets its entry and the obligation fails. -/

structure ResetSpec where
  pkg : String          -- the cell whose discipline rests on this place
  name : String
  usePkg : String       -- the variable touched there: the cell itself, or the hook variable through which
  useName : String      --   its restore function is called
  touch : Touch
  via : String
  file : String
  fn : String
  conds : List String
  guards : List String
  why : String

def resetSpecs : List ResetSpec := [
  ⟨"data", "userOutputEmitted", "data", "userOutputEmitted", .resets, "ResetUserOutput", "runtime/vm.go", "VM.LoadAndRun", [],
    ["if vm.GetPhpFileCache(file)"],
    "first statement after the include-cache test; the cache of a VM that has not run anything is empty, so the entry script of a fresh VM always passes it"⟩,
  ⟨"data", "FlushAllBuffersFn", "data", "FlushAllBuffersFn", .sets, "", "std/php/load.go", "Load", [], [],
    "php.Load stores core.FlushAllBuffers on every VM construction"⟩,
  ⟨"node", "CheckExecutionTimeLimit", "node", "CheckExecutionTimeLimit", .sets, "", "std/php/load.go", "Load", [], [],
    "php.Load stores a closure that captures nothing"⟩,
  ⟨"node", "MarkHeaderOutputStarted", "node", "MarkHeaderOutputStarted", .sets, "", "std/php/load.go", "Load", [], [],
    "php.Load stores core.MarkHeaderOutputStarted"⟩,
  ⟨"runtime", "RunHeaderCallbacksFn", "runtime", "RunHeaderCallbacksFn", .sets, "", "std/php/load.go", "Load", [], [],
    "php.Load stores core.RunHeaderCallbacks"⟩,
  -- restored at the end of the run: the restore function is reached through a hook variable
  ⟨"data", "WriteOutput", "data", "FlushAllBuffersFn", .reads, "", "runtime/vm.go", "VM.LoadAndRun", ["if data.FlushAllBuffersFn != nil"],
    ["if vm.GetPhpFileCache(file)", "if acl != nil"],
    "core.FlushAllBuffers (stored in the hook by php.Load, see its own entry) empties the buffer stack and puts the default writer back; skipped only when the file was not run at all (already loaded / does not parse)"⟩,
  ⟨"data", "WriteOutput", "data", "FlushAllBuffersFn", .reads, "", "runtime/vm.go", "NewVM", ["func literal", "if data.FlushAllBuffersFn != nil"], [],
    "the default throw control flushes before it reports the uncaught throw and ends the process"⟩,
  ⟨"std/php/core", "obStack", "data", "FlushAllBuffersFn", .reads, "", "runtime/vm.go", "VM.LoadAndRun", ["if data.FlushAllBuffersFn != nil"],
    ["if vm.GetPhpFileCache(file)", "if acl != nil"], "as data.WriteOutput"⟩,
  ⟨"std/php/core", "headerCallbacks", "runtime", "RunHeaderCallbacksFn", .reads, "", "runtime/shutdown_hooks.go", "runHeaderCallbacks", ["if RunHeaderCallbacksFn != nil"], [],
    "core.RunHeaderCallbacks runs and clears the list; runHeaderCallbacks is called by VM.RunShutdownCallbacks (entry path below)"⟩,
  ⟨"std/php/core", "headerCallbacks", "std/php/core", "headerCallbacks", .resets, "", "std/php/core/header_register_callback.go", "RunHeaderCallbacks", [], [],
    "headerCallbacks = nil after the loop, no way out before it"⟩
]

def resetPerRun (d : Discipline) : Bool := d == .resetBeforeRead || d == .restoredAtEnd

def specMet (uses : List CellUse) (s : ResetSpec) : Bool :=
  uses.any (fun u => u.pkg == s.usePkg && u.name == s.useName && u.touch == s.touch && u.via == s.via &&
    u.file == s.file && u.fn == s.fn && u.conds == s.conds && u.guards.all (fun g => s.guards.contains g))

/-- what is not in order: a spec no regenerated place meets, or a reset-per-run cell without a spec -/
def badResets (tbl : List CellEntry) (specs : List ResetSpec) (uses : List CellUse) : List String :=
  ((specs.filter (fun s => !specMet uses s)).map
    (fun s => s!"reset of {s.pkg}.{s.name} is no longer executed unconditionally in {s.file} {s.fn} (place: {s.usePkg}.{s.useName} via '{s.via}')")) ++
  ((tbl.filter (fun e => resetPerRun e.disc && !specs.any (fun s => s.pkg == e.pkg && s.name == e.name))).map
    (fun e => s!"reset-per-run cell {e.pkg}.{e.name} has no place listed that resets it"))

/-! ### every observer of a reset-per-run cell is probed

A cell can be left dirty by a script when some place stores a run-time value into it, or when two
different places store constants (`MarkUserOutput` stores true, `ResetUserOutput` false). For such a
cell, every function that reads it (not the accessors themselves: their callers) must be reached by
the `B` side of a clean channel of `harness/c20/pairs.go` whose `A` side dirties the cell; the
harness asks the driver for the channel names and refuses to run when one is missing. -/

structure Probe where
  pkg : String
  name : String
  file : String
  fn : String
  channels : List String

def probes : List Probe := [
  ⟨"data", "userOutputEmitted", "parser/parser_print.go", "Parser.printPHPUncaughtError",
    ["reset:user-output:echo->uncaught-error", "reset:user-output:var_dump->uncaught-error", "reset:user-output:inline-html->uncaught-error"]⟩,
  ⟨"data", "userOutputEmitted", "parser/parser_print.go", "Parser.printPHPCompileFatal",
    ["reset:user-output:echo->compile-fatal", "reset:user-output:var_dump->compile-fatal", "reset:user-output:inline-html->compile-fatal"]⟩,
  ⟨"data", "userOutputEmitted", "std/php/core/call_user_func.go", "CallUserFuncFunction.resolveObjectCallback",
    ["reset:user-output:echo->callable-deprecation", "reset:user-output:var_dump->callable-deprecation", "reset:user-output:inline-html->callable-deprecation"]⟩,
  ⟨"data", "WriteOutput", "node/echo.go", "EchoStatement.GetValue", ["reset:output-writer:open-buffer->echo", "reset:output-writer:throw-in-buffer->echo"]⟩,
  ⟨"data", "WriteOutput", "node/inline_html.go", "InlineHTMLNode.GetValue", ["reset:output-writer:open-buffer->inline-html", "reset:output-writer:throw-in-buffer->inline-html"]⟩,
  ⟨"data", "WriteOutput", "std/php/core/ob_start.go", "FlushAllBuffers", ["reset:output-writer:open-buffer->open-buffer", "reset:output-writer:throw-in-buffer->open-buffer"]⟩,
  ⟨"std/php/core", "headerCallbacks", "std/php/core/header_register_callback.go", "HeaderRegisterCallbackFunction.Call", ["reset:header-callbacks:registered->register"]⟩,
  ⟨"std/php/core", "headerCallbacks", "std/php/load.go", "Load",
    ["reset:header-callbacks:registered->shutdown", "reset:header-callbacks:registered->shutdown-after-callbacks"]⟩
]

def usesOf (uses : List CellUse) (pkg name : String) : List CellUse :=
  uses.filter (fun u => u.pkg == pkg && u.name == name)

def isStore (t : Touch) : Bool := t == .resets || t == .sets

/-- a script can leave the cell in more than one state -/
def dirtiable (us : List CellUse) : Bool :=
  us.any (fun u => u.touch == .writes || u.touch == .readsWrites) ||
  ((us.filter (fun u => isStore u.touch && u.via == "")).map (fun u => (u.file, u.fn))).eraseDups.length ≥ 2

def isObserver (u : CellUse) : Bool := !u.accessor && (u.touch == .reads || u.touch == .readsWrites)

/-- observers of dirtiable reset-per-run cells that no channel is listed for -/
def unprobed (tbl : List CellEntry) (ps : List Probe) (uses : List CellUse) : List CellUse :=
  (tbl.filter (fun e => resetPerRun e.disc)).flatMap (fun e =>
    let us := usesOf uses e.pkg e.name
    if dirtiable us then
      us.filter (fun u => isObserver u &&
        !ps.any (fun p => p.pkg == u.pkg && p.name == u.name && p.file == u.file && p.fn == u.fn && !p.channels.isEmpty))
    else [])

def probeChannels (ps : List Probe) : List String := (ps.flatMap (·.channels)).eraseDups

/-! ### the entry path of a run, as the in-process runner of the harness mirrors it

`harness/c20/runner.go` runs a script through `cmd.RunScriptFile` itself, with a runtime loader that
makes the same `Load` calls as `zy.go` and replaces the VM's default throw control (flush, report,
`os.Exit(1)`) by flush, report, end of the run with status 1. That mirror is only right as long as
these functions make the calls listed here, in this order, under these conditions (`conds`) and behind
these earlier ways out (`guards`). -/

def expectedEntry : List EntryStep := [
  ⟨"zy.go", "init", "cmd.SetRuntimeLoader", [], []⟩,
  ⟨"zy.go", "init", "std.Load", ["func literal"], []⟩,
  ⟨"zy.go", "init", "php.Load", ["func literal"], []⟩,
  ⟨"zy.go", "init", "http.Load", ["func literal"], []⟩,
  ⟨"zy.go", "init", "websocket.Load", ["func literal"], []⟩,
  ⟨"zy.go", "init", "netannotation.Load", ["func literal"], []⟩,
  ⟨"zy.go", "init", "system.Load", ["func literal"], []⟩,
  ⟨"cmd/runtime.go", "getRuntimeVM", "panic", ["if runtimeLoader == nil"], []⟩,
  ⟨"cmd/runtime.go", "getRuntimeVM", "parser.NewParser", [], ["if runtimeLoader == nil"]⟩,
  ⟨"cmd/runtime.go", "getRuntimeVM", "runtime.NewVM", [], ["if runtimeLoader == nil"]⟩,
  ⟨"cmd/runtime.go", "getRuntimeVM", "runtimeLoader", [], ["if runtimeLoader == nil"]⟩,
  ⟨"cmd/root.go", "RunScriptFile", "os.Stat", [], []⟩,
  ⟨"cmd/root.go", "RunScriptFile", "os.IsNotExist", [], []⟩,
  ⟨"cmd/root.go", "RunScriptFile", "fmt.Fprintf", ["if os.IsNotExist(err)"], []⟩,
  ⟨"cmd/root.go", "RunScriptFile", "rootCmd.Help", ["if os.IsNotExist(err)"], []⟩,
  ⟨"cmd/root.go", "RunScriptFile", "fmt.Errorf", ["if os.IsNotExist(err)"], []⟩,
  ⟨"cmd/root.go", "RunScriptFile", "getRuntimeVM", [], ["if os.IsNotExist(err)"]⟩,
  ⟨"cmd/root.go", "RunScriptFile", "vm.LoadAndRun", [], ["if os.IsNotExist(err)"]⟩,
  ⟨"cmd/root.go", "RunScriptFile", "p.ShowControl", ["if err != nil"], ["if os.IsNotExist(err)"]⟩,
  ⟨"cmd/root.go", "RunScriptFile", "vm.RunShutdownCallbacks", [], ["if os.IsNotExist(err)"]⟩,
  ⟨"cmd/root.go", "RunScriptFile", "errors.New", ["if err != nil"], ["if os.IsNotExist(err)"]⟩,
  ⟨"cmd/root.go", "RunScriptFile", "err.AsString", ["if err != nil"], ["if os.IsNotExist(err)"]⟩,
  ⟨"runtime/vm.go", "NewVM", "data.FlushAllBuffersFn", ["func literal", "if data.FlushAllBuffersFn != nil"], []⟩,
  ⟨"runtime/vm.go", "NewVM", "parser.ShowControl", ["func literal"], []⟩,
  ⟨"runtime/vm.go", "NewVM", "os.Exit", ["func literal"], []⟩,
  ⟨"runtime/vm.go", "NewVM", "NewContext", [], []⟩,
  ⟨"runtime/vm.go", "NewVM", "parser.SetVM", [], []⟩,
  ⟨"runtime/vm.go", "VM.LoadAndRun", "normalizePhpFilePath", [], []⟩,
  ⟨"runtime/vm.go", "VM.LoadAndRun", "vm.GetPhpFileCache", [], []⟩,
  ⟨"runtime/vm.go", "VM.LoadAndRun", "vm.SetPhpFileCache", [], ["if vm.GetPhpFileCache(file)"]⟩,
  ⟨"runtime/vm.go", "VM.LoadAndRun", "data.ResetUserOutput", [], ["if vm.GetPhpFileCache(file)"]⟩,
  ⟨"runtime/vm.go", "VM.LoadAndRun", "vm.parser.Clone", [], ["if vm.GetPhpFileCache(file)"]⟩,
  ⟨"runtime/vm.go", "VM.LoadAndRun", "p.ParseFile", [], ["if vm.GetPhpFileCache(file)"]⟩,
  ⟨"runtime/vm.go", "VM.LoadAndRun", "p.GetVariables", [], ["if vm.GetPhpFileCache(file)", "if acl != nil"]⟩,
  ⟨"runtime/vm.go", "VM.LoadAndRun", "vm.CreateContext", [], ["if vm.GetPhpFileCache(file)", "if acl != nil"]⟩,
  ⟨"runtime/vm.go", "VM.LoadAndRun", "vm.RegisterGlobalContext", [], ["if vm.GetPhpFileCache(file)", "if acl != nil"]⟩,
  ⟨"runtime/vm.go", "VM.LoadAndRun", "program.GetValue", [], ["if vm.GetPhpFileCache(file)", "if acl != nil"]⟩,
  ⟨"runtime/vm.go", "VM.LoadAndRun", "data.FlushAllBuffersFn", ["if data.FlushAllBuffersFn != nil"], ["if vm.GetPhpFileCache(file)", "if acl != nil"]⟩,
  ⟨"runtime/shutdown.go", "VM.RunShutdownCallbacks", "vm.shutdownRunOnce.Do", [], []⟩,
  ⟨"runtime/shutdown.go", "VM.RunShutdownCallbacks", "callShutdownCallback", ["func literal", "range vm.shutdownCallbacks"], []⟩,
  ⟨"runtime/shutdown.go", "VM.RunShutdownCallbacks", "runHeaderCallbacks", ["func literal"], []⟩,
  ⟨"runtime/shutdown_hooks.go", "runHeaderCallbacks", "RunHeaderCallbacksFn", ["if RunHeaderCallbacksFn != nil"], []⟩
]

/-- first call of the regenerated entry path that differs from the expected one -/
def entryDiff : List EntryStep → List EntryStep → Option String
  | [], [] => none
  | a :: _, [] => some s!"unexpected call {a.callee} in {a.file} {a.fn}"
  | [], b :: _ => some s!"missing call {b.callee} in {b.file} {b.fn}"
  | a :: as, b :: bs =>
    if a == b then entryDiff as bs
    else some s!"{a.file} {a.fn}: call {a.callee} under {a.conds} after the exits {a.guards} where {b.callee} under {b.conds} after {b.guards} was expected"

/-! ## sorts over a slice collected in map order

`Generated.C20Sorts.sorts` says, for every site whose pattern is `sort`, what the sort compares. A
comparator of shape `whole` orders the collected elements themselves (strings / integers): two elements
that tie are equal, `Pattern_sort_whole_perm` applies without any argument by hand. Every other
comparator (`derived`: the elements go through a function, a method, a field, a conversion) can tie on
two *different* elements, and then the map order reaches the result (`Pattern_sort_tie_depends`) — unless
the sort key is injective on what the loop collects (`Pattern_sort_key_perm_iff`). That argument is made
by hand, below, **for the comparator text it was made for**: a comparator that changes has to be argued
again. -/

structure SortArg where
  file : String
  fn : String
  expr : String
  ord : Nat
  target : String
  cmpText : String
  why : String

def sortArgued : List SortArg := [
  ⟨"node/class.go", "ClassStatement.GetMethods", "c.Methods", 0, "methods", "methods[i].GetName() < methods[j].GetName()",
    "a method is stored under its own name; a trait alias stores the *same* method object under a second key: two entries that tie are one object"⟩,
  ⟨"runtime/reflect_class.go", "ReflectClass.GetPropertyList", "rc.properties", 0, "properties", "properties[i].GetName() < properties[j].GetName()",
    "rc.properties[name] holds the property of that name: GetName is the map key, injective"⟩,
  ⟨"runtime/reflect_class.go", "ReflectClass.GetMethods", "rc.methods", 0, "methods", "methods[i].GetName() < methods[j].GetName()",
    "rc.methods[method.Name] = wrapper of that method: GetName is the map key"⟩,
  ⟨"runtime/vm.go", "VM.AllFuncs", "vm.funcMap", 0, "funcs", "funcs[i].GetName() < funcs[j].GetName()",
    "vm.funcMap[f.GetName()] = f is the only store"⟩,
  ⟨"runtime/vm.go", "VM.AllClasses", "vm.classMap", 0, "classes", "classes[i].GetName() < classes[j].GetName()",
    "vm.classMap[c.GetName()] = c is the only store"⟩,
  ⟨"runtime/vm_temp.go", "TempVM.AddedClasses", "vm.addedClasses", 0, "out", "out[i].GetName() < out[j].GetName()",
    "vm.addedClasses[c.GetName()] = c is the only store"⟩,
  ⟨"std/php/core/strtr.go", "StrtrFunction.Call", "pairs", 0, "keys", "len(keys[i]) > len(keys[j])",
    "NOT injective: keys of equal length tie and reach strings.NewReplacer in map order. Argued harmless: the replacer prefers, at each position of the subject, the earliest argument among the keys that match there; keys matching at one position are prefixes of one another, hence of different length, hence never tied. Probed on every run by the strtr blocks of the generator and the reorder stream (equal-length keys)"⟩
]

/-- sorts listed as known findings (`props/C20.json`, status `known`): none -/
def KnownSorts : List (String × String × String × Nat) := []

def sortOK (argued : List SortArg) (known : List (String × String × String × Nat)) (s : SortFact) : Bool :=
  s.cmp == .whole ||
  argued.any (fun e => e.file == s.file && e.fn == s.fn && e.expr == s.expr && e.ord == s.ord &&
    e.target == s.target && e.cmpText == s.cmpText) ||
  known.contains (s.file, s.fn, s.expr, s.ord)

/-- the sorts over map-ordered slices whose comparator can tie on different elements and for which no
argument (for today's comparator text) is listed -/
def tyingSorts (argued : List SortArg) (known : List (String × String × String × Nat)) (facts : List SortFact) : List SortFact :=
  facts.filter (fun s => !sortOK argued known s)

/-- sites claimed for the pattern `sort` of which the translator reports no sort at all -/
def sortSitesWithoutFact (sites : List RangeSite) (facts : List SortFact) : List RangeSite :=
  sites.filter (fun s => s.summary == .appendSorted &&
    !facts.any (fun f => f.file == s.file && f.fn == s.fn && f.expr == s.expr && f.ord == s.ord))

/-! ## references held in package-level variables

`Generated.C20Shared.refs` lists every package-level variable that holds a reference (pointer, or
interface initialised with a pointer, through a constructor if need be), the field paths of the struct
behind it that some statement of the linked packages assigns, and how often the variable is used as a
value (returned, passed, stored). Such a variable can change without any write through its own name —
the receiver of the value mutates the pointee through its alias — so `C20PkgState` (writes through the
name) says nothing about it. A reference with assigned fields that is handed out must be accounted for:

* by the variable's own entry in `cells`, if that discipline is about the CONTENT of the variable
  (`resetBeforeRead`, `restoredAtEnd`, `outOfScope`, or a listed `leaks`): whoever holds the alias
  changes exactly the state that entry already speaks about. `memo` / `pureUse` / `lockOnly` /
  `deadWrite` do NOT cover it: "filled once with a value that does not depend on who fills it" is
  precisely what a hoisted error value looks like, and it is wrong as soon as the value is mutable;
* or by an entry of `sharedArgued` (the assigned fields are never written through what is handed out). -/

structure SharedEntry where
  pkg : String
  name : String
  why : String

/-- references argued frozen after publication: none at present -/
def sharedArgued : List SharedEntry := []

def Discipline.coversContent : Discipline → Bool
  | .resetBeforeRead | .restoredAtEnd | .outOfScope | .leaks => true
  | _ => false

def sharedOK (tbl : List CellEntry) (known : List (String × String)) (argued : List SharedEntry)
    (r : Model.Shared.SharedRef) : Bool :=
  r.mutableFields.isEmpty || r.escapes == 0 ||
  argued.any (fun e => e.pkg == r.pkg && e.name == r.name) ||
  tbl.any (fun e => e.pkg == r.pkg && e.name == r.name && e.disc.coversContent &&
    (e.disc.safe || known.contains (r.pkg, r.name)))

/-- mutable references handed out of a package-level variable that nothing accounts for -/
def badShared (tbl : List CellEntry) (known : List (String × String)) (argued : List SharedEntry)
    (refs : List Model.Shared.SharedRef) : List Model.Shared.SharedRef :=
  refs.filter (fun r => !sharedOK tbl known argued r)

/-- entries of `sharedArgued` that no longer meet a handed-out mutable reference -/
def staleShared (argued : List SharedEntry) (refs : List Model.Shared.SharedRef) : List String :=
  (argued.filter (fun e => !refs.any (fun r => r.pkg == e.pkg && r.name == e.name &&
    !r.mutableFields.isEmpty && r.escapes != 0))).map (fun e => e.pkg ++ "." ++ e.name)

end C20Sites
