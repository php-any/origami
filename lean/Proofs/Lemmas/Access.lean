import Model.Access
import Spec.Access
/-! Helper lemmas for C07: the chain walks of `isCallerInClassHierarchy` decide `Spec.Access.Related`, so the lexical rule of
the interpreter is the specification's `allowedB`. `NoDangling` is what makes the two agree: from a declared start no walk
meets an undeclared parent, where the first loop of the interpreter would give up and the specification's procedure go on. -/
namespace Proofs.Access
open Model.Access Spec.Access

/-- No declared class names an undeclared parent. Assumed (props/C07.json): `new` loads the whole chain of the class it
instantiates (`ClassStatement.GetValue`), the parser only when it searches an inherited constructor; a scope class that is
never instantiated is covered by the assumption alone. -/
def NoDangling (H : Hier) : Prop := ∀ n p, extOf H n = some p → (getClass H p).isSome

theorem extOf_of_getClass {H : Hier} {n : Name} {c : Cls} (h : getClass H n = some c) : extOf H n = c.ext := by
  simp [extOf, h]

theorem Sub.trans {H : Hier} {a b c : Name} (h1 : Sub H a b) (h2 : Sub H b c) : Sub H a c := by
  induction h1 with
  | refl _ => exact h2
  | step he _ ih => exact Sub.step he (ih h2)

theorem Sub.of_ext {H : Hier} {a p : Name} (h : extOf H a = some p) : Sub H a p :=
  Sub.step h (Sub.refl p)

theorem Sub.cases_ne {H : Hier} {a b : Name} (h : Sub H a b) (hne : a ≠ b) :
    ∃ p, extOf H a = some p ∧ Sub H p b := by
  cases h with
  | refl => exact absurd rfl hne
  | step he hs => exact ⟨_, he, hs⟩

theorem Sub.linear {H : Hier} {r l d : Name} (h1 : Sub H r l) (h2 : Sub H r d) : Sub H l d ∨ Sub H d l := by
  induction h1 with
  | refl _ => exact Or.inl h2
  | step he hs ih =>
    cases h2 with
    | refl => exact Or.inr (Sub.step he hs)
    | step he' hs' =>
      rw [he] at he'
      cases he'
      exact ih hs'

theorem Related.symm {H : Hier} {a b : Name} (h : Related H a b) : Related H b a := Or.symm h

theorem Related.refl {H : Hier} (a : Name) : Related H a a := Or.inl (Sub.refl a)

theorem chainHas_spec {H : Hier} (hd : NoDangling H) {t : Name} (f : Nat) (e : Option Name)
    (he : ∀ x, e = some x → (getClass H x).isSome) :
    chainHas H t f e = .fuel ∨ (chainHas H t f e = .yes ∧ ∃ x, e = some x ∧ Sub H x t) ∨
      (chainHas H t f e = .no ∧ ∀ x, e = some x → ¬ Sub H x t) := by
  -- cases: 1 chain ended, 2 out of fuel, 3 `e` is `t`, 4 `e` undeclared (excluded by `he`), 5 on to `e`'s parent
  fun_induction chainHas H t f e with
  | case1 => exact .inr (.inr ⟨rfl, fun _ hx => nomatch hx⟩)
  | case2 => exact .inl rfl
  | case3 f => exact .inr (.inl ⟨rfl, t, rfl, Sub.refl t⟩)
  | case4 f x hx hg => exact absurd (he x rfl) (by rw [hg]; exact Bool.false_ne_true)
  | case5 f x hx c hg ih =>
    have hext := extOf_of_getClass hg
    rcases ih (fun y hy => hd x y (hext.trans hy)) with h | ⟨h, y, hy, hs⟩ | ⟨h, hn⟩
    · exact .inl h
    · exact .inr (.inl ⟨h, x, rfl, Sub.step (hext.trans hy) hs⟩)
    · refine .inr (.inr ⟨h, fun z hz hs => ?_⟩)
      cases hz
      obtain ⟨p, hp, hsp⟩ := Sub.cases_ne hs hx
      exact hn p (hext.symm.trans hp) hsp

theorem subB_spec {H : Hier} (hd : NoDangling H) {a b : Name} {r : Bool} (h : subB H a b = some r) :
    r = true ↔ Sub H a b := by
  unfold subB at h
  by_cases hab : a = b
  · rw [if_pos hab] at h
    cases h
    exact iff_of_true rfl (hab ▸ Sub.refl a)
  · rw [if_neg hab] at h
    rcases chainHas_spec hd (t := b) (fuel H) (extOf H a) (hd a) with hw | ⟨hw, x, hx, hs⟩ | ⟨hw, hn⟩ <;>
      rw [hw] at h <;> cases h
    · exact iff_of_true rfl (Sub.step hx hs)
    · refine iff_of_false Bool.false_ne_true fun hs => ?_
      obtain ⟨p, hp, hsp⟩ := Sub.cases_ne hs hab
      exact hn p hp hsp

theorem relatedB_spec {H : Hier} (hd : NoDangling H) {a b : Name} {r : Bool} (h : relatedB H a b = some r) :
    r = true ↔ Related H a b := by
  unfold relatedB at h
  cases h1 : subB H a b with
  | none => rw [h1] at h; cases h
  | some x =>
    rw [h1] at h
    have s1 := subB_spec hd h1
    cases x with
    | true => cases h; exact iff_of_true rfl (Or.inl (s1.mp rfl))
    | false =>
      rw [subB_spec hd h]
      exact ⟨Or.inr, fun hr => hr.resolve_left fun hs => Bool.false_ne_true (s1.mpr hs)⟩

theorem allowedB_spec {H : Hier} (hd : NoDangling H) {m : Mod} {caller : Option Name} {decl : Name} {r : Bool}
    (h : allowedB H m caller decl = some r) : r = true ↔ allowed H m caller decl := by
  cases m with
  | pub => cases h; exact iff_of_true rfl trivial
  | priv => cases h; simp [allowed]
  | prot =>
    cases caller with
    | none => cases h; simp [allowed]
    | some c =>
      rw [relatedB_spec hd h]
      simp [allowed]

/-- the two loops of `isCallerInClassHierarchy` are the two `subB` of `relatedB` -/
theorem inHierarchy_eq_relatedB {H : Hier} (hd : NoDangling H) (c t : Name) :
    inHierarchy H (some c) t = relatedB H c t := by
  unfold inHierarchy relatedB subB
  by_cases hc : c = t
  · simp [hc]
  · have hc' : ¬ t = c := fun e => hc e.symm
    simp only [if_neg hc, if_neg hc']
    -- the first walk cannot answer `.missing` (`chainHas_spec` under `NoDangling`), the one answer on which the two sides
    -- differ; on `.no` both run the second walk and agree on each of its answers
    rcases chainHas_spec hd (t := t) (fuel H) (extOf H c) (hd c) with h | ⟨h, _⟩ | ⟨h, _⟩ <;> rw [h]
    cases chainHas H c (fuel H) (extOf H t) <;> rfl

theorem inHierarchy_none_ctx (H : Hier) (t : Name) : inHierarchy H none t = some false := rfl

theorem lexRule_eq_allowedB {H : Hier} (hd : NoDangling H) (m : Mod) (scope : Option Name) (decl : Name) :
    lexRule H m scope decl = allowedB H m scope decl := by
  cases m with
  | prot => cases scope with
    | none => rfl
    | some c => exact inHierarchy_eq_relatedB hd c decl
  | _ => rfl

theorem lexRule_spec {H : Hier} (hd : NoDangling H) {m : Mod} {scope : Option Name} {decl : Name} {b : Bool}
    (h : lexRule H m scope decl = some b) : b = true ↔ allowed H m scope decl :=
  allowedB_spec hd (lexRule_eq_allowedB hd m scope decl ▸ h)

theorem ofCheck_allowed_iff {o : Option Bool} {P : Prop} (hns : Out.ofCheck o ≠ .stuck)
    (h : ∀ b, o = some b → (b = true ↔ P)) : Out.ofCheck o = .allowed ↔ P := by
  cases o with
  | none => exact absurd rfl hns
  | some b =>
    rw [← h b rfl]
    cases b <;> simp [Out.ofCheck]

theorem ofCheck_inHierarchy {H : Hier} (hd : NoDangling H) {ctx : Option Name} {t : Name}
    (hns : Out.ofCheck (inHierarchy H ctx t) ≠ .stuck) :
    Out.ofCheck (inHierarchy H ctx t) = .allowed ↔ ∃ c, ctx = some c ∧ Related H c t :=
  ofCheck_allowed_iff hns fun _ h => lexRule_spec (m := .prot) hd h

theorem pubOnly_iff {H : Hier} {s : Site} (h : s.m = .pub ∨ ¬ allowed H s.m s.lex s.decl) :
    (if s.m = .pub then Out.allowed else .denied) = .allowed ↔ allowed H s.m s.lex s.decl := by
  by_cases hm : s.m = .pub
  · rw [if_pos hm, hm]
    exact iff_of_true rfl trivial
  · rw [if_neg hm]
    exact iff_of_false (fun h => nomatch h) (h.resolve_left hm)

theorem exec_eq (T : Table) (H : Hier) (st : Step) (σ : Store) :
    exec T H st.site σ st.op =
      match verdict T H st with
      | .allowed => (.ok (match st.op with | .read k => some (σ.cell k) | _ => none), σ.after st.op)
      | .denied => (.denied, σ)
      | .stuck => (.stuck, σ) := by
  obtain ⟨s, op⟩ := st
  cases op with
  | write k v ok =>
    cases ok with
    | false => rfl
    | true => simp only [exec, verdict]; cases decide T H s <;> rfl
  | _ => simp only [exec, verdict]; cases decide T H s <;> rfl

end Proofs.Access
