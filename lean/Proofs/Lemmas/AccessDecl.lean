import Model.AccessDecl
import Spec.AccessDecl
import Proofs.Lemmas.Access
/-! C07, the three-class decision of `canAccessDeclared`. In an acyclic hierarchy the nearest declaration is unique, so the
existential of `allowedOn` collapses to the one `(d, m)` the walk finds; where PHP's rule refuses on it, the fallback clause
of `canAccessDeclared` is exactly the first disjunct, the scope class's own private member. -/
namespace Proofs.AccessDecl
open Model.Access Model.AccessDecl Spec.Access Spec.AccessDecl Proofs.Access

theorem parentOf_some {H : Hier} {c p : Name} (h : parentOf H c = some p) : extOf H c = some p := by
  unfold parentOf at h
  cases he : extOf H c with
  | none => rw [he] at h; cases h
  | some q =>
    rw [he] at h
    simp only [] at h
    by_cases hq : (getClass H q).isSome
    · rw [if_pos hq] at h; cases h; rfl
    · rw [if_neg hq] at h; cases h

theorem parentOf_of_ext {H : Hier} (hd : NoDangling H) {c p : Name} (h : extOf H c = some p) :
    parentOf H c = some p := by
  unfold parentOf
  rw [h]
  simp only []
  rw [if_pos (hd c p h)]

theorem nearest_self {H : Hier} {D : Decls} {r : Name} (h : (D r).isSome) : Nearest H D r r :=
  ⟨Sub.refl r, h, fun _ hc _ => hc⟩

theorem findDecl_nearest {H : Hier} {D : Decls} (f : Nat) (r d : Name)
    (h : findDecl H D f (some r) = some (some d)) : Nearest H D r d := by
  generalize he : some r = e at h
  -- cases: 1 chain ended, 2 out of fuel, 3 `c` declares the name, 4 on to `c`'s parent
  fun_induction findDecl H D f e generalizing r with
  | case1 => cases h
  | case2 => cases h
  | case3 f c hc =>
    cases he
    cases h
    exact nearest_self hc
  | case4 f c hc ih =>
    cases he
    cases hp : parentOf H c with
    | none => rw [hp] at h; simp [findDecl] at h
    | some p =>
      have ih := ih p hp.symm h
      have hx := parentOf_some hp
      refine ⟨Sub.step hx ih.1, ih.2.1, fun x hx' hdx => ?_⟩
      obtain ⟨p', hp', hs⟩ := Sub.cases_ne hx' fun e => hc (e ▸ hdx)
      cases hx.symm.trans hp'
      exact ih.2.2 x hs hdx

theorem nearest_unique {H : Hier} {D : Decls} (ha : Acyclic H) {r d d' : Name}
    (h1 : Nearest H D r d) (h2 : Nearest H D r d') : d = d' :=
  ha d d' (h1.2.2 d' h2.1 h2.2.1) (h2.2.2 d h1.1 h1.2.1)

theorem allowedOn_iff {H : Hier} {D : Decls} (ha : Acyclic H) {r d : Name} {m : Mod} (hn : Nearest H D r d)
    (hm : D d = some m) (scope : Option Name) :
    allowedOn H D scope r ↔ (∃ s, scope = some s ∧ Sub H r s ∧ D s = some .priv) ∨ allowed H m scope d := by
  refine or_congr_right ⟨fun ⟨d', m', hn', hm', hal⟩ => ?_, fun hal => ⟨d, m, hn, hm, hal⟩⟩
  cases nearest_unique ha hn hn'
  cases hm.symm.trans hm'
  exact hal

theorem classExtends_spec {H : Hier} (hd : NoDangling H) {c t : Name} (hne : c ≠ t) {b : Bool}
    (h : classExtends H c t = some b) : b = true ↔ Sub H c t :=
  subB_spec hd (by unfold subB; rw [if_neg hne]; exact h)

theorem own_private_of_refused {H : Hier} (ha : Acyclic H) {D : Decls} (hv : ValidOverride H D) {s r d : Name}
    {m : Mod} (hn : Nearest H D r d) (hm : D d = some m) (hmp : m ≠ .pub) (hna : ¬ allowed H m (some s) d)
    (hds : (D s).isSome) : r ≠ s ∧ (Sub H r s → D s = some .priv) := by
  constructor
  · -- otherwise the nearest declaration is the scope's own, which the rule lets through
    intro e
    subst e
    cases nearest_unique ha hn (nearest_self hds)
    cases m with
    | pub => exact hmp rfl
    | prot => exact hna ⟨r, rfl, Related.refl r⟩
    | priv => exact hna rfl
  · intro hsub
    obtain ⟨ms, hms⟩ := Option.isSome_iff_exists.mp hds
    by_cases hp : ms = .priv
    · rw [hms, hp]
    · -- a non-private member of `s` redeclared by `d` below it is not private, and a protected one is usable from `s`
      have hds' : Sub H d s := hn.2.2 s hsub hds
      cases m with
      | pub => exact absurd rfl hmp
      | prot => exact absurd ⟨s, rfl, Or.inr hds'⟩ hna
      | priv => exact absurd rfl (hv s d ms .priv hds' hms hm hp).1

theorem declared_spec {H : Hier} (hd : NoDangling H) (ha : Acyclic H) {D : Decls} (hv : ValidOverride H D)
    (scope : Option Name) (r d : Name) (m : Mod)
    (hf : findDecl H D (fuel H) (some r) = some (some d)) (hm : D d = some m) (hmp : m ≠ .pub) :
    match canAccessDeclared H .recvExtendsScope D scope r m with
    | none => True
    | some true => allowedOn H D scope r
    | some false => ¬ allowedOn H D scope r := by
  have hn := findDecl_nearest _ _ _ hf
  rw [allowedOn_iff ha hn hm]
  unfold canAccessDeclared
  rw [hf]
  simp only [memberRule]
  cases hl : lexRule H m scope d with
  | none => trivial
  | some x =>
    have hspec := lexRule_spec hd hl
    cases x with
    | true => exact Or.inr (hspec.mp rfl)
    | false =>
      have hna : ¬ allowed H m scope d := fun hal => Bool.false_ne_true (hspec.mpr hal)
      rw [or_iff_left hna]
      cases scope with
      | none => exact fun ⟨s, hs, _⟩ => nomatch hs
      | some s =>
        by_cases hds : (D s).isSome
        · obtain ⟨hrs, hpriv⟩ := own_private_of_refused ha hv hn hm hmp hna hds
          simp only [if_pos hds, fallbackTest]
          cases hc : classExtends H r s with
          | none => trivial
          | some b =>
            have hsub := classExtends_spec hd hrs hc
            cases b with
            | true => exact ⟨s, rfl, hsub.mp rfl, hpriv (hsub.mp rfl)⟩
            | false => exact fun ⟨s', hs', h, _⟩ => by cases hs'; exact Bool.false_ne_true (hsub.mpr h)
        · simp only [if_neg hds]
          exact fun ⟨s', hs', _, hpriv⟩ => hds (by cases hs'; rw [hpriv]; rfl)

theorem access_spec {H : Hier} (hd : NoDangling H) (ha : Acyclic H) {D : Decls} (hv : ValidOverride H D)
    (scope : Option Name) (r : Name) :
    match access H .recvExtendsScope D scope r with
    | .allowed => allowedOn H D scope r
    | .denied => ¬ allowedOn H D scope r
    | _ => True := by
  -- cases: 4 nearest declaration public, 6/7 `canAccessDeclared` answers `true`/`false`; the rest: out of fuel, none declared
  fun_cases access H .recvExtendsScope D scope r with
  | case4 d hf hm => exact Or.inr ⟨d, .pub, findDecl_nearest _ _ _ hf, hm, trivial⟩
  | case6 d hf m hp hm hc => simpa only [hc] using declared_spec hd ha hv scope r d m hf hm hp
  | case7 d hf m hp hm hc => simpa only [hc] using declared_spec hd ha hv scope r d m hf hm hp
  | _ => trivial

theorem sub_of_root {H : Hier} {a b : Name} (h : extOf H a = none) (hs : Sub H a b) : b = a := by
  cases hs with
  | refl => rfl
  | step he _ => rw [h] at he; cases he

/-- `Acyclic` quantifies over all pairs of names; for the fixtures this is a test `decide` can run -/
theorem acyclic_of_flat {H : Hier} (h : (H.all fun c => c.ext.all fun p => (extOf H p).isNone) = true) :
    Acyclic H := by
  have flat : ∀ a p, extOf H a = some p → extOf H p = none := by
    intro a p hp
    cases hg : getClass H a with
    | none => simp [extOf, hg] at hp
    | some c =>
      rw [extOf_of_getClass hg] at hp
      have := List.all_eq_true.mp h c (List.mem_of_find?_eq_some hg)
      rw [hp] at this
      simpa using this
  intro a b hab hba
  by_cases hne : a = b
  · exact hne
  · obtain ⟨p, hp, hpb⟩ := Sub.cases_ne hab hne
    obtain ⟨q, hq, _⟩ := Sub.cases_ne hba (Ne.symm hne)
    cases sub_of_root (flat a p hp) hpb
    rw [flat a b hp] at hq
    cases hq

/-- the smallest fixture of the seeded change `C07-fallback-hierarchy-symmetric` -/
def shadowH : Hier := [⟨1, none, []⟩, ⟨2, some 1, []⟩]
def shadowD : Decls := fun n => if n = 1 then some .priv else if n = 2 then some .pub else none

theorem canAccessDeclaredJ_nearest (H : Hier) (fb : Fallback) (D : Decls) (scope : Option Name) (r : Name) (m : Mod) :
    canAccessDeclaredJ H fb .nearest D scope r m = canAccessDeclared H fb D scope r m := by
  unfold canAccessDeclaredJ canAccessDeclared
  cases findDecl H D (fuel H) (some r) with
  | none => rfl
  | some decl =>
    cases decl with
    | none => simp [judgedClass]
    | some d => by_cases hm : m = .prot <;> simp [judgedClass, hm]

theorem accessJ_nearest (H : Hier) (fb : Fallback) (D : Decls) (scope : Option Name) (r : Name) :
    accessJ H fb .nearest D scope r = access H fb D scope r := by
  unfold accessJ access
  simp only [canAccessDeclaredJ_nearest]

def sibH : Hier := [⟨1, none, []⟩, ⟨2, some 1, []⟩, ⟨3, some 1, []⟩]
def sibD (root : Mod) : Decls := fun n => if n = 1 then some root else if n = 3 then some .prot else none

theorem not_sub_of_parent_root {H : Hier} {a b p : Name} (ha : extOf H a = some p) (hp : extOf H p = none)
    (hab : a ≠ b) (hb : b ≠ p) : ¬ Sub H a b := by
  intro h
  obtain ⟨q, hq, hs⟩ := Sub.cases_ne h hab
  cases ha.symm.trans hq
  exact hb (sub_of_root hp hs)

theorem sib_not_allowedOn (root : Mod) : ¬ allowedOn sibH (sibD root) (some 2) 3 := by
  have h32 : ¬ Sub sibH 3 2 := not_sub_of_parent_root (p := 1) (by decide) (by decide) (by decide) (by decide)
  have h23 : ¬ Sub sibH 2 3 := not_sub_of_parent_root (p := 1) (by decide) (by decide) (by decide) (by decide)
  rw [allowedOn_iff (acyclic_of_flat (by decide)) (nearest_self (r := 3) (by simp [sibD])) (m := .prot) (by simp [sibD])]
  rintro (⟨s, hs, hsub, _⟩ | ⟨c, hc, hrel⟩)
  · cases hs
    exact h32 hsub
  · cases hc
    exact hrel.elim h23 h32

end Proofs.AccessDecl
