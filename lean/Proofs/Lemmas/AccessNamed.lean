import Model.ArgNames
/-! C07, `resolveNamedArguments` (`Model.ArgNames`): what the loop computes for the named arguments of a call, said without
the loop and without their order (`Fill`); hence any permutation of them yields the same binding or is refused as well. In
an accepted call every named argument found the slot of its parameter free from the start; the refusals are its
contrapositives. -/
namespace Proofs.AccessNamed
open Model.Types Model.ArgNames
open Model.Access (Name)

def Same (o₁ o₂ : List (Option ArgV)) : Prop := ∀ i, recv o₁ i = recv o₂ i

theorem Same.symm' {o₁ o₂ : List (Option ArgV)} (h : Same o₁ o₂) : Same o₂ o₁ := fun i => (h i).symm

theorem recv_pad (out : List (Option ArgV)) (k i : Nat) :
    recv (out ++ List.replicate k none) i = recv out i := by
  unfold recv
  by_cases h : i < out.length
  · rw [List.getElem?_append_left h]
  · have hle : out.length ≤ i := Nat.le_of_not_lt h
    rw [List.getElem?_append_right hle, List.getElem?_eq_none hle]
    rw [List.getElem?_replicate]
    by_cases hk : i - out.length < k <;> simp [hk]

theorem pad_at (out : List (Option ArgV)) (idx : Nat) :
    (out ++ List.replicate (idx + 1 - out.length) none)[idx]? = some (recv out idx) := by
  unfold recv
  by_cases h : idx < out.length
  · rw [List.getElem?_append_left h, List.getElem?_eq_getElem h]
    cases out[idx] <;> rfl
  · have hle := Nat.le_of_not_lt h
    rw [List.getElem?_append_right hle, List.getElem?_eq_none hle, List.getElem?_replicate, if_pos (by omega)]

theorem recv_set (out : List (Option ArgV)) (idx : Nat) (a : ArgV) (h : idx < out.length) (i : Nat) :
    recv (out.set idx (some a)) i = if i = idx then some a else recv out i := by
  unfold recv
  rw [List.getElem?_set]
  by_cases hi : idx = i
  · subst hi
    simp [h]
  · have : ¬ i = idx := fun e => hi e.symm
    simp [hi, this]

def placed (out : List (Option ArgV)) (idx : Nat) (a : ArgV) : List (Option ArgV) :=
  (out ++ List.replicate (idx + 1 - out.length) none).set idx (some a)

theorem recv_placed (out : List (Option ArgV)) (idx : Nat) (a : ArgV) (i : Nat) :
    recv (placed out idx a) i = if i = idx then some a else recv out i := by
  rw [placed, recv_set _ idx a (by rw [List.length_append, List.length_replicate]; omega) i, recv_pad]

theorem place_named_eq (names : List PName) (out : List (Option ArgV)) (n : PName) (a : ArgV) :
    place names out (.named n a) =
      match indexOf n names with
      | none => .error (.unknown n)
      | some idx => if recv out idx = none then .ok (placed out idx a) else .error (.duplicate n) := by
  simp only [place]
  cases indexOf n names with
  | none => rfl
  | some idx =>
    simp only [placeAt, pad_at]
    cases recv out idx <;> simp [placed]

theorem place_named_ok_iff (names : List PName) (out o : List (Option ArgV)) (n : PName) (a : ArgV) :
    place names out (.named n a) = .ok o ↔
      ∃ idx, indexOf n names = some idx ∧ recv out idx = none ∧ placed out idx a = o := by
  rw [place_named_eq]
  cases indexOf n names with
  | none => simp
  | some idx => by_cases h : recv out idx = none <;> simp [h]

theorem place_no_crash (names : List PName) (out : List (Option ArgV)) (c : CallArg) :
    place names out c ≠ .error .crash := by
  cases c with
  | pos a => simp [place]
  | named n a =>
    rw [place_named_eq]
    cases indexOf n names with
    | none => simp
    | some idx => by_cases h : recv out idx = none <;> simp [h]

def mkNamed (l : List (PName × ArgV)) : List CallArg := l.map fun p => .named p.1 p.2

theorem resolveFrom_cons (names : List PName) (out : List (Option ArgV)) (c : CallArg) (r : List CallArg) :
    resolveFrom names out (c :: r) =
      (match place names out c with | .ok o => resolveFrom names o r | .error e => .error e) := rfl

theorem resolveFrom_append (names : List PName) :
    ∀ (l₁ l₂ : List CallArg) (out : List (Option ArgV)),
      resolveFrom names out (l₁ ++ l₂) =
        (match resolveFrom names out l₁ with | .ok o => resolveFrom names o l₂ | .error e => .error e)
  | [], l₂, out => rfl
  | c :: r, l₂, out => by
    simp only [List.cons_append, resolveFrom]
    cases place names out c with
    | error e => rfl
    | ok o => exact resolveFrom_append names r l₂ o

/-- `rv` is what the parameters receive once the named arguments `l` are placed on `o` -/
structure Fill (names : List PName) (o : List (Option ArgV)) (l : List (PName × ArgV)) (rv : Nat → Option ArgV) :
    Prop where
  placed : ∀ p ∈ l, ∃ idx, indexOf p.1 names = some idx ∧ recv o idx = none ∧ rv idx = some p.2
  distinct : (l.map fun p => indexOf p.1 names).Nodup
  others : ∀ i, (∀ p ∈ l, indexOf p.1 names ≠ some i) → rv i = recv o i

theorem Fill.perm {names : List PName} {o : List (Option ArgV)} {l₁ l₂ : List (PName × ArgV)}
    {rv : Nat → Option ArgV} (hp : l₁.Perm l₂) (h : Fill names o l₁ rv) : Fill names o l₂ rv :=
  ⟨fun p hp' => h.placed p (hp.mem_iff.mpr hp'), (hp.map _).nodup_iff.mp h.distinct,
    fun i hi => h.others i fun p hp' => hi p (hp.mem_iff.mp hp')⟩

theorem resolveFrom_named_iff (names : List PName) (rv : Nat → Option ArgV) :
    ∀ (l : List (PName × ArgV)) (o : List (Option ArgV)),
      (∃ r, resolveFrom names o (mkNamed l) = .ok r ∧ ∀ i, recv r i = rv i) ↔ Fill names o l rv
  | [], o => by
    constructor
    · rintro ⟨r, ⟨⟩, hr⟩
      exact ⟨nofun, List.nodup_nil, fun i _ => (hr i).symm⟩
    · exact fun h => ⟨o, rfl, fun i => (h.others i nofun).symm⟩
  | (n, a) :: l, o => by
    show (∃ r, resolveFrom names o (.named n a :: mkNamed l) = .ok r ∧ _) ↔ _
    rw [resolveFrom_cons]
    have free : ∀ idx i, recv (placed o idx a) i = none ↔ i ≠ idx ∧ recv o i = none := by
      intro idx i
      rw [recv_placed]
      by_cases e : i = idx <;> simp [e]
    constructor
    · -- →: the tail's `Fill` on `placed o idx a` gives the parts for `(n, a) :: l`: the head's value (`others` at `idx`),
      -- the tail's slots were free in `o` too, `idx` is none of the tail's, the others
      rintro ⟨r, hr, hrv⟩
      cases hp : place names o (.named n a) with
      | error e => rw [hp] at hr; cases hr
      | ok o₁ =>
        rw [hp] at hr
        obtain ⟨idx, hi, hfree, rfl⟩ := (place_named_ok_iff ..).mp hp
        have ih := (resolveFrom_named_iff names rv l _).mp ⟨r, hr, hrv⟩
        have hnot : ∀ p ∈ l, indexOf p.1 names ≠ some idx := fun p hp' e => by
          obtain ⟨j, hj, hjf, _⟩ := ih.placed p hp'
          cases hj.symm.trans e
          exact ((free idx idx).mp hjf).1 rfl
        refine ⟨List.forall_mem_cons.mpr ⟨⟨idx, hi, hfree, ?_⟩, fun p hp' => ?_⟩,
          List.nodup_cons.mpr ⟨fun hm => ?_, ih.distinct⟩, fun i hn => ?_⟩
        · rw [ih.others idx hnot, recv_placed, if_pos rfl]
        · obtain ⟨j, hj, hjf, hjv⟩ := ih.placed p hp'
          exact ⟨j, hj, ((free idx j).mp hjf).2, hjv⟩
        · obtain ⟨p, hp', e⟩ := List.mem_map.mp hm
          exact hnot p hp' (e.trans hi)
        · have hne : i ≠ idx := fun e => (List.forall_mem_cons.mp hn).1 (e ▸ hi)
          rw [ih.others i (List.forall_mem_cons.mp hn).2, recv_placed, if_neg hne]
    · -- ←: `idx` from `placed` at the head is none of the tail's (`distinct`), so the head is placed and the tail's slots
      -- stay free on `placed o idx a`
      intro h
      obtain ⟨idx, hi, hfree, hv⟩ := h.placed (n, a) List.mem_cons_self
      have hnot : ∀ p ∈ l, indexOf p.1 names ≠ some idx := fun p hp' e =>
        (List.nodup_cons.mp h.distinct).1 (List.mem_map.mpr ⟨p, hp', e.trans hi.symm⟩)
      rw [(place_named_ok_iff ..).mpr ⟨idx, hi, hfree, rfl⟩]
      refine (resolveFrom_named_iff names rv l _).mpr ⟨fun p hp' => ?_, (List.nodup_cons.mp h.distinct).2, fun i hn => ?_⟩
      · obtain ⟨j, hj, hjf, hjv⟩ := h.placed p (List.mem_cons_of_mem _ hp')
        exact ⟨j, hj, (free idx j).mpr ⟨fun e => hnot p hp' (e ▸ hj), hjf⟩, hjv⟩
      · rw [recv_placed]
        by_cases e : i = idx
        · rw [if_pos e, e, hv]
        · rw [if_neg e]
          exact h.others i (List.forall_mem_cons.mpr ⟨fun e' => e (Option.some.inj (hi.symm.trans e')).symm, hn⟩)

theorem resolveFrom_perm_ok (names : List PName) {l₁ l₂ : List (PName × ArgV)} (hp : l₁.Perm l₂)
    {o r₁ : List (Option ArgV)} (h : resolveFrom names o (mkNamed l₁) = .ok r₁) :
    ∃ r₂, resolveFrom names o (mkNamed l₂) = .ok r₂ ∧ Same r₁ r₂ :=
  let ⟨r₂, h₂, hs⟩ := (resolveFrom_named_iff names (recv r₁) l₂ o).mpr
    (((resolveFrom_named_iff names (recv r₁) l₁ o).mp ⟨r₁, h, fun _ => rfl⟩).perm hp)
  ⟨r₂, h₂, fun i => (hs i).symm⟩

/-- a call without names: `hasNamedArgument` returns the list untouched -/
theorem resolveFrom_positional (names : List PName) :
    ∀ (l : List ArgV) (out : List (Option ArgV)),
      resolveFrom names out (l.map .pos) = .ok (out ++ l.map some)
  | [], out => by simp [resolveFrom]
  | a :: r, out => by
    simp only [List.map_cons, resolveFrom, place]
    rw [resolveFrom_positional names r (out ++ [some a])]
    simp

theorem slotsFrom_congr (isA : Name → Name → Bool) (o₁ o₂ : List (Option ArgV)) (hs : Same o₁ o₂) :
    ∀ (ps : List Param) (i : Nat), slotsFrom isA o₁ i ps = slotsFrom isA o₂ i ps
  | [], _ => rfl
  | p :: r, i => by
    simp only [slotsFrom]
    rw [hs i, slotsFrom_congr isA o₁ o₂ hs r (i+1)]

theorem forall_mem_slotsFrom (isA : Name → Name → Bool) (out : List (Option ArgV)) (P : Slot → Prop) :
    ∀ (ps : List Param) (i : Nat),
      (∀ s ∈ slotsFrom isA out i ps, P s) ↔ ∀ j p, ps[j]? = some p → P (slotOf isA p (recv out (i + j)))
  | [], _ => by simp [slotsFrom]
  | p :: r, i => by
    rw [slotsFrom, List.forall_mem_cons, forall_mem_slotsFrom isA out P r (i+1)]
    constructor
    · rintro ⟨h0, h⟩ j q hq
      cases j with
      | zero => cases hq; exact h0
      | succ j => rw [show i + (j + 1) = i + 1 + j by omega]; exact h j q hq
    · intro h
      refine ⟨h 0 p rfl, fun j q hq => ?_⟩
      rw [show i + 1 + j = i + (j + 1) by omega]
      exact h (j+1) q hq

theorem slotOf_fine (isA : Name → Name → Bool) (p : Param) (x : Option ArgV) :
    (slotOf isA p x).fine isA = true ↔
      match x with
      | some (.val v) => admits isA p.k p.t v = true
      | some .throws => False
      | none => p.dflt.isSome = true ∨ admits isA p.k p.t .null = true := by
  cases x with
  | some a =>
    cases a with
    | val v => simp [slotOf, Slot.fine]
    | throws => simp [slotOf, Slot.fine]
  | none =>
    simp only [slotOf]
    cases hd : p.dflt with
    | some d => simp [Slot.fine, admits]
    | none =>
      by_cases hn : admits isA p.k p.t .null = true
      · simp [hn, Slot.fine]
      · simp [hn, Slot.fine]

theorem resolveFrom_no_crash (names : List PName) (args : List CallArg) (out : List (Option ArgV)) :
    resolveFrom names out args ≠ .error .crash := by
  fun_induction resolveFrom names out args with
  | case1 => exact fun h => nomatch h
  | case2 out c r o hp ih => exact ih
  | case3 out c r e hp => exact fun h => place_no_crash names out c (hp.trans (by cases h; rfl))

theorem place_keeps (names : List PName) (out o : List (Option ArgV)) (c : CallArg) (hp : place names out c = .ok o)
    (i : Nat) (b : ArgV) (h : recv out i = some b) : recv o i = some b := by
  cases c with
  | pos a =>
    cases hp
    unfold recv at h ⊢
    have hlt : i < out.length := Nat.lt_of_not_le fun hc => by rw [List.getElem?_eq_none hc] at h; cases h
    rw [List.getElem?_append_left hlt]
    exact h
  | named n a =>
    obtain ⟨idx, _, hfree, rfl⟩ := (place_named_ok_iff ..).mp hp
    rw [recv_placed, if_neg fun e => by rw [e, hfree] at h; cases h]
    exact h

/-- free before the first argument was placed: a slot once filled stays filled (`place_keeps`) -/
theorem resolveFrom_ok_named (names : List PName) {n : PName} {a : ArgV} (args : List CallArg)
    (out : List (Option ArgV)) {r : List (Option ArgV)} (h : resolveFrom names out args = .ok r)
    (hm : CallArg.named n a ∈ args) : ∃ idx, indexOf n names = some idx ∧ recv out idx = none := by
  fun_induction resolveFrom names out args with
  | case1 => cases hm
  | case2 out c rest o hp ih =>
    rcases List.mem_cons.mp hm with rfl | hm'
    · obtain ⟨idx, hi, hfree, _⟩ := (place_named_ok_iff ..).mp hp
      exact ⟨idx, hi, hfree⟩
    · obtain ⟨idx, hi, hfree⟩ := ih h hm'
      refine ⟨idx, hi, ?_⟩
      cases hr : recv out idx with
      | none => rfl
      | some b =>
        rw [place_keeps names out o c hp idx b hr] at hfree
        cases hfree
  | case3 out c rest e hp => cases h

theorem resolveFrom_refused (names : List PName) {n : PName} {a : ArgV} (args : List CallArg) (out : List (Option ArgV))
    (hm : CallArg.named n a ∈ args) (h : ∀ idx, indexOf n names = some idx → recv out idx ≠ none) :
    ∃ e, resolveFrom names out args = .error e := by
  cases hr : resolveFrom names out args with
  | error e => exact ⟨e, rfl⟩
  | ok r =>
    obtain ⟨idx, hi, hfree⟩ := resolveFrom_ok_named names args out hr hm
    exact absurd hfree (h idx hi)

theorem recv_positional (l : List ArgV) (i : Nat) : recv (l.map some) i = l[i]? := by
  unfold recv
  rw [List.getElem?_map]
  cases l[i]? <;> rfl

theorem callNamed_unresolved {sh : LoopShape} {evalFirst : Bool} {isA : Name → Name → Bool} {params : List Param}
    {args : List CallArg} {e : ResErr} (h : resolve (params.map (·.name)) args = .error e) :
    callNamed sh evalFirst isA params args = .unresolved e := by
  simp only [callNamed, h]

end Proofs.AccessNamed
