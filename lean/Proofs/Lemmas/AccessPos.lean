import Model.Types
import Proofs.Lemmas.Access
/-! C07, several items in one construct: the outcome does not depend on WHERE the offending item stands. A list has a longest
fine prefix, after which nothing is left or the first offender stands; each loop that stops at the first refusal needs one
fact of its own, how it runs over a fine prefix. A loop that tests the result after its last iteration only (`bindLast`)
depends on nothing but the last slot. -/
namespace Proofs.AccessPos
open Model.Types
open Model.Access (Name Hier Table Store Step evalArgs verdict)
open Proofs.Access (exec_eq)

theorem fine_prefix {α : Type} (P : α → Prop) : ∀ l : List α,
    ∃ pre rest, l = pre ++ rest ∧ (∀ y ∈ pre, P y) ∧ (rest = [] ∨ ∃ x post, rest = x :: post ∧ ¬ P x)
  | [] => ⟨[], [], rfl, nofun, .inl rfl⟩
  | a :: r => by
    by_cases ha : P a
    · obtain ⟨pre, rest, rfl, hpre, hrest⟩ := fine_prefix P r
      exact ⟨a :: pre, rest, rfl, List.forall_mem_cons.mpr ⟨ha, hpre⟩, hrest⟩
    · exact ⟨[], a :: r, rfl, nofun, .inr ⟨a, r, rfl, ha⟩⟩

theorem fine_prefix_getElem? {α : Type} {P : α → Prop} {pre : List α} (x : α) (post : List α) (hpre : ∀ y ∈ pre, P y) :
    (pre ++ x :: post)[pre.length]? = some x ∧
      ∀ k, k < pre.length → ∀ u, (pre ++ x :: post)[k]? = some u → P u := by
  refine ⟨by simp, fun k hk u hu => hpre u ?_⟩
  rw [List.getElem?_append_left hk] at hu
  exact List.mem_of_getElem? hu

theorem fine_iff (isA : Name → Name → Bool) (s : Slot) :
    s.fine isA = true ↔ ∃ v, s.a = .val v ∧ admits isA s.k s.t v = true := by
  unfold Slot.fine
  cases s.a <;> simp

theorem bindStep_eq (isA : Name → Name → Bool) (i : Nat) (s : Slot) :
    bindStep isA i s = if s.fine isA then none else some (if s.a = .throws then .raised i else .rejected i) := by
  unfold bindStep Slot.fine
  cases s.a with
  | val v => by_cases h : admits isA s.k s.t v = true <;> simp [h]
  | _ => simp

theorem bindEach_cons (isA : Name → Name → Bool) (i : Nat) (s : Slot) (r : List Slot) :
    bindEach isA i (s :: r) =
      if s.fine isA then bindEach isA (i+1) r else if s.a = .throws then .raised i else .rejected i := by
  show (match bindStep isA i s with | some o => o | none => bindEach isA (i+1) r) = _
  rw [bindStep_eq]
  by_cases hf : s.fine isA = true <;> simp only [hf, if_true, Bool.false_eq_true, if_false]

theorem bindEach_append (isA : Name → Name → Bool) : ∀ (pre : List Slot) (i : Nat) (rest : List Slot),
    (∀ y ∈ pre, y.fine isA = true) → bindEach isA i (pre ++ rest) = bindEach isA (i + pre.length) rest
  | [], _, _, _ => rfl
  | s :: pre, i, rest, h => by
    rw [List.cons_append, bindEach_cons, if_pos (h s List.mem_cons_self),
      bindEach_append isA pre (i+1) rest fun y hy => h y (List.mem_cons_of_mem _ hy), Nat.add_right_comm]
    rfl

theorem bindEach_ran_iff (isA : Name → Name → Bool) :
    ∀ (slots : List Slot) (i : Nat), bindEach isA i slots = .ran ↔ ∀ s ∈ slots, s.fine isA = true := by
  intro slots i
  obtain ⟨pre, rest, rfl, hpre, rfl | ⟨x, post, rfl, hx⟩⟩ := fine_prefix (fun s : Slot => s.fine isA = true) slots
  · rw [bindEach_append isA pre i _ hpre, List.append_nil]
    exact iff_of_true rfl hpre
  · rw [bindEach_append isA pre i _ hpre, bindEach_cons, if_neg hx]
    exact iff_of_false (by split <;> exact fun e => nomatch e) fun h => hx (h x (by simp))

theorem bindLast_append (isA : Name → Name → Bool) (s : Slot) :
    ∀ (pre : List Slot) (i : Nat) (acl : Option CallOut),
      bindLast isA i acl (pre ++ [s]) =
        (match bindStep isA (i + pre.length) s with | some o => o | none => .ran)
  | [], i, acl => by
    simp only [List.nil_append, bindLast, List.length_nil, Nat.add_zero]
    cases bindStep isA i s <;> rfl
  | p :: pre, i, acl => by
    simp only [List.cons_append, bindLast, List.length_cons]
    rw [bindLast_append isA s pre (i+1) _]
    have e : i + 1 + pre.length = i + (pre.length + 1) := by omega
    rw [e]

theorem firstThrow_some (n : Nat) (slots : List Slot) (i : Nat) (h : firstThrow i slots = some n) :
    ∃ s ∈ slots, s.a = .throws := by
  fun_induction firstThrow i slots with
  | case1 => cases h
  | case2 i s r ha => exact ⟨s, List.mem_cons_self, ha⟩
  | case3 i s r ha ih =>
    obtain ⟨u, hu, hua⟩ := ih h
    exact ⟨u, List.mem_cons_of_mem _ hu, hua⟩

theorem bindEvalFirst_ran_iff (isA : Name → Name → Bool) (slots : List Slot) :
    bindEvalFirst .eachChecked isA slots = .ran ↔ bindArgs .eachChecked isA slots = .ran := by
  unfold bindEvalFirst
  cases hf : firstThrow 0 slots with
  | none => simp
  | some n =>
    obtain ⟨s, hs, hsa⟩ := firstThrow_some n slots 0 hf
    have hnf : s.fine isA = false := by simp [Slot.fine, hsa]
    constructor
    · intro h; cases h
    · intro h
      have := (bindEach_ran_iff isA slots 0).mp h s hs
      rw [hnf] at this
      cases this

theorem storeSeq_cons (isA : Name → Name → Bool) (i : Nat) (x : BKind × Ty × ValKind) (r : List (BKind × Ty × ValKind)) :
    storeSeq isA i (x :: r) =
      if admits isA x.1 x.2.1 x.2.2 then ((storeSeq isA (i+1) r).1, some x.2.2 :: (storeSeq isA (i+1) r).2)
      else (some i, none :: r.map fun _ => none) := rfl

theorem storeSeq_append (isA : Name → Name → Bool) :
    ∀ (pre : List (BKind × Ty × ValKind)) (i : Nat) (rest : List (BKind × Ty × ValKind)),
      (∀ y ∈ pre, admits isA y.1 y.2.1 y.2.2 = true) →
      storeSeq isA i (pre ++ rest) =
        ((storeSeq isA (i + pre.length) rest).1,
          pre.map (fun y => some y.2.2) ++ (storeSeq isA (i + pre.length) rest).2)
  | [], _, _, _ => rfl
  | x :: pre, i, rest, h => by
    rw [List.cons_append, storeSeq_cons, if_pos (h x List.mem_cons_self),
      storeSeq_append isA pre (i+1) rest fun y hy => h y (List.mem_cons_of_mem _ hy), Nat.add_right_comm]
    rfl

theorem storeSeq_of_all {isA : Name → Name → Bool} {l : List (BKind × Ty × ValKind)}
    (h : ∀ x ∈ l, admits isA x.1 x.2.1 x.2.2 = true) (i : Nat) :
    storeSeq isA i l = (none, l.map fun y => some y.2.2) := by
  simpa [storeSeq] using storeSeq_append isA l i [] h

theorem storeSeq_of_split {isA : Name → Name → Bool} {pre : List (BKind × Ty × ValKind)} {x : BKind × Ty × ValKind}
    (hpre : ∀ y ∈ pre, admits isA y.1 y.2.1 y.2.2 = true) (hx : ¬ admits isA x.1 x.2.1 x.2.2 = true) (i : Nat)
    (post : List (BKind × Ty × ValKind)) :
    storeSeq isA i (pre ++ x :: post) =
      (some (i + pre.length), pre.map (fun y => some y.2.2) ++ List.replicate (post.length + 1) none) := by
  rw [storeSeq_append isA pre i _ hpre, storeSeq_cons, if_neg hx, List.map_const', List.replicate_succ]

theorem storeSeq_length (isA : Name → Name → Bool) :
    ∀ (l : List (BKind × Ty × ValKind)) (i : Nat), (storeSeq isA i l).2.length = l.length := by
  intro l i
  obtain ⟨pre, rest, rfl, hpre, rfl | ⟨x, post, rfl, hx⟩⟩ :=
    fine_prefix (fun x : BKind × Ty × ValKind => admits isA x.1 x.2.1 x.2.2 = true) l
  · rw [List.append_nil, storeSeq_of_all hpre, List.length_map]
  · rw [storeSeq_of_split hpre hx, List.length_append, List.length_map, List.length_replicate, List.length_append,
      List.length_cons]

theorem storeSeq_holds (isA : Name → Name → Bool) (l : List (BKind × Ty × ValKind)) (i j : Nat) (w : ValKind)
    (h : (storeSeq isA i l).2[j]? = some (some w)) :
    ∃ x, l[j]? = some x ∧ x.2.2 = w ∧ admits isA x.1 x.2.1 w = true := by
  -- a slot that holds a value lies in the fine prefix, where it holds the value offered to it
  have inPre : ∀ pre : List (BKind × Ty × ValKind), (∀ y ∈ pre, admits isA y.1 y.2.1 y.2.2 = true) →
      (pre.map fun y => some y.2.2)[j]? = some (some w) →
      ∃ x, pre[j]? = some x ∧ x.2.2 = w ∧ admits isA x.1 x.2.1 w = true := by
    intro pre hpre hj
    rw [List.getElem?_map, Option.map_eq_some_iff] at hj
    obtain ⟨y, hy, hw⟩ := hj
    cases hw
    exact ⟨y, hy, rfl, hpre y (List.mem_of_getElem? hy)⟩
  obtain ⟨pre, rest, rfl, hpre, rfl | ⟨x, post, rfl, hx⟩⟩ :=
    fine_prefix (fun x : BKind × Ty × ValKind => admits isA x.1 x.2.1 x.2.2 = true) l
  · rw [List.append_nil] at h ⊢
    rw [storeSeq_of_all hpre] at h
    exact inPre pre hpre h
  · rw [storeSeq_of_split hpre hx] at h
    by_cases hj : j < pre.length
    · rw [List.getElem?_append_left (by rwa [List.length_map])] at h
      rw [List.getElem?_append_left hj]
      exact inPre pre hpre h
    · rw [List.getElem?_append_right (by rw [List.length_map]; omega), List.getElem?_replicate] at h
      split at h <;> cases h

theorem evalArgs_cons (T : Table) (H : Hier) (i : Nat) (σ : Store) (st : Step) (rest : List Step) :
    evalArgs T H i σ (st :: rest) =
      if verdict T H st = .allowed then evalArgs T H (i+1) (σ.after st.op) rest else (some i, σ) := by
  simp only [evalArgs, exec_eq T H st]
  cases verdict T H st <;> simp

theorem evalArgs_append (T : Table) (H : Hier) : ∀ (pre : List Step) (i : Nat) (σ : Store) (rest : List Step),
    (∀ y ∈ pre, verdict T H y = .allowed) →
    evalArgs T H i σ (pre ++ rest) =
      evalArgs T H (i + pre.length) (pre.foldl (fun σ u => σ.after u.op) σ) rest
  | [], _, _, _, _ => rfl
  | st :: pre, i, σ, rest, h => by
    rw [List.cons_append, evalArgs_cons, if_pos (h st List.mem_cons_self),
      evalArgs_append T H pre (i+1) _ rest fun y hy => h y (List.mem_cons_of_mem _ hy), Nat.add_right_comm]
    rfl

end Proofs.AccessPos
