import Model.Types
import Spec.Access
/-! Helper lemmas for C07: `Types.Is` decides `Spec.Types.Denotes`; the restricted `Class.Is` walk decides
`Spec.Types.IsA`. The hierarchy here (`Model.Access.Hier`, `Spec.Types.IsA`, `Sub`) is C07's own, smaller model, not
`Model.Hier.Graph` / `Spec.Hier` of C08 and C05. -/
namespace Proofs.AccessTypes
open Model.Access Model.Types Spec.Types

theorem getClass_name {H : Hier} {n : Name} {d : Cls} (h : getClass H n = some d) : d.name = n := by
  simpa using List.find?_some h

theorem isA_inv {H : Hier} {c t : Name} {d : Cls} (hg : getClass H c = some d) (h : IsA H c t) :
    t = d.name ∨ t ∈ d.impl ∨ ∃ p, d.ext = some p ∧ IsA H p t := by
  cases h with
  | self hd => exact .inl (getClass_name hg).symm
  | impl hd hm => cases hg.symm.trans hd; exact .inr (.inl hm)
  | ext hd he hp => cases hg.symm.trans hd; exact .inr (.inr ⟨_, he, hp⟩)

theorem isA_declared {H : Hier} {c t : Name} (h : IsA H c t) : ∃ d, getClass H c = some d := by
  cases h with
  | self hd => exact ⟨_, hd⟩
  | impl hd _ => exact ⟨_, hd⟩
  | ext hd _ _ => exact ⟨_, hd⟩

theorem isAChain_spec {H : Hier} {t : Name} (f : Nat) (c : Name) (b : Bool)
    (h : isAChain H t f (some c) = some b) : b = true ↔ IsA H c t := by
  generalize he : some c = e at h
  -- cases: 1 chain ended (not at the start), 2 out of fuel, 3 `x` undeclared, 4 `t` is `x`'s name or interface,
  -- 5 on to `x`'s parent
  fun_induction isAChain H t f e generalizing c with
  | case1 => cases he
  | case2 => cases h
  | case3 f x hg =>
    cases he
    cases h
    refine iff_of_false Bool.false_ne_true fun hi => ?_
    obtain ⟨d, hd⟩ := isA_declared hi
    cases hg.symm.trans hd
  | case4 f x d hg hhit =>
    cases he
    cases h
    refine iff_of_true rfl ?_
    simp only [Bool.or_eq_true, decide_eq_true_eq, List.contains_iff_mem] at hhit
    rcases hhit with he | hm
    · rw [he, getClass_name hg]
      exact IsA.self hg
    · exact IsA.impl hg hm
  | case5 f x d hg hhit ih =>
    cases he
    simp only [Bool.or_eq_true, decide_eq_true_eq, List.contains_iff_mem, not_or] at hhit
    have hup : IsA H x t ↔ ∃ p, d.ext = some p ∧ IsA H p t :=
      ⟨fun hi => ((isA_inv hg hi).resolve_left hhit.1).resolve_left hhit.2, fun ⟨_, he, hp⟩ => IsA.ext hg he hp⟩
    rw [hup]
    cases hext : d.ext with
    | none =>
      rw [hext] at h
      simp only [isAChain, Option.some.injEq] at h
      subst h
      simp
    | some p =>
      rw [ih p hext.symm h]
      simp

/-- `isA` as a total test, for hierarchies on which the walk terminates -/
def isAB (H : Hier) (c t : Name) : Bool := (isA H c t).getD false

/-- `accepts` / `acceptsAny` are mutual, and `fun_induction` does not take a mutual function: their joint principle is
applied as a term, one bullet per leaf in the order of the definitions, the answer of the leaf already computed. -/
theorem accepts_spec {H : Hier} {isA : Name → Name → Bool} (hi : ∀ c n, isA c n = true ↔ IsA H c n) :
    (∀ (t : Ty) (v : ValKind), accepts isA t v = true ↔ Denotes H t v) ∧
      ∀ (ts : List Ty) (v : ValKind), acceptsAny isA ts v = true ↔ ∃ t, t ∈ ts ∧ Denotes H t v := by
  have no := Bool.false_ne_true
  refine accepts.mutual_induct_unfolding isA (fun t v b => b = true ↔ Denotes H t v)
    (fun ts v b => b = true ↔ ∃ t, t ∈ ts ∧ Denotes H t v) ?_ ?_ ?_ ?_ ?_ ?_ ?_ ?_ ?_ ?_ ?_ ?_ ?_ ?_
  -- `int`
  · exact iff_of_true rfl .int
  · exact fun v hv => iff_of_false no fun h => by cases h; exact hv rfl
  -- `string`
  · exact iff_of_true rfl .str
  · exact fun v hv => iff_of_false no fun h => by cases h; exact hv rfl
  -- `array`: list, string-keyed, other
  · exact iff_of_true rfl .arr
  · exact iff_of_true rfl .assoc
  · exact fun v h1 h2 => iff_of_false no fun h => by cases h with | arr => exact h1 rfl | assoc => exact h2 rfl
  -- class name: object, other
  · exact fun n c => (hi c n).trans ⟨.cls, fun h => by cases h with | cls h => exact h⟩
  · exact fun n v hv => iff_of_false no fun h => by cases h; exact hv _ rfl
  -- `?T`: `null`, other
  · exact fun t => iff_of_true rfl .null
  · exact fun t v hv ih => ih.trans ⟨.some, fun h => by cases h with | null => exact absurd rfl hv | some h => exact h⟩
  -- union
  · exact fun ts v ih => ih.trans ⟨fun ⟨_, hm, hd⟩ => .union hm hd, fun h => by cases h with | union hm hd => exact ⟨_, hm, hd⟩⟩
  -- `acceptsAny`: nil, cons
  · exact fun v => iff_of_false no fun ⟨_, hm, _⟩ => nomatch hm
  · intro t r v ih1 ih2
    rw [Bool.or_eq_true, ih1, ih2]
    simp only [List.mem_cons, exists_eq_or_imp]

theorem acceptsAny_iff {H : Hier} {isA : Name → Name → Bool} (hi : ∀ c n, isA c n = true ↔ IsA H c n) :
    ∀ (ts : List Ty) (v : ValKind), acceptsAny isA ts v = true ↔ ∃ t, t ∈ ts ∧ Denotes H t v :=
  (accepts_spec hi).2

end Proofs.AccessTypes
