import Model.Backtrack
/-! Bounds on `work` (`Model.Backtrack`) by class of policy table. -/
namespace Proofs.Backtrack
open Model.Backtrack

theorem size_pos : ∀ t : Tree, 1 ≤ t.size
  | .tok => by simp [Tree.size]
  | .grp _ _ => by simp [Tree.size]; omega

mutual
  theorem depth_succ_le_size : ∀ t : Tree, t.depth + 1 ≤ t.size
    | .tok => by simp [Tree.size, Tree.depth]
    | .grp _ es => by
      have := depthF_le_size es
      simp [Tree.size, Tree.depth]; omega
  theorem depthF_le_size : ∀ f : Forest, f.depth ≤ f.size
    | .nil => by simp [Forest.size, Forest.depth]
    | .cons t f => by
      have h1 := depth_succ_le_size t
      have h2 := depthF_le_size f
      simp [Forest.size, Forest.depth]; omega
end

theorem flat_le_size : ∀ f : Forest, f.flat ≤ f.size
  | .nil => by simp [Forest.flat, Forest.size]
  | .cons .tok f => by
    have := flat_le_size f
    simp [Forest.flat, Forest.size, Tree.size]; omega
  | .cons (.grp _ _) f => by
    have := flat_le_size f
    simp [Forest.flat, Forest.size, Tree.size]; omega

/-- no scan, no nested retry: every group is read forward or re-reads its own tokens. Properties/C01 states
this hypothesis, and `NoNestedRetry` below (scans allowed as well), unfolded. -/
def Linear (pol : Nat → Policy) : Prop := ∀ k, pol k = .direct ∨ pol k = .retryFlat

theorem extra_linear {pol : Nat → Policy} (h : Linear pol) (k size flat a b : Nat) :
    (pol k).extra size flat a b ≤ 2 + flat := by
  rcases h k with hk | hk <;> rw [hk] <;> simp [Policy.extra]

mutual
  theorem work_le_linear {pol : Nat → Policy} (h : Linear pol) : ∀ t : Tree, work pol t ≤ 2 * t.size
    | .tok => by simp [work, Tree.size]
    | .grp k es => by
      have ih := workF_flat_le_linear h es
      have hx := extra_linear h k es.size es.flat (workHead pol es) (workF pol es)
      simp only [work, Tree.size]
      omega
  /-- a token costs one advance of the two allowed, so a forest leaves
  `flat` unspent, which is what the flat re-read of the enclosing group costs -/
  theorem workF_flat_le_linear {pol : Nat → Policy} (h : Linear pol) : ∀ f : Forest, workF pol f + f.flat ≤ 2 * f.size
    | .nil => by simp [workF, Forest.flat, Forest.size]
    | .cons .tok f => by
      have ih := workF_flat_le_linear h f
      simp only [workF, work, Forest.flat, Forest.size, Tree.size]
      omega
    | .cons (.grp k es) f => by
      have ih := workF_flat_le_linear h f
      have it := work_le_linear h (.grp k es)
      simp only [workF, Forest.flat, Forest.size] at *
      omega
end

def NoNestedRetry (pol : Nat → Policy) : Prop := ∀ k, (pol k).nestedRetry = false

theorem extra_le {pol : Nat → Policy} (h : NoNestedRetry pol) (k : Nat) (es : Forest) (a b : Nat) :
    (pol k).extra es.size es.flat a b ≤ 2 + es.size := by
  have hk := h k
  have hf := flat_le_size es
  cases hp : pol k <;> simp [hp, Policy.nestedRetry, Policy.extra] at hk ⊢ <;> omega

/-- `2·S·(D+1)` written so that `omega` sees the products as the same atoms on both sides -/
theorem grp_arith (S D W : Nat) (hW : W ≤ 2 * S * (D + 1)) :
    2 + W + (2 + S) ≤ 2 * (2 + S) * (1 + D + 1) := by
  have e : 2 * (2 + S) * (1 + D + 1) = 2 * S * (D + 1) + (4 * (D + 1) + 2 * S + 4) := by
    simp only [Nat.mul_add, Nat.add_mul, Nat.mul_one]
    omega
  omega

theorem cons_arith (s1 d1 s2 d2 w1 w2 : Nat) (h1 : w1 ≤ 2 * s1 * (d1 + 1)) (h2 : w2 ≤ 2 * s2 * (d2 + 1)) :
    w1 + w2 ≤ 2 * (s1 + s2) * (max d1 d2 + 1) := by
  rw [Nat.mul_add 2, Nat.add_mul]
  exact Nat.add_le_add (Nat.le_trans h1 (Nat.mul_le_mul_left _ (by omega)))
    (Nat.le_trans h2 (Nat.mul_le_mul_left _ (by omega)))

mutual
  /-- a group pays at most one more pass over its elements
  (`extra_le`: `≤ 2 + size`), once per nesting level, hence the factor `depth + 1`; `cons_arith` is
  where the depths of siblings meet in `max` -/
  theorem work_le_quadratic {pol : Nat → Policy} (h : NoNestedRetry pol) :
      ∀ t : Tree, work pol t ≤ 2 * t.size * (t.depth + 1)
    | .tok => by simp [work, Tree.size, Tree.depth]
    | .grp k es => by
      have ih := workF_le_quadratic h es
      have hx := extra_le h k es (workHead pol es) (workF pol es)
      have := grp_arith es.size es.depth (workF pol es) ih
      simp only [work, Tree.size, Tree.depth]
      omega
  theorem workF_le_quadratic {pol : Nat → Policy} (h : NoNestedRetry pol) :
      ∀ f : Forest, workF pol f ≤ 2 * f.size * (f.depth + 1)
    | .nil => by simp [workF]
    | .cons t f => by
      have h1 := work_le_quadratic h t
      have h2 := workF_le_quadratic h f
      simp only [workF, Forest.size, Forest.depth]
      exact cons_arith _ _ _ _ _ _ h1 h2
end

theorem work_le_size_sq {pol : Nat → Policy} (h : NoNestedRetry pol) (t : Tree) :
    work pol t ≤ 2 * t.size * t.size :=
  Nat.le_trans (work_le_quadratic h t) (Nat.mul_le_mul_left _ (depth_succ_le_size t))

theorem size_nest (k : Nat) : ∀ d, (nest k d).size = 2 * d + 1
  | 0 => by simp [nest, Tree.size]
  | d + 1 => by
    have := size_nest k d
    simp [nest, Tree.size, Forest.size] at *; omega

theorem depth_nest (k : Nat) : ∀ d, (nest k d).depth = d
  | 0 => by simp [nest, Tree.depth]
  | d + 1 => by
    have := depth_nest k d
    simp [nest, Tree.depth, Forest.depth] at *; omega

/-- under a nested retry a level pays its one element twice (`hx`: `extra ≥` the element's work) -/
theorem two_pow_le_work_nest {pol : Nat → Policy} {k : Nat} (hk : (pol k).nestedRetry = true) :
    ∀ d, 2 ^ d ≤ work pol (nest k d)
  | 0 => by simp [nest, work]
  | d + 1 => by
    have ih := two_pow_le_work_nest hk d
    have e : 2 ^ (d + 1) = 2 * 2 ^ d := by rw [Nat.pow_succ, Nat.mul_comm]
    have hx : work pol (nest k d) ≤
        (pol k).extra (Forest.cons (nest k d) .nil).size (Forest.cons (nest k d) .nil).flat
          (work pol (nest k d)) (work pol (nest k d) + 0) := by
      cases hp : pol k <;> simp [hp, Policy.nestedRetry] at hk <;> simp [Policy.extra] <;> omega
    simp only [nest, work, workF, workHead]
    omega

/-- `2d + 1 ≤ 2^m` at `d = 3m`, `m = 5 + n` (`6m + 1 = 2d + 1`) -/
theorem lin_le_two_pow : ∀ n, 6 * (5 + n) + 1 ≤ 2 ^ (5 + n)
  | 0 => by decide
  | n + 1 => by
    have ih := lin_le_two_pow n
    rw [← Nat.add_assoc, Nat.pow_succ]
    omega

/-- at depth `d = 3m` with `m = 5 + c`: `2d+1 ≤ 2^m` and `c < 2^m`, while `2^d = 2^m · 2^m · 2^m` -/
theorem exists_depth_beyond (c : Nat) : ∃ d, c * ((2 * d + 1) * (2 * d + 1)) < 2 ^ d := by
  refine ⟨3 * (5 + c), ?_⟩
  have h1 : 2 * (3 * (5 + c)) + 1 ≤ 2 ^ (5 + c) := by
    have := lin_le_two_pow c; omega
  have h2 : c < 2 ^ (5 + c) :=
    Nat.lt_of_lt_of_le Nat.lt_two_pow_self (Nat.pow_le_pow_right (by decide) (Nat.le_add_left _ _))
  have hpos : 0 < 2 ^ (5 + c) := Nat.pow_pos (by decide)
  have e : 2 ^ (3 * (5 + c)) = 2 ^ (5 + c) * (2 ^ (5 + c) * 2 ^ (5 + c)) := by
    rw [← Nat.pow_add, ← Nat.pow_add]; congr 1; omega
  rw [e]
  exact Nat.lt_of_le_of_lt (Nat.mul_le_mul_left c (Nat.mul_le_mul h1 h1))
    (Nat.mul_lt_mul_of_pos_right h2 (Nat.mul_pos hpos hpos))

theorem no_square_bound {pol : Nat → Policy} {k : Nat} (hk : (pol k).nestedRetry = true) :
    ¬ ∃ c, ∀ t : Tree, work pol t ≤ c * (t.size * t.size) := by
  rintro ⟨c, h⟩
  obtain ⟨d, hd⟩ := exists_depth_beyond c
  have h1 := h (nest k d)
  have h2 := two_pow_le_work_nest hk d
  rw [size_nest] at h1
  omega

/-- the test of `sitesBounded` says of one write that its policy does not re-parse nested groups -/
theorem policyOf_bounded (g : List (String × String × String)) (w : PosWrite) :
    (!(policyOf g w).nestedRetry) = (!w.reparsesNested || g.contains (w.file, w.fn, w.guard)) := by
  unfold policyOf PosWrite.reparsesNested
  cases w.backwards <;> cases w.nested <;> cases g.contains (w.file, w.fn, w.guard) <;> rfl

end Proofs.Backtrack
