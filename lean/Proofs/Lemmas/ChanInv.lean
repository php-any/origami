import Proofs.Lemmas.ChanStep
import Proofs.Lemmas.ChanSpec
/-! The invariants of `Model.Chan`, each over the components of the state it reads; `inv_step` assembles
every step from one lemma per kind of change. -/
namespace Proofs.Chan
open Model.Chan Spec.Chan

/-- past the CompareAndSwap of `Close`, not yet returned -/
def isCloser : Pc → Bool
  | .closeFlagged => true
  | .closeSignalled => true
  | _ => false

/-- `hold`: thread `x` holds `mu` shared exactly at the `select`. `cf`, `cs`: a closer before / after `close(done)`. -/
structure ThrOK (hs : List Nat) (cc dn : Bool) (x : Nat) (p : Pc) : Prop where
  hold : x ∈ hs ↔ p = .sendChecked
  cf : p = .closeFlagged → dn = false
  cs : p = .closeSignalled → dn = true ∧ cc = false

/-- `uniq`: the CompareAndSwap of `Close` lets one thread through. -/
structure Closers (pc : Nat → Pc) (fl : Bool) : Prop where
  cflag : ∀ t, isCloser (pc t) = true → fl = true
  uniq : ∀ t t', isCloser (pc t) = true → isCloser (pc t') = true → t = t'

/-- The close protocol. `cd`, `df`: the latches are set in the order flag, `done`, Go channel. `ch`: `close(channel)`
ran under `mu.Lock()`, so no `Send` is inside its attempt once the channel is closed. -/
structure ProtoOn (pn : Bool) (hs : List Nat) (pc : Nat → Pc) (cc dn fl : Bool) : Prop
    extends Closers pc fl where
  nopanic : pn = false
  thr : ∀ t, ThrOK hs cc dn t (pc t)
  cd : cc = true → dn = true
  df : dn = true → fl = true
  ch : cc = true → hs = []

def Proto (s : St) : Prop := ProtoOn s.panicked s.holders s.pc s.chClosed s.done s.flag

section
variable {pn : Bool} {hs : List Nat} {pc : Nat → Pc} {cc dn fl : Bool} {t : Nat}

theorem Proto.no_panics {s : St} (h : Proto s) : ¬ Panics s := by
  rintro ⟨t, ⟨hpc, hc⟩ | ⟨hpc, hd⟩ | ⟨hpc, hc⟩⟩
  · have := (h.thr t).hold.2 hpc
    rw [h.ch hc] at this
    cases this
  · rw [(h.thr t).cf hpc] at hd; cases hd
  · rw [((h.thr t).cs hpc).2] at hc; cases hc

theorem Closers.move (h : Closers pc fl) {v : Pc} (hv : isCloser v = false) : Closers (upd pc t v) fl := by
  have old : ∀ x, isCloser (upd pc t v x) = true → isCloser (pc x) = true :=
    forall_upd (Q := fun x p => isCloser p = true → isCloser (pc x) = true)
      (fun hc => by rw [hv] at hc; cases hc) fun _ _ => id
  exact ⟨fun x hx => h.cflag x (old x hx), fun x y hx hy => h.uniq x y (old x hx) (old y hy)⟩

theorem ProtoOn.stay (h : ProtoOn pn hs pc cc dn fl) (ht : pc t = .idle) : ProtoOn pn hs (upd pc t .idle) cc dn fl := by
  rw [upd_self ht]; exact h

theorem ProtoOn.holder (h : ProtoOn pn hs pc cc dn fl) {hs' : List Nat} {v : Pc} (hv : isCloser v = false)
    (ht : t ∈ hs' ↔ v = .sendChecked) (ho : ∀ x, x ≠ t → (x ∈ hs' ↔ x ∈ hs)) (ch : cc = true → hs' = []) :
    ProtoOn pn hs' (upd pc t v) cc dn fl :=
  { h with
    toClosers := h.toClosers.move hv
    thr := forall_upd ⟨ht, fun e => (by rw [e] at hv; cases hv), fun e => (by rw [e] at hv; cases hv)⟩
      fun x hx => ⟨(ho x hx).trans (h.thr x).hold, (h.thr x).cf, (h.thr x).cs⟩
    ch := ch }

/-- `mu.RLock()` after reading a clear flag: the channel is open, since closed ⇒ done ⇒ flag -/
theorem ProtoOn.enterSend (h : ProtoOn pn hs pc cc dn fl) (hf : fl = false) :
    ProtoOn pn (t :: hs) (upd pc t .sendChecked) cc dn fl :=
  h.holder rfl (by simp) (fun x hx => by simp [hx]) fun hc => by rw [h.df (h.cd hc)] at hf; cases hf

/-- `mu.RUnlock()` on the way out of `Send` -/
theorem ProtoOn.leaveSend (h : ProtoOn pn hs pc cc dn fl) :
    ProtoOn pn (hs.filter (· != t)) (upd pc t .idle) cc dn fl :=
  h.holder rfl (by simp) (fun x hx => by simp [hx]) fun hc => by rw [h.ch hc]; rfl

/-- the three steps of `Close`: while `t` is the only possible closer, `ThrOK` says nothing of closers
about anybody else -/
theorem ProtoOn.closer (h : ProtoOn pn hs pc cc dn fl) {v : Pc} {cc' dn' fl' : Bool}
    (only : ∀ x, isCloser (pc x) = true → x = t) (hv : ThrOK hs cc' dn' t v) (hfl : fl' = true)
    (cd : cc' = true → dn' = true) (ch : cc' = true → hs = []) : ProtoOn pn hs (upd pc t v) cc' dn' fl' :=
  have only' : ∀ x, isCloser (upd pc t v x) = true → x = t :=
    forall_upd (Q := fun x p => isCloser p = true → x = t) (fun _ => rfl) fun x _ => only x
  { nopanic := h.nopanic
    cflag := fun _ _ => hfl
    uniq := fun x y hx hy => by rw [only' x hx, only' y hy]
    thr := forall_upd hv fun x hx => ⟨(h.thr x).hold, fun e => absurd (only x (by rw [e]; rfl)) hx,
      fun e => absurd (only x (by rw [e]; rfl)) hx⟩
    cd := cd
    df := fun _ => hfl
    ch := ch }

end

/-- The specification itself is inductive: `lost` is `NothingLost`, `nodup` is `AtMostOnce`, `got` is
`OrderConsistent`; `fresh` is what keeps `nodup`: a sender's next sequence number (the length of its log) is
above every number it has used. -/
structure DataOn (recvd : List (Nat × Msg)) (buf : List Msg) (log : Nat → List Msg)
    (hist : Nat → List (Op × Res)) : Prop where
  lost : ∀ t, ((recvd.map (·.2) ++ buf).filter (fun m => m.tid == t)).map (·.val) = sentOK (hist t)
  nodup : (recvd.map (·.2) ++ buf).Nodup
  fresh : ∀ m ∈ recvd.map (·.2) ++ buf, m.seq < (log m.tid).length
  got : ∀ r, (recvd.filter (fun p => p.1 == r)).map (·.2) = received (hist r)

def Data (s : St) : Prop := DataOn s.recvd s.buf s.sentLog s.hist

section
variable {recvd : List (Nat × Msg)} {buf : List Msg} {log : Nat → List Msg} {hist : Nat → List (Op × Res)}

theorem DataOn.ret (h : DataOn recvd buf log hist) (t : Nat) (e : Op × Res) (hs : sentOK [e] = [])
    (hg : received [e] = []) : DataOn recvd buf log (upd hist t (hist t ++ [e])) :=
  { h with
    lost := forall_upd_eq (by rw [sentOK_append, hs, List.append_nil]; exact h.lost t) h.lost
    got := forall_upd_eq (by rw [received_append, hg, List.append_nil]; exact h.got t) h.got }

/-- `⟨t, (log t).length, v⟩` is `St.newMsg t v` -/
theorem DataOn.enq (h : DataOn recvd buf log hist) (t v : Nat) :
    DataOn recvd (buf ++ [⟨t, (log t).length, v⟩]) (upd log t (log t ++ [⟨t, (log t).length, v⟩]))
      (upd hist t (hist t ++ [(.send v, .ok true)])) where
  lost := by
    rw [← List.append_assoc]
    exact forall_upd_snoc (key := Msg.tid) (sentOK_append _ _) h.lost
  nodup := by
    rw [← List.append_assoc]
    exact List.nodup_append.2 ⟨h.nodup, List.pairwise_singleton _ _, fun a ha b hb e => by
      cases List.mem_singleton.1 hb; cases e; exact Nat.lt_irrefl _ (h.fresh _ ha)⟩
  fresh m hm := by
    rw [← List.append_assoc] at hm
    rcases List.mem_append.1 hm with hm | hm
    · refine Nat.lt_of_lt_of_le (h.fresh m hm) ?_
      unfold upd
      split
      · simp [*]
      · exact Nat.le_refl _
    · cases List.mem_singleton.1 hm; simp
  got := forall_upd_eq (by rw [received_append]; exact (h.got t).trans (List.append_nil _).symm) h.got

/-- a receive moves the boundary between `recvd` and `buf`; the sequence of both together stays -/
theorem DataOn.deq {m : Msg} {rest : List Msg} (h : DataOn recvd buf log hist) (hb : buf = m :: rest) (r : Nat) :
    DataOn (recvd ++ [(r, m)]) rest log (upd hist r (hist r ++ [(.recv, .got m)])) := by
  have e : (recvd ++ [(r, m)]).map (·.2) ++ rest = recvd.map (·.2) ++ buf := by
    rw [List.map_append, List.append_assoc, hb]; rfl
  refine ⟨forall_upd_eq ?_ (e ▸ h.lost), e ▸ h.nodup, e ▸ h.fresh,
    forall_upd_snoc (key := Prod.fst) (received_append _ _) h.got⟩
  rw [e, sentOK_append]; exact (h.lost r).trans (List.append_nil _).symm

end

def obsOf (s : St) : Spec.Chan.Obs := { hist := s.hist, order := s.recvd, buffered := s.buf }

theorem Data.spec {s : St} (h : Data s) :
    OrderConsistent (obsOf s) ∧ NothingLost (obsOf s) ∧ AtMostOnce (obsOf s) :=
  ⟨fun r => (h.got r).symm,
    fun t => ((List.map_append ..).symm.trans (congrArg _ (List.filter_append ..).symm)).trans (h.lost t), h.nodup⟩

/-- What a `null` / a returned `Close` found in a history says about the state ever since: the Go channel closed and
drained / the flag set. -/
structure ObsOn (hist : Nat → List (Op × Res)) (cc : Bool) (buf : List Msg) (fl : Bool) : Prop where
  nullc : ∀ r, (Op.recv, Res.null) ∈ hist r → cc = true ∧ buf = []
  closeRet : ∀ t, (Op.close, Res.unit) ∈ hist t → fl = true

def ObsInv (s : St) : Prop := ObsOn s.hist s.chClosed s.buf s.flag

section
variable {hist : Nat → List (Op × Res)} {cc fl : Bool} {buf : List Msg}

theorem mem_hist_ret {t x : Nat} {e e' : Op × Res} (h : e' ∈ upd hist t (hist t ++ [e]) x) :
    e' ∈ hist x ∨ e' = e :=
  forall_upd (Q := fun x l => e' ∈ l → e' ∈ hist x ∨ e' = e)
    (fun hm => (List.mem_append.1 hm).imp_right List.mem_singleton.1) (fun _ _ => .inl) x h

theorem ObsOn.ret (h : ObsOn hist cc buf fl) (t : Nat) (e : Op × Res)
    (hn : (.recv, .null) = e → cc = true ∧ buf = []) (hc : (.close, .unit) = e → fl = true) :
    ObsOn (upd hist t (hist t ++ [e])) cc buf fl where
  nullc r hr := (mem_hist_ret hr).elim (h.nullc r) hn
  closeRet x hx := (mem_hist_ret hx).elim (h.closeRet x) hc

theorem ObsOn.mono {cc' fl' : Bool} {buf' : List Msg} (h : ObsOn hist cc buf fl)
    (hn : cc = true ∧ buf = [] → cc' = true ∧ buf' = []) (hf : fl = true → fl' = true) : ObsOn hist cc' buf' fl' :=
  ⟨fun r hr => hn (h.nullc r hr), fun t ht => hf (h.closeRet t ht)⟩

end

/-- pc against program: a thread inside `Send` / `Close` still has that operation at the head of its program, which is
what lets `abort` and the closer's last step find their operation. -/
def wfAt (prog : Nat → List Op) (x : Nat) (p : Pc) : Prop :=
  (p = .sendChecked → ∃ v rest, prog x = .send v :: rest) ∧ (isCloser p = true → ∃ rest, prog x = .close :: rest)

theorem wf_ret {pc : Nat → Pc} {prog : Nat → List Op} (h : ∀ x, wfAt prog x (pc x)) (t : Nat) (l : List Op) :
    ∀ x, wfAt (upd prog t l) x (upd pc t .idle x) :=
  forall_upd ⟨nofun, fun e => by cases e⟩ fun x hx => by
    unfold wfAt
    rw [upd_other _ _ _ _ hx]
    exact h x

structure Inv (s : St) : Prop where
  proto : Proto s
  data : Data s
  obs : ObsInv s
  wf : ∀ t, wfAt s.prog t (s.pc t)

/-- Every clause is an implication from something the initial state has none of (a closer, a holder, a set latch, a
message, an event), or an equation between empty lists. -/
theorem inv_init (cap : Nat) (prog : Nat → List Op) : Inv (init cap prog) :=
  ⟨⟨⟨nofun, nofun⟩, rfl, fun _ => ⟨⟨nofun, nofun⟩, nofun, nofun⟩, nofun, nofun, nofun⟩,
    ⟨fun _ => rfl, .nil, nofun, fun _ => rfl⟩, ⟨nofun, nofun⟩, fun _ => ⟨nofun, nofun⟩⟩

theorem inv_step (s s' : St) (h : Inv s) (hp : Prim s s') : Inv s' := by
  cases hp with
  | quick t op res hpc hq =>
    exact ⟨h.proto.stay hpc, h.data.ret t _ hq.1 hq.2.1, h.obs.ret t _ hq.2.2.1 hq.2.2.2, wf_ret h.wf t _⟩
  | sendEnter t v rest hpg hf =>
    exact ⟨h.proto.enterSend hf, h.data, h.obs, forall_upd ⟨fun _ => ⟨v, rest, hpg⟩, fun e => by cases e⟩ fun x _ => h.wf x⟩
  | sendDo t v _ hc =>
    exact ⟨h.proto.leaveSend, h.data.enq t v, (h.obs.mono (fun e => by rw [hc] at e; cases e.1) id).ret t _ nofun nofun, wf_ret h.wf t _⟩
  | abort t v =>
    exact ⟨h.proto.leaveSend, h.data.ret t _ rfl rfl, h.obs.ret t _ nofun nofun, wf_ret h.wf t _⟩
  | recv r m rest hpc hb =>
    exact ⟨h.proto.stay hpc, h.data.deq hb r, (h.obs.mono (fun e => by rw [hb] at e; cases e.2) id).ret r _ nofun nofun,
      wf_ret h.wf r _⟩
  | closeEnter t rest hpc hpg hf =>
    have only : ∀ x, isCloser (s.pc x) = true → x = t := fun x hx => by rw [h.proto.cflag x hx] at hf; cases hf
    have hd : s.done = false := Bool.eq_false_iff.2 fun hd => by rw [h.proto.df hd] at hf; cases hf
    exact ⟨h.proto.closer only ⟨by simpa [hpc] using (h.proto.thr t).hold, fun _ => hd, nofun⟩ rfl h.proto.cd h.proto.ch,
      h.data, h.obs.mono id fun _ => rfl, forall_upd ⟨nofun, fun _ => ⟨rest, hpg⟩⟩ fun x _ => h.wf x⟩
  | closeSignal t hpc hd =>
    have hc : isCloser (s.pc t) = true := by rw [hpc]; rfl
    have hcc : s.chClosed = false := Bool.eq_false_iff.2 fun hc => by rw [h.proto.cd hc] at hd; cases hd
    exact ⟨h.proto.closer (fun x hx => h.proto.uniq x t hx hc)
        ⟨by simpa [hpc] using (h.proto.thr t).hold, nofun, fun _ => ⟨rfl, hcc⟩⟩ (h.proto.cflag t hc) (fun _ => rfl) h.proto.ch,
      h.data, h.obs, forall_upd ⟨nofun, fun _ => (h.wf t).2 hc⟩ fun x _ => h.wf x⟩
  | closeFinal t hpc hh =>
    have hc : isCloser (s.pc t) = true := by rw [hpc]; rfl
    exact ⟨h.proto.closer (fun x hx => h.proto.uniq x t hx hc) ⟨by simpa [hpc] using (h.proto.thr t).hold, nofun, nofun⟩
        (h.proto.cflag t hc) (fun _ => ((h.proto.thr t).cs hpc).1) (fun _ => hh),
      h.data.ret t _ rfl rfl, (h.obs.mono (fun e => ⟨rfl, e.2⟩) id).ret t _ nofun fun _ => h.proto.cflag t hc, wf_ret h.wf t _⟩
  | panic hp => exact absurd hp h.proto.no_panics

theorem inv_exec_from (s : St) (h : Inv s) (sched : List Act) : Inv (exec s sched) :=
  exec_induct Inv inv_step sched _ h

theorem inv_exec (cap : Nat) (prog : Nat → List Op) (sched : List Act) : Inv (exec (init cap prog) sched) :=
  inv_exec_from _ (inv_init cap prog) sched

theorem flag_exec (s : St) (sched : List Act) (hf : s.flag = true) : (exec s sched).flag = true :=
  exec_induct (fun s => s.flag = true) (fun s s' hf hp => by
    cases hp with
    | closeEnter => rfl
    | _ => exact hf) sched s hf

def msgs (s : St) : List Msg := s.recvd.map (·.2)

/-- after the Go channel is closed nothing is added: what leaves the buffer is received, no send succeeds -/
structure ClosedRel (s0 s : St) : Prop where
  closed : s.chClosed = true
  same : msgs s ++ s.buf = msgs s0 ++ s0.buf
  log : s.sentLog = s0.sentLog
  ext : ∃ e, s.recvd = s0.recvd ++ e
  shrink : ∃ k, s.buf = s0.buf.drop k

/-- on a closed channel the three latches are set and nobody holds `mu`: a step is a receive or a quiet return, the guard
of every other one asks for a clear latch or (`abort`) a holder -/
theorem closed_step (s0 s s' : St) (hpr : Proto s) (h : ClosedRel s0 s) (hp : Prim s s') : ClosedRel s0 s' := by
  have hd : s.done = true := hpr.cd h.closed
  have hf : s.flag = true := hpr.df hd
  cases hp with
  | quick => exact ⟨h.closed, h.same, h.log, h.ext, h.shrink⟩
  | recv r m rest hpc hb =>
    obtain ⟨e, he⟩ := h.ext
    obtain ⟨k, hk⟩ := h.shrink
    refine ⟨h.closed, ?_, h.log, ⟨e ++ [(r, m)], ?_⟩, ⟨k + 1, ?_⟩⟩
    · rw [← h.same, hb]
      simp [recvSt, St.finish, msgs]
    · simp [recvSt, St.finish, he]
    · rw [← List.drop_drop, ← hk, hb]; rfl
  | sendEnter _ _ _ _ hf' | closeEnter _ _ _ _ hf' => rw [hf] at hf'; cases hf'
  | sendDo _ _ _ hc | closeFinal _ _ _ hc => rw [h.closed] at hc; cases hc
  | closeSignal _ _ hd' => rw [hd] at hd'; cases hd'
  | abort t _ hpc =>
    have := (hpr.thr t).hold.2 hpc
    rw [hpr.ch h.closed] at this
    cases this
  | panic hp => exact absurd hp hpr.no_panics

theorem closed_exec (s0 : St) (hi : Inv s0) (hc : s0.chClosed = true) (sched : List Act) :
    ClosedRel s0 (exec s0 sched) :=
  (exec_induct (fun s => Inv s ∧ ClosedRel s0 s)
    (fun s s' h hp => ⟨inv_step s s' h.1 hp, closed_step s0 s s' h.1.proto h.2 hp⟩)
    sched s0 ⟨hi, ⟨hc, rfl, rfl, ⟨[], (List.append_nil _).symm⟩, ⟨0, rfl⟩⟩⟩).2

theorem ClosedRel.frozen {s0 s : St} (h : ClosedRel s0 s) (hb : s0.buf = []) : s.recvd = s0.recvd ∧ s.buf = [] := by
  obtain ⟨k, hk⟩ := h.shrink
  have hb' : s.buf = [] := by rw [hk, hb, List.drop_nil]
  obtain ⟨e, he⟩ := h.ext
  have hs := h.same
  rw [hb, hb', msgs, msgs, he, List.map_append, List.append_nil, List.append_nil] at hs
  exact ⟨by rw [he, List.map_eq_nil_iff.1 (List.append_right_eq_self.1 hs), List.append_nil], hb'⟩

end Proofs.Chan
