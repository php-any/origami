import Proofs.Lemmas.Pattern
import Spec.Chan
/-! `Spec.Chan` on its own: its two history functions and the implications between its predicates, for any `Obs`.
`sentOK_eq`, `received_eq`: the model's recursive `okSends` / `gots` are the same functions. `Pattern` (C20's module) is
imported for one list lemma, `inj_of_nodup_map`, which `OrderConsistent.disjoint` needs. -/
namespace Proofs.Chan
open Model.Chan Spec.Chan

theorem sentOK_append (a b : List (Op × Res)) : sentOK (a ++ b) = sentOK a ++ sentOK b := List.filterMap_append

theorem received_append (a b : List (Op × Res)) : received (a ++ b) = received a ++ received b := List.filterMap_append

theorem sentOK_eq (h : List (Op × Res)) : Spec.Chan.sentOK h = okSends h := by
  fun_induction okSends h with
  | case1 => rfl
  | case2 v h ih => exact congrArg (v :: ·) ih
  | case3 x h hne ih =>
    -- `hne`: `x` is not a successful send, so the specification's `match` falls through as well
    exact (List.filterMap_cons_none (by split; exact absurd rfl (hne _); rfl)).trans ih

theorem received_eq (h : List (Op × Res)) : Spec.Chan.received h = gots h := by
  fun_induction gots h with
  | case1 => rfl
  | case2 op m h ih => exact congrArg (m :: ·) ih
  | case3 x h hne ih => exact (List.filterMap_cons_none (by split; exact absurd rfl (hne _ _); rfl)).trans ih

variable {o : Obs}

theorem _root_.Spec.Chan.NothingLost.fifo (h : NothingLost o) : PerSenderFifo o :=
  fun t => h t ▸ List.prefix_append _ _

theorem _root_.Spec.Chan.NothingLost.drained (h : NothingLost o) : ExactlyOnceWhenDrained o := fun hb t => by
  have := h t
  rwa [hb, List.filter_nil, List.map_nil, List.append_nil] at this

theorem _root_.Spec.Chan.OrderConsistent.sees (hc : OrderConsistent o) (hf : PerSenderFifo o) : ReceiverSeesSenderOrder o :=
  fun r t => by
    rw [hc r]
    exact ((List.Sublist.filter _ (List.Sublist.map _ List.filter_sublist)).map _).trans (hf t).sublist

theorem _root_.Spec.Chan.OrderConsistent.noInvention (hc : OrderConsistent o) (hl : NothingLost o) : NoInvention o :=
  fun r m hm => by
    rw [hc r] at hm
    obtain ⟨p, hp, rfl⟩ := List.mem_map.1 hm
    rw [← hl p.2.tid]
    exact List.mem_append_left _ (List.mem_map_of_mem
      (List.mem_filter.2 ⟨List.mem_map_of_mem (List.mem_filter.1 hp).1, beq_self_eq_true _⟩))

theorem _root_.Spec.Chan.OrderConsistent.disjoint (hc : OrderConsistent o) (hn : AtMostOnce o) {r r' : Nat} {m : Msg}
    (h : m ∈ received (o.hist r)) (h' : m ∈ received (o.hist r')) : r = r' := by
  rw [hc] at h h'
  obtain ⟨p, hp, e⟩ := List.mem_map.1 h
  obtain ⟨p', hp', e'⟩ := List.mem_map.1 h'
  obtain ⟨hm, hr⟩ := List.mem_filter.1 hp
  obtain ⟨hm', hr'⟩ := List.mem_filter.1 hp'
  rw [← beq_iff_eq.1 hr, ← beq_iff_eq.1 hr',
    Pattern.inj_of_nodup_map (·.2) (List.nodup_append.1 hn).1 hm hm' (e.trans e'.symm)]

end Proofs.Chan
