import Spec.Chan
/-! The transitions of `Model.Chan` as a relation: each constructor carries its guard and the resulting state. -/
namespace Proofs.Chan
open Model.Chan Spec.Chan

@[simp] theorem upd_same {α : Type} (f : Nat → α) (t : Nat) (v : α) : upd f t v t = v := by simp [upd]
theorem upd_other {α : Type} (f : Nat → α) (t x : Nat) (v : α) (h : x ≠ t) : upd f t v x = f x := by simp [upd, h]

theorem upd_self {α : Type} {f : Nat → α} {t : Nat} {v : α} (h : f t = v) : upd f t v = f := by
  funext x
  unfold upd
  split
  · subst x; exact h.symm
  · rfl

theorem forall_upd {α : Type} {Q : Nat → α → Prop} {f : Nat → α} {t : Nat} {v : α}
    (hv : Q t v) (hf : ∀ x, x ≠ t → Q x (f x)) (x : Nat) : Q x (upd f t v x) := by
  unfold upd
  split
  · subst x; exact hv
  · exact hf x ‹_›

theorem forall_upd_eq {α β : Type} {F : Nat → β} {G : α → β} {f : Nat → α} {t : Nat} {v : α}
    (hv : F t = G v) (hf : ∀ x, F x = G (f x)) : ∀ x, F x = G (upd f t v x) :=
  forall_upd (Q := fun x a => F x = G a) hv fun x _ => hf x

/-- A list of events seen through per-thread views: one more event `a` shows up in the view of `key a` alone. -/
theorem forall_upd_snoc {α β γ : Type} {key : α → Nat} {f : α → β} {G : γ → List β} {l : List α} {a : α}
    {F : Nat → γ} {v : γ} (hv : G v = G (F (key a)) ++ [f a])
    (h : ∀ x, (l.filter (fun b => key b == x)).map f = G (F x)) :
    ∀ x, ((l ++ [a]).filter (fun b => key b == x)).map f = G (upd F (key a) v x) := by
  intro x
  rw [List.filter_append, List.map_append, h x]
  unfold upd
  split
  · subst x
    rw [List.filter_cons_of_pos (p := fun b => key b == key a) (beq_self_eq_true _)]
    exact hv.symm
  · rw [List.filter_cons_of_neg (p := fun b => key b == x) fun e => ‹¬x = key a› (beq_iff_eq.1 e).symm]
    exact List.append_nil _

/-- `case channel <- v` succeeds -/
def sendSt (s : St) (t v : Nat) : St :=
  { s with buf := s.buf ++ [s.newMsg t v], sentLog := upd s.sentLog t (s.sentLog t ++ [s.newMsg t v]),
           holders := s.release t }.finish t (.send v) (.ok true)

/-- `<-channel` on the buffer `m :: rest` -/
def recvSt (s : St) (r : Nat) (m : Msg) (rest : List Msg) : St :=
  { s with buf := rest, recvd := s.recvd ++ [(r, m)] }.finish r .recv (.got m)

/-- a return straight from `idle`: no message moves; a null or a returned `Close` is backed by the state -/
def Quiet (s : St) (op : Op) (res : Res) : Prop :=
  sentOK [(op, res)] = [] ∧ received [(op, res)] = [] ∧
  ((.recv, .null) = (op, res) → s.chClosed = true ∧ s.buf = []) ∧ ((.close, .unit) = (op, res) → s.flag = true)

/-- where Go panics: send on a closed channel, `close(done)` / `close(channel)` on a closed one -/
def Panics (s : St) : Prop :=
  ∃ t, (s.pc t = .sendChecked ∧ s.chClosed = true) ∨ (s.pc t = .closeFlagged ∧ s.done = true) ∨
    (s.pc t = .closeSignalled ∧ s.chClosed = true)

/-- The guards are those the invariants need, not all the model has: `sendDo` does not ask for room (nothing proved
from `Prim` depends on the capacity, and the rendezvous can be `sendDo` then `recv`), `abort` does not ask for `done`,
and `v` in `sendDo` / `abort` is not read off `prog`. -/
inductive Prim (s : St) : St → Prop
  | quick (t : Nat) (op : Op) (res : Res) : s.pc t = .idle → Quiet s op res → Prim s (s.finish t op res)
  | sendEnter (t v : Nat) (rest : List Op) : s.prog t = .send v :: rest → s.flag = false →
      Prim s { s with pc := upd s.pc t .sendChecked, holders := t :: s.holders }
  | sendDo (t v : Nat) : s.pc t = .sendChecked → s.chClosed = false → Prim s (sendSt s t v)
  | abort (t v : Nat) : s.pc t = .sendChecked →
      Prim s ({ s with holders := s.release t }.finish t (.send v) (.ok false))
  | recv (r : Nat) (m : Msg) (rest : List Msg) : s.pc r = .idle → s.buf = m :: rest → Prim s (recvSt s r m rest)
  | closeEnter (t : Nat) (rest : List Op) : s.pc t = .idle → s.prog t = .close :: rest → s.flag = false →
      Prim s { s with flag := true, pc := upd s.pc t .closeFlagged }
  | closeSignal (t : Nat) : s.pc t = .closeFlagged → s.done = false →
      Prim s { s with done := true, pc := upd s.pc t .closeSignalled }
  | closeFinal (t : Nat) : s.pc t = .closeSignalled → s.holders = [] → s.chClosed = false →
      Prim s ({ s with chClosed := true }.finish t .close .unit)
  | panic : Panics s → Prim s { s with panicked := true }

/-- the rendezvous is two `Prim`s, the send into the empty buffer and the receive -/
theorem prim_of_step (s s' : St) (a : Act) (h : step s a = some s') :
    Prim s s' ∨ ∃ mid, Prim s mid ∧ Prim mid s' := by
  -- `step`: panicked, `run`, `abort`, `hand`. `stepRun`: from `idle` `Send`, `Receive`, `Close`, `IsClosed`; then the
  -- `select`, `close(done)`, `close(channel)`; no step at this pc / program.
  revert h
  fun_cases step s a with
  | case1 => nofun
  | case2 _ t =>
    refine fun h => .inl ?_
    revert h
    fun_cases stepRun s t with
    | case1 v _ hpg hpc =>
      rintro ⟨⟩
      fun_cases stepSendCheck s t v with
      | case1 => exact .quick _ _ _ hpc ⟨rfl, rfl, nofun, nofun⟩
      | case2 hf => exact .sendEnter _ _ _ hpg (eq_false_of_ne_true hf)
    | case2 _ _ hpc =>
      fun_cases stepRecv s t with
      | case1 _ _ hb => rintro ⟨⟩; exact .recv _ _ _ hpc hb
      | case2 hb hc => rintro ⟨⟩; exact .quick _ _ _ hpc ⟨rfl, rfl, fun _ => ⟨hc, hb⟩, nofun⟩
      | case3 => nofun
    | case3 _ hpg hpc =>
      rintro ⟨⟩
      fun_cases stepCloseCas s t with
      | case1 hf => exact .quick _ _ _ hpc ⟨rfl, rfl, nofun, fun _ => hf⟩
      | case2 hf => exact .closeEnter _ _ hpc hpg (eq_false_of_ne_true hf)
    | case4 _ _ hpc => rintro ⟨⟩; exact .quick _ _ _ hpc ⟨rfl, rfl, nofun, nofun⟩
    | case5 v _ _ hpc =>
      fun_cases stepSendDo s t v with
      | case1 hc => rintro ⟨⟩; exact .panic ⟨t, .inl ⟨hpc, hc⟩⟩
      | case2 hc => rintro ⟨⟩; exact .sendDo _ _ hpc (eq_false_of_ne_true hc)
      | case3 => nofun
    | case6 _ _ hpc =>
      rintro ⟨⟩
      fun_cases stepCloseSignal s t with
      | case1 hd => exact .panic ⟨t, .inr (.inl ⟨hpc, hd⟩)⟩
      | case2 hd => exact .closeSignal _ hpc (eq_false_of_ne_true hd)
    | case7 _ _ hpc =>
      fun_cases stepCloseFinal s t with
      | case1 => nofun
      | case2 hh hc => rintro ⟨⟩; exact .panic ⟨t, .inr (.inr ⟨hpc, hc⟩)⟩
      | case3 hh hc => rintro ⟨⟩; exact .closeFinal _ hpc (Decidable.not_not.1 hh) (eq_false_of_ne_true hc)
    | case8 => nofun
  | case3 _ t =>
    fun_cases stepAbortT s t with
    | case1 v _ _ hpc =>
      fun_cases stepAbort s t v with
      | case1 => rintro ⟨⟩; exact .inl (.abort _ _ hpc)
      | case2 => nofun
    | case2 => nofun
  | case4 _ t r =>
    fun_cases stepHand s t r with
    | case1 => nofun
    | case2 v _ _ _ hpr _ hpt hc hcb =>
      rintro ⟨⟩
      refine .inr ⟨sendSt s t v, .sendDo t v hpt (eq_false_of_ne_true hc), ?_⟩
      have hr : upd s.pc t .idle r = .idle := by
        unfold upd
        split
        · rfl
        · exact hpr
      have hb : (sendSt s t v).buf = [s.newMsg t v] := congrArg (· ++ _) hcb.2
      simpa only [sendSt, recvSt, St.finish, hcb.2, List.nil_append] using Prim.recv r _ _ hr hb
    | case3 => nofun
    | case4 => nofun

theorem exec_induct (P : St → Prop) (hstep : ∀ s s', P s → Prim s s' → P s')
    (sched : List Act) (s : St) (h : P s) : P (exec s sched) := by
  fun_induction exec s sched with
  | case1 => exact h
  | case2 s a _ s' hs ih =>
    rcases prim_of_step s s' a hs with hp | ⟨mid, h1, h2⟩
    · exact ih (hstep _ _ h hp)
    · exact ih (hstep _ _ (hstep _ _ h h1) h2)
  | case3 _ _ _ _ ih => exact ih h

end Proofs.Chan
