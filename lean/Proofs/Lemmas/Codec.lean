import Model.Codec
import Spec.Codec
/-! The byte codecs of `Model.Codec` against `Spec.Codec`. Base64: there are two decoders — `b64DecodeAux` models the
lenient `encoding/base64`, `Spec.Codec.b64Decode` is strict RFC 4648. The encoder is held against the strict one in the
property file (`C14_base64_reference_reads_back`, from `b64_char` and `b64_bytes` here), and the library decoder reads
whatever the strict one reads, with the same answer (`lenient_of_strict`).

Bytes by number: `=` 61, `%` 37, `+` 43, space 32. -/
namespace Proofs.Codec
open Model.Codec

theorem isBytes_nil : IsBytes [] := by intro b h; cases h
theorem isBytes_cons {b : Nat} {l : Bytes} : IsBytes (b :: l) ↔ b < 256 ∧ IsBytes l := by
  simp [IsBytes]
theorem isBytes_append {l₁ l₂ : Bytes} : IsBytes (l₁ ++ l₂) ↔ IsBytes l₁ ∧ IsBytes l₂ := by
  simp only [IsBytes, List.mem_append]
  constructor
  · intro h; exact ⟨fun b hb => h b (Or.inl hb), fun b hb => h b (Or.inr hb)⟩
  · rintro ⟨h1, h2⟩ b (hb | hb); exact h1 b hb; exact h2 b hb

theorem hex_nibble : ∀ d, d < 16 →
    Spec.Codec.hexVal (hexDigit d) = some d ∧ Spec.Codec.isLowerHex (hexDigit d) = true := by decide +kernel

theorem hex_spec (bs : Bytes) (h : IsBytes bs) :
    Spec.Codec.hexDecode (hexEncode bs) = some bs ∧ ∀ c ∈ hexEncode bs, Spec.Codec.isLowerHex c = true := by
  induction bs with
  | nil => exact ⟨rfl, nofun⟩
  | cons b rest ih =>
    obtain ⟨hb, hr⟩ := isBytes_cons.mp h
    obtain ⟨h1, l1⟩ := hex_nibble (b / 16) (Nat.div_lt_of_lt_mul hb)
    obtain ⟨h2, l2⟩ := hex_nibble (b % 16) (Nat.mod_lt b (by decide))
    refine ⟨?_, List.forall_mem_cons.2 ⟨l1, List.forall_mem_cons.2 ⟨l2, (ih hr).2⟩⟩⟩
    simp only [hexEncode, Spec.Codec.hexDecode, h1, h2, (ih hr).1]
    congr 2; omega

theorem hex_length (bs : Bytes) : (hexEncode bs).length = 2 * bs.length := by
  induction bs with
  | nil => rfl
  | cons b rest ih => simp only [hexEncode, List.length_cons, ih]; omega

theorem b64_char : ∀ v, v < 64 →
    b64Sextet (b64Char v) = some v ∧ Spec.Codec.sextet (b64Char v) = some v ∧ b64Char v ≠ 61 := by
  -- the position in the RFC table decides membership too, so the table is searched once per sextet
  have hi : ∀ v, v < 64 → Spec.Codec.alphabet.idxOf (b64Char v) = v := by decide +kernel
  have hm : ∀ v, v < 64 → b64Sextet (b64Char v) = some v ∧ b64Char v ≠ 61 := by decide +kernel
  intro v hv
  have hc : Spec.Codec.alphabet.contains (b64Char v) = true :=
    List.contains_iff_mem.mpr (List.idxOf_lt_length_iff.mp (by rw [hi v hv]; exact hv))
  exact ⟨(hm v hv).1, by rw [Spec.Codec.sextet, if_pos hc, hi v hv], (hm v hv).2⟩

theorem b64Sextet_61 : b64Sextet 61 = none := by decide

theorem alphabet_eq : Spec.Codec.alphabet = (List.range 64).map b64Char := by decide

theorem sextet_agree {c v : Nat} (h : Spec.Codec.sextet c = some v) : b64Sextet c = some v ∧ v < 64 := by
  have hc : c ∈ Spec.Codec.alphabet := by
    unfold Spec.Codec.sextet at h
    split at h
    · next hc => exact List.contains_iff_mem.mp hc
    · cases h
  rw [alphabet_eq] at hc
  obtain ⟨w, hw, rfl⟩ := List.mem_map.mp hc
  obtain ⟨h1, h2, _⟩ := b64_char w (List.mem_range.mp hw)
  rw [h2] at h
  cases h
  exact ⟨h1, List.mem_range.mp hw⟩

theorem b64_quantum {c0 c1 c2 c3 v0 v1 v2 v3 : Nat} (h0 : b64Sextet c0 = some v0) (h1 : b64Sextet c1 = some v1)
    (h2 : b64Sextet c2 = some v2) (h3 : b64Sextet c3 = some v3) (rest : Bytes) :
    b64DecodeAux (c0 :: c1 :: c2 :: c3 :: rest) [] =
      match b64DecodeAux rest [] with
      | some out => some (b64Emit [v0, v1, v2, v3] ++ out)
      | none => none := by
  simp only [b64DecodeAux, h0, h1, h2, h3, List.length_nil, List.length_cons, List.nil_append, List.cons_append]
  simp
  rfl

theorem b64_pad1 {c0 c1 c2 v0 v1 v2 : Nat} (h0 : b64Sextet c0 = some v0) (h1 : b64Sextet c1 = some v1)
    (h2 : b64Sextet c2 = some v2) : b64DecodeAux [c0, c1, c2, 61] [] = some (b64Emit [v0, v1, v2]) := by
  simp only [b64DecodeAux, h0, h1, h2, b64Sextet_61, List.length_nil, List.length_cons, List.nil_append,
    List.cons_append]
  simp [b64Padding, dropNL]

theorem b64_pad2 {c0 c1 v0 v1 : Nat} (h0 : b64Sextet c0 = some v0) (h1 : b64Sextet c1 = some v1) :
    b64DecodeAux [c0, c1, 61, 61] [] = some (b64Emit [v0, v1]) := by
  simp only [b64DecodeAux, h0, h1, b64Sextet_61, List.length_nil, List.length_cons, List.nil_append,
    List.cons_append]
  simp [b64Padding, dropNL]

/-- the bytes `encoding/base64` cuts out of the 24-bit value `w` of a quantum are those RFC 4648
assembles from neighbouring sextets (short quantum: the missing sextets are `0`) -/
theorem b64Emit_arith (v0 v1 v2 v3 w : Nat) (h2 : v2 < 64) (h3 : v3 < 64)
    (hw : w = v0 * 262144 + v1 * 4096 + v2 * 64 + v3) :
    w / 65536 % 256 = (v0 * 4 + v1 / 16) % 256 ∧
    w / 256 % 256 = (v1 % 16 * 16 + v2 / 4) % 256 ∧
    w % 256 = (v2 % 4 * 64 + v3) % 256 := by
  refine ⟨?_, ?_, ?_⟩ <;> omega

/-- the sextets of three bytes, reassembled (remainder of two bytes or one: the missing are `0`) -/
theorem b64_bytes (a b c val : Nat) (ha : a < 256) (hb : b < 256) (hc : c < 256)
    (hval : val = a * 65536 + b * 256 + c) :
    (val / 262144 % 64 * 4 + val / 4096 % 64 / 16) % 256 = a ∧
    (val / 4096 % 64 % 16 * 16 + val / 64 % 64 / 4) % 256 = b ∧
    (val / 64 % 64 % 4 * 64 + val % 64) % 256 = c := by
  refine ⟨?_, ?_, ?_⟩ <;> omega

/-- quantum by quantum, the library's bytes are the RFC's (`b64Emit_arith`) -/
theorem lenient_of_strict (s : Bytes) : ∀ bs, Spec.Codec.b64Decode s = some bs → b64DecodeAux s [] = some bs := by
  -- arms of the strict decoder: 1 the empty text; 2 `xx==`; 4 `xxx=`; 6 a full quantum and the rest; 3, 5, 7 the same three
  -- with a character outside the table; 8 fewer than four characters left
  fun_induction Spec.Codec.b64Decode s with
  | case1 => intro bs h; cases h; rfl
  | case2 c0 c1 c2 c3 rest hc v0 v1 e1 e0 =>
    intro bs h
    cases h
    obtain ⟨hr, rfl, rfl⟩ := hc
    rw [List.isEmpty_iff.mp hr, b64_pad2 (sextet_agree e0).1 (sextet_agree e1).1]
    obtain ⟨f1, _, _⟩ := b64Emit_arith v0 v1 0 0 (v0 * 262144 + v1 * 4096) (by decide) (by decide) (by omega)
    simp only [b64Emit, f1]
  | case3 => intro bs h; cases h
  | case4 c0 c1 c2 c3 rest _ hc v0 v1 v2 e2 e1 e0 =>
    intro bs h
    cases h
    obtain ⟨hr, rfl⟩ := hc
    rw [List.isEmpty_iff.mp hr, b64_pad1 (sextet_agree e0).1 (sextet_agree e1).1 (sextet_agree e2).1]
    obtain ⟨f1, f2, _⟩ := b64Emit_arith v0 v1 v2 0 _ (sextet_agree e2).2 (by decide) (Nat.add_zero _).symm
    simp only [b64Emit, f1, f2]
  | case5 => intro bs h; cases h
  | case6 c0 c1 c2 c3 rest _ _ v0 v1 v2 v3 out eo e3 e2 e1 e0 ih =>
    intro bs h
    cases h
    rw [b64_quantum (sextet_agree e0).1 (sextet_agree e1).1 (sextet_agree e2).1 (sextet_agree e3).1, ih out eo]
    obtain ⟨f1, f2, f3⟩ := b64Emit_arith v0 v1 v2 v3 _ (sextet_agree e2).2 (sextet_agree e3).2 rfl
    simp only [b64Emit, f1, f2, f3]
    rfl
  | case7 => intro bs h; cases h
  | case8 => intro bs h; cases h

theorem upperHex_nibble : ∀ d, d < 16 →
    unhex (upperHexDigit d) = some d ∧ Spec.Codec.hexVal (upperHexDigit d) = some d ∧
    Spec.Codec.upperHex.getD d 0 = upperHexDigit d ∧ upperHexDigit d ≠ 43 ∧ upperHexDigit d ≠ 37 := by
  decide +kernel

theorem unreservedChars_eq : Spec.Codec.unreservedChars =
    List.range' 65 26 ++ List.range' 97 26 ++ List.range' 48 10 ++ [45, 46, 95, 126] := by decide

theorem unreserved_agree (c : Nat) : isUnreserved c = Spec.Codec.unreserved c := by
  rw [Bool.eq_iff_iff]
  simp only [Spec.Codec.unreserved, unreservedChars_eq, List.contains_iff_mem, List.mem_append,
    List.mem_range'_1, isUnreserved, isAlnum, Bool.or_eq_true, Bool.and_eq_true, decide_eq_true_eq,
    List.mem_cons, List.not_mem_nil, or_false]
  omega

theorem unreserved_facts (c : Nat) (h : isUnreserved c = true) : c ≠ 37 ∧ c ≠ 43 ∧ c ≠ 32 := by
  refine ⟨?_, ?_, ?_⟩ <;> (rintro rfl; revert h; decide)

theorem unescape_keep (plus : Bool) (c : Nat) (rest : Bytes) (h37 : c ≠ 37) (h43 : c ≠ 43) :
    unescapeFrom plus .plain (c :: rest) = consOpt c (unescapeFrom plus .plain rest) := by
  rw [unescapeFrom, if_neg h37]
  simp only [h43, decide_false, Bool.and_false, Bool.false_eq_true, if_false]

theorem unescape_pct (plus : Bool) (c : Nat) (hc : c < 256) (rest : Bytes) :
    unescapeFrom plus .plain (37 :: upperHexDigit (c / 16) :: upperHexDigit (c % 16) :: rest) =
      consOpt c (unescapeFrom plus .plain rest) := by
  simp only [unescapeFrom, if_true, (upperHex_nibble (c / 16) (by omega)).1,
    (upperHex_nibble (c % 16) (by omega)).1]
  rw [Nat.div_add_mod' c 16]

/-- `QueryUnescape ∘ QueryEscape = id` -/
theorem query_roundtrip (bs : Bytes) (h : IsBytes bs) : unescape true (queryEscape bs) = some bs := by
  unfold unescape
  induction bs with
  | nil => rfl
  | cons c rest ih =>
    obtain ⟨hc, hr⟩ := isBytes_cons.mp h
    rw [queryEscape]
    split
    · rename_i hu
      obtain ⟨h37, h43, _⟩ := unreserved_facts c hu
      rw [unescape_keep _ _ _ h37 h43, ih hr]; rfl
    · split
      · rename_i _ h32
        rw [h32, unescapeFrom, if_neg (by decide), ih hr]; rfl
      · rw [unescape_pct _ c hc, ih hr]; rfl

theorem pct_eq (c : Nat) (hc : c < 256) :
    Spec.Codec.pct c = [37, upperHexDigit (c / 16), upperHexDigit (c % 16)] := by
  have h1 := upperHex_nibble (c / 16) (by omega)
  have h2 := upperHex_nibble (c % 16) (by omega)
  unfold Spec.Codec.pct
  rw [h1.2.2.1, h2.2.2.1]

/-- `rawurlencode`, byte by byte: the `+` that `QueryEscape` writes for a space becomes `%20`, and it
writes no other `+` -/
theorem raw_cons (c : Nat) (hc : c < 256) (rest : Bytes) :
    replacePlus (queryEscape (c :: rest)) =
      (if isUnreserved c then [c] else [37, upperHexDigit (c / 16), upperHexDigit (c % 16)]) ++
        replacePlus (queryEscape rest) := by
  rw [queryEscape]
  split
  · rename_i hu
    rw [replacePlus, if_neg (unreserved_facts c hu).2.1]; rfl
  · split
    · rename_i _ h32
      rw [h32, replacePlus, if_pos rfl]; rfl
    · have h1 := (upperHex_nibble (c / 16) (by omega)).2.2.2.1
      have h2 := (upperHex_nibble (c % 16) (by omega)).2.2.2.1
      rw [replacePlus, if_neg (by decide), replacePlus, if_neg h1, replacePlus, if_neg h2]; rfl

/-- `PathUnescape ∘ rawurlencode = id` -/
theorem raw_roundtrip (bs : Bytes) (h : IsBytes bs) :
    unescape false (replacePlus (queryEscape bs)) = some bs := by
  unfold unescape
  induction bs with
  | nil => rfl
  | cons c rest ih =>
    obtain ⟨hc, hr⟩ := isBytes_cons.mp h
    rw [raw_cons c hc]
    split
    · rename_i hu
      obtain ⟨h37, h43, _⟩ := unreserved_facts c hu
      rw [List.cons_append, List.nil_append, unescape_keep _ _ _ h37 h43, ih hr]; rfl
    · simp only [List.cons_append, List.nil_append]
      rw [unescape_pct _ c hc, ih hr]; rfl

end Proofs.Codec
