import Model.CodecTable
import Proofs.Lemmas.Codec
/-! What the property file's `C14_wrapper_rows_denote_model` and `C14_wrapper_pairs_roundtrip` are put together from: the
functions of `Model.Codec` the library pipelines of the wrapper table denote (`pipe_*`), `interp` of a row by its error
convention, and an encoder row and a decoder row with inverse pipelines are inverse to each other (`pair_of`). -/
namespace Proofs.CodecTable
open Model.Codec Model.CodecTable Proofs.Codec

theorem pipeline_one {c : String} {f : Bytes → Option Bytes} (h : libStep c = some f) :
    pipeline [c] = some f := by
  simp only [pipeline, h]
  exact congrArg some (funext fun s => by cases f s <;> rfl)

theorem pipe_b64enc : pipeline ["base64.StdEncoding.EncodeToString(_)"] = some (fun s => some (base64Encode s)) :=
  pipeline_one (by simp [libStep])

theorem pipe_b64dec : pipeline ["base64.StdEncoding.DecodeString(_)"] = some (fun s => base64Decode s) :=
  pipeline_one (by simp [libStep])

theorem pipe_query : pipeline ["url.QueryEscape(_)"] = some (fun s => some (queryEscape s)) :=
  pipeline_one (by simp [libStep])

theorem pipe_raw : pipeline ["url.QueryEscape(_)", "strings.ReplaceAll(_,\"+\",\"%20\")"]
    = some (fun s => some (replacePlus (queryEscape s))) := by
  rw [pipeline, pipeline_one (f := fun s => some (replacePlus s)) (by simp [libStep])]
  simp [libStep]

theorem pipe_unq : pipeline ["url.QueryUnescape(_)"] = some (fun s => unescape true s) :=
  pipeline_one (by simp [libStep])

theorem pipe_unp : pipeline ["url.PathUnescape(_)"] = some (fun s => unescape false s) :=
  pipeline_one (by simp [libStep])

theorem pipe_hex : pipeline ["hex.EncodeToString(_)"] = some (fun s => some (hexEncode s)) :=
  pipeline_one (by simp [libStep])

theorem interp_some {w : Wrapper} {f : Bytes → Out} (h : interp w = some f) :
    ∃ p, pipeline w.libs = some p ∧ ∀ s r, p s = some r → f s = .bytes r := by
  revert h
  -- arms of `interp`: 1 no pipeline; 2 `onError = "input"`; 3 `"false"` / `"none"`; 4 any other word
  fun_cases interp w <;> intro h
  case case2 p hp _ | case3 p hp _ _ => cases h; exact ⟨p, hp, fun s r hr => by simp only [hr]⟩
  all_goals cases h

theorem pair_of {enc dec : Wrapper} {fe fd : Bytes → Out} {pe : Bytes → Bytes} {pd : Bytes → Option Bytes}
    (he : interp enc = some fe) (hd : interp dec = some fd)
    (hpe : pipeline enc.libs = some (fun s => some (pe s))) (hpd : pipeline dec.libs = some pd)
    (bs : Bytes) (hrt : pd (pe bs) = some bs) : ∃ mid, fe bs = .bytes mid ∧ fd mid = .bytes bs := by
  obtain ⟨p, hp, hfe⟩ := interp_some he
  obtain ⟨q, hq, hfd⟩ := interp_some hd
  rw [hpe] at hp; rw [hpd] at hq
  cases hp; cases hq
  exact ⟨pe bs, hfe bs _ rfl, hfd _ bs hrt⟩

theorem interp_enc (w : Wrapper) (p : Bytes → Bytes) (hp : pipeline w.libs = some (fun s => some (p s)))
    (ho : w.onError = "none") : interp w = some (fun s => .bytes (p s)) := by
  simp [interp, hp, ho]

theorem interp_dec_input (w : Wrapper) (p : Bytes → Option Bytes) (hp : pipeline w.libs = some p)
    (ho : w.onError = "input") : interp w = some (fun s => .bytes ((p s).getD s)) := by
  simp only [interp, hp, ho, if_true]
  congr 1
  funext s
  cases p s <;> rfl

theorem interp_dec_false (w : Wrapper) (p : Bytes → Option Bytes) (hp : pipeline w.libs = some p)
    (ho : w.onError = "false") :
    interp w = some (fun s => match p s with
      | some r => .bytes r
      | none => .false) := by
  simp [interp, hp, ho]
  funext s
  cases p s <;> rfl

end Proofs.CodecTable
