import Model.Conv
import Spec.Conv
/-!
Decidable well-formedness of the regenerated kind-switch tables of `convertToGoValue` /
`convertToScriptValue` and what it implies for `toGo`, `toScript`, `convArgs` and `call`.
Exactness is stated on the Go side in both directions: `scriptOf g.val` is the script value that a
well-typed Go value `g` is; `of_denote`, `reflectBack_scriptOf` tie `scriptOf` to the specification.
`tableExact` is the obligation for the IN table (`convertToGoValue`), `outTableExact` for the OUT table.
-/
namespace Proofs.Conv
open Model.Conv Spec.Conv

theorem fits_iff {k : Kind} {lo hi n : Int} (hr : k.intRange = some (lo, hi)) :
    k.fits n = true ↔ lo ≤ n ∧ n ≤ hi := by
  simp [Kind.fits, hr]

theorem isInt_of_fits {k : Kind} {n : Int} (h : k.fits n = true) : k.isInt = true := by
  unfold Kind.fits at h
  unfold Kind.isInt
  cases hr : k.intRange with
  | none => rw [hr] at h; cases h
  | some r => rfl

theorem wrap_of_fits {k : Kind} {n : Int} (h : k.fits n = true) : k.wrap n = n := by
  unfold Kind.wrap
  cases hr : k.intRange with
  | none => rfl
  | some r =>
    obtain ⟨h1, h2⟩ := (fits_iff hr).1 h
    show (n - r.1) % (r.2 - r.1 + 1) + r.1 = n
    rw [Int.emod_eq_of_lt (Int.sub_nonneg.mpr h1) (by omega)]
    exact Int.sub_add_cancel n r.1

/-- the kinds an accessor's result can be handed to without changing the value -/
def exactKinds : Acc → List Kind
  | .asString => [.string]
  | .asInt => [.int, .int64]
  | .asFloat => [.float64]
  | .asBool => [.bool]

/-- an arm hands over a value of exactly the requested type: no narrowing typed conversion,
`.Convert(goType)` present, and only kinds that hold every value of the accessor's type -/
def InArm.exact (a : InArm) : Bool :=
  a.convert && a.produced == a.acc.kind && a.kinds.all (fun k => (exactKinds a.acc).contains k)

def InWF (tbl : List InArm) : Bool := tbl.all InArm.exact

def InCovers (tbl : List InArm) : Bool := supported.all (fun k => (findIn tbl k).isSome)

/-- every arm is exact and every supported kind has an arm -/
def tableExact (tbl : List InArm) : Bool := InWF tbl && InCovers tbl

theorem arm_of_wf {tbl : List InArm} (hwf : InWF tbl = true) {k : Kind} {a : InArm}
    (h : findIn tbl k = some a) :
    a.convert = true ∧ a.produced = a.acc.kind ∧ (exactKinds a.acc).contains k = true := by
  unfold findIn at h
  have ha : InArm.exact a = true := List.all_eq_true.mp hwf a (List.mem_of_find?_eq_some h)
  have hk := List.find?_some h
  simp only [InArm.exact, Bool.and_eq_true, beq_iff_eq, List.all_eq_true] at ha
  exact ⟨ha.1.1, ha.1.2, ha.2 k (List.contains_iff_mem.mp hk)⟩

theorem acc_of_kind {a : Acc} {k : Kind} (hex : (exactKinds a).contains k = true) :
    (k = .string ∧ a = .asString) ∨ ((k = .int ∨ k = .int64) ∧ a = .asInt) ∨
    (k = .float64 ∧ a = .asFloat) ∨ (k = .bool ∧ a = .asBool) := by
  cases a <;> simpa [exactKinds] using hex

theorem mem_supported {k : Kind} (h : supported.contains k = true) :
    k = .string ∨ k = .bool ∨ k = .int ∨ k = .int64 ∨ k = .float64 := by
  simpa [supported] using h

/-- Go conversion of a payload to a kind of its own class -/
def wrapTo (k : Kind) : Payload → Payload
  | .int n => .int (k.wrap n)
  | p => p

theorem castP_access (pr : Prim) {a : Acc} {k : Kind} (hk : (exactKinds a).contains k = true)
    {v : SVal} {p : Payload} (h : access pr a v = .ok p) : castP pr a.kind k p = some (wrapTo k p) := by
  rcases acc_of_kind hk with ⟨rfl, rfl⟩ | ⟨hk', rfl⟩ | ⟨rfl, rfl⟩ | ⟨rfl, rfl⟩
  · cases h; rfl
  · cases v <;> cases h <;> rcases hk' with rfl | rfl <;> rfl
  · cases v with
    | str s =>
      -- only a literal string reaches `strconv.ParseFloat`; a symbolic one is an accessor error
      cases s with
      | lit b =>
        simp only [access] at h
        split at h <;> cases h
        rfl
      | _ => cases h
    | _ => cases h <;> rfl
  · cases v <;> cases h <;> rfl

theorem toGo_arm (pr : Prim) {tbl : List InArm} (hwf : InWF tbl = true) (t : GoType) (v : SVal)
    {a : InArm} (hf : findIn tbl t.kind = some a) {p : Payload} (hacc : access pr a.acc v = .ok p) :
    toGo pr tbl t v = .ok ⟨t, wrapTo t.kind p⟩ := by
  obtain ⟨hcv, hp, hex⟩ := arm_of_wf hwf hf
  simp only [toGo, hf, hacc, hp, hcv, beq_self_eq_true, if_true, convertTo, castP_access pr hex hacc]

theorem supported_of_exact {a : Acc} {k : Kind} (h : (exactKinds a).contains k = true) :
    supported.contains k = true := by
  rcases acc_of_kind h with ⟨rfl, _⟩ | ⟨rfl | rfl, _⟩ | ⟨rfl, _⟩ | ⟨rfl, _⟩ <;> rfl

theorem toGo_wf (pr : Prim) {tbl : List InArm} (hwf : InWF tbl = true) (t : GoType) (v : SVal) :
    (∃ g, toGo pr tbl t v = .ok g ∧ g.ty = t ∧ supported.contains t.kind = true) ∨
      (∃ e, toGo pr tbl t v = .throw e) := by
  cases hf : findIn tbl t.kind with
  | none => exact .inr ⟨.unsupportedType, by simp only [toGo, hf]⟩
  | some a =>
    cases hacc : access pr a.acc v with
    | notImpl | err => exact .inr ⟨.cannotConvert, by simp only [toGo, hf, hacc]⟩
    | ok p => exact .inl ⟨_, toGo_arm pr hwf t v hf hacc, rfl, supported_of_exact (arm_of_wf hwf hf).2.2⟩

theorem toGo_no_panic (pr : Prim) {tbl : List InArm} (hwf : InWF tbl = true) (t : GoType) (v : SVal) :
    (toGo pr tbl t v).isPanic = false := by
  rcases toGo_wf pr hwf t v with ⟨g, h, _⟩ | ⟨e, h⟩ <;> rw [h] <;> rfl

/-- the script value an exact arm of `convertToScriptValue` builds from the payload it reads
(`data.NewIntValue(int(goValue.Int()))`, `data.NewStringValue(goValue.String())`, …) -/
def scriptOf : Payload → SVal
  | .str s => .str s
  | .int n => .int (Kind.int.wrap n)
  | .flt f => .float f
  | .bool b => .bool b
  | .opaque => .null

theorem access_scriptOf (pr : Prim) {a : Acc} {g : GoVal} (hk : (exactKinds a).contains g.ty.kind = true)
    (hg : g.wt = true) : access pr a (scriptOf g.val) = .ok g.val ∧ wrapTo g.ty.kind g.val = g.val := by
  obtain ⟨⟨k, nm⟩, val⟩ := g
  rcases acc_of_kind hk with ⟨rfl, rfl⟩ | ⟨hk', rfl⟩ | ⟨rfl, rfl⟩ | ⟨rfl, rfl⟩
  case inr.inl =>
    -- the second alternative of `acc_of_kind`, the integer accessor:
    -- `int` and `int64` hold exactly the script integers: neither `int(…)` nor `int64(…)` changes one
    rcases hk' with rfl | rfl <;> cases val <;> first | cases hg | skip
    all_goals
      have hw := wrap_of_fits (k := .int) hg
      exact ⟨congrArg (fun m => AccRes.ok (.int m)) hw, congrArg Payload.int hw⟩
  all_goals cases val <;> cases hg <;> exact ⟨rfl, rfl⟩

theorem toGo_scriptOf (pr : Prim) {tbl : List InArm} (h : tableExact tbl = true) (g : GoVal)
    (hg : g.wt = true) (hk : supported.contains g.ty.kind = true) :
    toGo pr tbl g.ty (scriptOf g.val) = .ok g := by
  simp only [tableExact, Bool.and_eq_true] at h
  obtain ⟨a, hf⟩ := Option.isSome_iff_exists.mp (List.all_eq_true.mp h.2 _ (List.contains_iff_mem.mp hk))
  obtain ⟨hacc, hw⟩ := access_scriptOf pr (arm_of_wf h.1 hf).2.2 hg
  rw [toGo_arm pr h.1 _ _ hf hacc, hw]

theorem of_denote {t : GoType} (hk : supported.contains t.kind = true) {v : SVal} {g : GoVal}
    (hd : denote t v = some g) : g.ty = t ∧ g.wt = true ∧ scriptOf g.val = v := by
  obtain ⟨k, nm⟩ := t
  cases v with
  | null => cases hd
  | int n =>
    obtain ⟨hfit, ⟨⟩⟩ := Option.ite_none_right_eq_some.mp hd
    -- of the supported kinds only `int` and `int64` hold an integer
    rcases mem_supported hk with rfl | rfl | rfl | rfl | rfl <;> first | cases hfit | skip
    all_goals exact ⟨rfl, hfit, congrArg SVal.int (wrap_of_fits (k := .int) hfit)⟩
  | _ =>
    obtain ⟨hkind, ⟨⟩⟩ := Option.ite_none_right_eq_some.mp hd
    cases hkind
    exact ⟨rfl, rfl, rfl⟩

theorem toGo_exact (pr : Prim) {tbl : List InArm} (h : tableExact tbl = true)
    (t : GoType) (hk : supported.contains t.kind = true) (v : SVal) (g : GoVal)
    (hd : denote t v = some g) : toGo pr tbl t v = .ok g := by
  obtain ⟨rfl, hg, rfl⟩ := of_denote hk hd
  exact toGo_scriptOf pr h g hg hk

/-- an arm reads the Go value with the accessor of its kinds and wraps the payload in the script
constructor of the same class; only the integer arm has a cast (`int(goValue.Int())`), and it serves
signed kinds only -/
def OutArm.exact (a : OutArm) : Bool :=
  match a.acc, a.cast, a.ctor with
  | .string, none, .str => a.kinds.all (fun k => k == .string)
  | .int, some .int, .int => a.kinds.all Kind.isSigned
  | .float, none, .float => a.kinds.all Kind.isFloat
  | .bool, none, .bool => a.kinds.all (fun k => k == .bool)
  | _, _, _ => false

def OutWF (tbl : List OutArm) : Bool := tbl.all OutArm.exact

def OutCovers (tbl : List OutArm) : Bool := supported.all (fun k => (findOut tbl k).isSome)

/-- as `tableExact`, for the way back -/
def outTableExact (tbl : List OutArm) : Bool := OutWF tbl && OutCovers tbl

theorem float_of_isFloat {k : Kind} (h : k.isFloat = true) : k = .float32 ∨ k = .float64 := by
  unfold Kind.isFloat at h
  split at h
  · exact .inl rfl
  · exact .inr rfl
  · cases h

theorem toScript_arm (pr : Prim) {tbl : List OutArm} (hwf : OutWF tbl = true) (g : GoVal)
    (hg : g.wt = true) {a : OutArm} (hf : findOut tbl g.ty.kind = some a) :
    toScript pr tbl g = .ok (scriptOf g.val) := by
  obtain ⟨⟨k, nm⟩, val⟩ := g
  have hm : tbl.find? _ = some a := hf
  have hex := List.all_eq_true.mp hwf a (List.mem_of_find?_eq_some hm)
  have hk := List.find?_some hm
  have hk : k ∈ a.kinds := List.contains_iff_mem.mp hk
  unfold toScript
  simp only [hf]
  -- the four shapes of an exact arm; `hP` is what the shape demands of the kinds it serves
  unfold OutArm.exact at hex
  split at hex <;> first | cases hex | skip
  all_goals
    rename_i h1 h2 h3
    have hP := List.all_eq_true.mp hex k hk
    rw [h1, h2, h3]
  · obtain rfl : k = .string := eq_of_beq hP
    cases val <;> cases hg <;> rfl
  · -- of the well-typed values only an integer payload has a signed kind
    unfold GoVal.wt at hg
    dsimp only at hg
    split at hg <;> first | cases hP | cases hg | skip
    simp only [gaccess, hP, if_true]
    rfl
  · rcases float_of_isFloat hP with rfl | rfl <;> cases val <;> cases hg <;> rfl
  · obtain rfl : k = .bool := eq_of_beq hP
    cases val <;> cases hg <;> rfl

theorem toScript_ok (pr : Prim) {tbl : List OutArm} (hwf : OutWF tbl = true) (g : GoVal)
    (hg : g.wt = true) : ∃ v, toScript pr tbl g = .ok v := by
  cases hf : findOut tbl g.ty.kind with
  | none => exact ⟨.str (fmtV g), by simp only [toScript, hf]⟩
  | some a => exact ⟨_, toScript_arm pr hwf g hg hf⟩

theorem toScript_exact (pr : Prim) {tbl : List OutArm} (h : outTableExact tbl = true) (g : GoVal)
    (hg : g.wt = true) (hk : supported.contains g.ty.kind = true) :
    toScript pr tbl g = .ok (scriptOf g.val) := by
  simp only [outTableExact, Bool.and_eq_true] at h
  obtain ⟨a, hf⟩ := Option.isSome_iff_exists.mp (List.all_eq_true.mp h.2 _ (List.contains_iff_mem.mp hk))
  exact toScript_arm pr h.1 g hg hf

theorem reflectBack_scriptOf {g : GoVal} (hg : g.wt = true) (hk : supported.contains g.ty.kind = true) :
    reflectBack g = some (scriptOf g.val) := by
  obtain ⟨⟨k, nm⟩, val⟩ := g
  -- a supported kind admits one class of payload (`hg` refutes the others), and `int`, `int64` hold
  -- exactly the script integers, so the `int(…)` of the arm changes nothing
  rcases mem_supported hk with rfl | rfl | rfl | rfl | rfl
  · cases val <;> cases hg <;> rfl
  · cases val <;> cases hg <;> rfl
  · cases val <;> first | cases hg | skip
    rw [scriptOf, wrap_of_fits (k := .int) hg]
    exact if_pos hg
  · cases val <;> first | cases hg | skip
    rw [scriptOf, wrap_of_fits (k := .int) hg]
    exact if_pos hg
  · cases val <;> cases hg <;> rfl

theorem map_ty_of_assignable {ps : List GoType} {gs : List GoVal}
    (h : assignableAll ps gs = true) : gs.map (·.ty) = ps := by
  fun_induction assignableAll ps gs with
  | case1 => rfl
  | case2 t ts g gs ih =>
    obtain ⟨h1, h2⟩ := Bool.and_eq_true_iff.mp h
    rw [List.map_cons, eq_of_beq h1, ih h2]
  | case3 => cases h

theorem convArgs_cons (pr : Prim) (tin : List InArm) (t : GoType) (ts : List GoType) (as : List SVal) :
    convArgs pr tin (t :: ts) as =
      (toGo pr tin t (as.head?.getD .null)).bind fun g => (convArgs pr tin ts as.tail).map (g :: ·) := by
  cases as <;> rfl

theorem convArgs_wf (pr : Prim) {tin : List InArm} (hwf : InWF tin = true) :
    ∀ (ps : List GoType) (as : List SVal),
      (∃ gs, convArgs pr tin ps as = .ok gs ∧ assignableAll ps gs = true ∧
        ∀ t ∈ ps, supported.contains t.kind = true) ∨
      (∃ e, convArgs pr tin ps as = .throw e)
  | [], _ => .inl ⟨[], rfl, rfl, fun _ h => nomatch h⟩
  | t :: ts, as => by
    rw [convArgs_cons]
    rcases toGo_wf pr hwf t (as.head?.getD .null) with ⟨g, hg, hty, hk⟩ | ⟨e, he⟩
    · rcases convArgs_wf pr hwf ts as.tail with ⟨gs, hgs, hasg, hsup⟩ | ⟨e, he⟩
      · exact .inl ⟨g :: gs, by rw [hg, hgs]; rfl, by rw [assignableAll, hty, hasg, beq_self_eq_true]; rfl,
          List.forall_mem_cons.mpr ⟨hk, hsup⟩⟩
      · exact .inr ⟨e, by rw [hg, he]; rfl⟩
    · exact .inr ⟨e, by rw [he]; rfl⟩

theorem convArgs_exact (pr : Prim) {tin : List InArm} (h : tableExact tin = true)
    {ps : List GoType} {as : List SVal} {gs : List GoVal}
    (hs : ∀ t ∈ ps, supported.contains t.kind = true) (hd : denoteAll ps as = some gs) :
    convArgs pr tin ps as = .ok gs := by
  fun_induction denoteAll ps as generalizing gs with
  | case1 => cases hd; rfl
  | case2 t ts v vs g gs' hgs hg ih =>
    cases hd
    obtain ⟨ht, hts⟩ := List.forall_mem_cons.mp hs
    rw [convArgs, toGo_exact pr h t ht v g hg, ih hts hgs]
    rfl
  | case3 | case4 => cases hd

theorem call_wf (pr : Prim) {tin : List InArm} (hwf : InWF tin = true) (tout : List OutArm) (sig : Sig)
    (body : List GoVal → List GoVal) (args : List SVal) :
    (∃ gs, convArgs pr tin sig.params args = .ok gs ∧ assignableAll sig.params gs = true ∧
      (∀ t ∈ sig.params, supported.contains t.kind = true) ∧
      call pr tin tout sig body args =
        ⟨some gs, match body gs with
          | [] => .ok none
          | r :: _ => (toScript pr tout r).map some⟩) ∨
    (∃ e, convArgs pr tin sig.params args = .throw e ∧
      call pr tin tout sig body args = ⟨none, .throw e⟩) := by
  rcases convArgs_wf pr hwf sig.params args with ⟨gs, h1, h2, hsup⟩ | ⟨e, he⟩
  · refine .inl ⟨gs, h1, h2, hsup, ?_⟩
    simp only [call, h1, h2, if_true]
    cases body gs <;> rfl
  · exact .inr ⟨e, he, by simp only [call, he]⟩

theorem denoteAll_length {ps : List GoType} {as : List SVal} {gs : List GoVal}
    (h : denoteAll ps as = some gs) : ps.length = as.length := by
  fun_induction denoteAll ps as generalizing gs with
  | case1 => rfl
  | case2 t ts v vs g gs' hgs hg ih => exact congrArg (· + 1) (ih hgs)
  | case3 | case4 => cases h

theorem call_exact (pr : Prim) {tin : List InArm} (tout : List OutArm) (h : tableExact tin = true)
    (sig : Sig) (body : List GoVal → List GoVal) (args : List SVal) (gs : List GoVal)
    (hs : ∀ t ∈ sig.params, supported.contains t.kind = true)
    (hd : denoteAll sig.params args = some gs) :
    call pr tin tout sig body args =
      ⟨some gs, match body gs with
        | [] => .ok none
        | r :: _ => (toScript pr tout r).map some⟩ := by
  have hc := convArgs_exact pr h hs hd
  rcases call_wf pr (Bool.and_eq_true_iff.mp h).1 tout sig body args with ⟨gs', h1, _, _, hcall⟩ | ⟨e, he, _⟩
  · rw [hc] at h1
    cases h1
    exact hcall
  · rw [hc] at he
    cases he

end Proofs.Conv
