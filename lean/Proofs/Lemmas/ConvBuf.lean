import Model.ConvBuf
/-! Lemmas for `Model.ConvBuf`: with one argument list per call in flight, `Inv` is preserved by every step of
every caller. -/
namespace Proofs.ConvBuf
open Model.ConvBuf

/-- the slots a caller has written hold its own values (first conjunct); whatever it has invoked received its own
values (second) -/
def Inv {α : Type} (bufOf : Nat → Nat) (args : Nat → List α) (n : Nat) (s : St α) : Prop :=
  (∀ c i, i < s.pc c → i < n → s.buf (bufOf c) i = (args c)[i]?) ∧
  (∀ c r, s.recv c = some r → r = passed args n c)

theorem inv_init {α : Type} (bufOf : Nat → Nat) (args : Nat → List α) (n : Nat) :
    Inv bufOf args n (St.init : St α) := by
  refine ⟨?_, ?_⟩
  · intro c i h _; simp [St.init] at h
  · intro c r h; simp [St.init] at h

theorem inv_step {α : Type} (bufOf : Nat → Nat) (hinj : ∀ a b, bufOf a = bufOf b → a = b)
    (args : Nat → List α) (n : Nat) (s : St α) (c' : Nat) (h : Inv bufOf args n s) :
    Inv bufOf args n (step bufOf args n s c') := by
  obtain ⟨hb, hr⟩ := h
  unfold step
  split
  · -- `c'` writes its next slot
    refine ⟨fun c i hi hn => ?_, hr⟩
    by_cases hc : c = c'
    · subst hc
      simp only [upd, if_true] at hi ⊢
      split
      · subst i
        rfl
      · exact hb c i (by omega) hn
    · simp only [upd, if_neg hc, if_neg fun e => hc (hinj _ _ e)] at hi ⊢
      exact hb c i hi hn
  · split
    · -- `c'` invokes: it receives what its buffer holds, and all `n` slots are its own writes
      refine ⟨fun c i hi hn => hb c i ?_ hn, fun c r hrc => ?_⟩
      · simp only [upd] at hi
        split at hi
        · subst c
          omega
        · exact hi
      · simp only [upd] at hrc
        split at hrc
        · subst c
          cases hrc
          exact List.map_congr_left fun i hi => hb c' i (by have := List.mem_range.mp hi; omega) (List.mem_range.mp hi)
        · exact hr c r hrc
    · exact ⟨hb, hr⟩

theorem inv_runFrom {α : Type} (bufOf : Nat → Nat) (hinj : ∀ a b, bufOf a = bufOf b → a = b)
    (args : Nat → List α) (n : Nat) (sched : List Nat) :
    ∀ s : St α, Inv bufOf args n s → Inv bufOf args n (runFrom bufOf args n s sched) := by
  intro s h
  unfold runFrom
  exact List.foldlRecOn sched (step bufOf args n) h fun s h c _ => inv_step bufOf hinj args n s c h

end Proofs.ConvBuf
