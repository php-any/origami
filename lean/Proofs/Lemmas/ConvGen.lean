import Proofs.Lemmas.Conv
/-!
The generic converter `utils.Convert[S]` / `utils.ConvertFromIndex[S]`: well-formedness of the
regenerated clause tables and its consequences. Continues namespace `Proofs.Conv` of `Conv.lean`.
-/
namespace Proofs.Conv
open Model.Conv Spec.Conv

/-- the class of script value a clause table of `utils/utils.go` serves (`GenTables.fromInt` …) -/
inductive Src | int | float | bool | str
  deriving DecidableEq, Repr

/-- which of `convertFrom{Int,Float,Bool,String}Value` serves a script value (none serves null) -/
def Src.of : SVal → Option Src
  | .int _ => some .int
  | .float _ => some .float
  | .bool _ => some .bool
  | .str _ => some .str
  | .null => none

/-- a clause is well typed for its source class and asserts back the type it was selected for -/
def genArmOK (src : Src) (a : GenArm) : Bool :=
  a.exprTy == a.caseTy &&
  match src, a.form with
  | _, .err => true
  | .int, .cast => a.exprTy.isInt || a.exprTy.isFloat
  | .int, .narrow => a.exprTy.isInt
  | .int, .sprintf => a.exprTy == .string
  | .int, .ne0 => a.exprTy == .bool
  | .float, .cast => a.exprTy.isInt || a.exprTy.isFloat
  | .float, .sprintf => a.exprTy == .string
  | .float, .ne0 => a.exprTy == .bool
  | .bool, .boolConst => a.exprTy.isInt || a.exprTy.isFloat || a.exprTy == .string
  | .str, .ident => a.exprTy == .string
  | .str, .parseBool => a.exprTy == .bool
  | _, _ => false

def GenWF (g : GenTables) : Bool :=
  g.fromInt.all (genArmOK .int) && g.fromFloat.all (genArmOK .float) &&
  g.fromBool.all (genArmOK .bool) && g.fromStr.all (genArmOK .str)

/-- the integer kinds a script integer may not fit -/
def sizedInts : List Kind := [.int8, .int16, .int32, .int64, .uint, .uint8, .uint16, .uint32, .uint64]

/-- every integer type other than `int` is served by a range-checked clause -/
def GenIntChecked (g : GenTables) : Bool :=
  sizedInts.all fun k =>
    match g.fromInt.find? (fun a => a.caseTy == k) with
    | some a => a.form == .narrow
    | none => false

/-- the obligation on the regenerated clause tables -/
def genExact (g : GenTables) : Bool := GenWF g && GenIntChecked g

theorem genArm_of_find {g : GenTables} (h : GenWF g = true) {v : SVal} {s : Src} (hs : Src.of v = some s)
    {k : Kind} {a : GenArm} (hfa : (g.forVal v).find? (fun a => a.caseTy == k) = some a) :
    genArmOK s a = true ∧ a.exprTy = k := by
  simp only [GenWF, Bool.and_eq_true, List.all_eq_true] at h
  obtain ⟨⟨⟨h1, h2⟩, h3⟩, h4⟩ := h
  have ha := List.mem_of_find?_eq_some hfa
  have hcase := List.find?_some hfa
  have hok : genArmOK s a = true := by
    cases v with
    | null => cases hs
    | int _ => cases hs; exact h1 a ha
    | float _ => cases hs; exact h2 a ha
    | bool _ => cases hs; exact h3 a ha
    | str _ => cases hs; exact h4 a ha
  refine ⟨hok, ?_⟩
  unfold genArmOK at hok
  exact (eq_of_beq (Bool.and_eq_true_iff.mp hok).1).trans (eq_of_beq hcase)

theorem castP_int_some (pr : Prim) (dst : Kind) (n : Int) (h : (dst.isInt || dst.isFloat) = true) :
    ∃ p, castP pr .int dst (.int n) = some p := by
  by_cases hi : dst.isInt = true
  · exact ⟨_, by simp only [castP, hi, if_true]; rfl⟩
  · rw [Bool.not_eq_true] at hi
    rw [hi, Bool.false_or] at h
    rcases float_of_isFloat h with rfl | rfl <;> exact ⟨_, rfl⟩

theorem castP_flt_some (pr : Prim) (dst : Kind) (f : F) (h : (dst.isInt || dst.isFloat) = true) :
    ∃ p, castP pr .float64 dst (.flt f) = some p := by
  by_cases hf : dst.isFloat = true
  · rcases float_of_isFloat hf with rfl | rfl <;> exact ⟨_, rfl⟩
  · rw [Bool.not_eq_true] at hf
    rw [hf, Bool.or_false] at h
    simp only [castP, h, show Kind.float64.isFloat = true from rfl, if_true]
    split
    · exact ⟨_, rfl⟩
    · split <;> exact ⟨_, rfl⟩

theorem genValue_narrow (pr : Prim) {a : GenArm} (hf : a.form = .narrow) (n : Int) :
    genValue pr a (.int n) = if a.exprTy.fits n then .ok (.int n) else .throw .outOfRange := by
  obtain ⟨_, _, _⟩ := a
  cases hf
  rfl

theorem isPanic_bind {α β : Type} {o : Outcome α} {f : α → Outcome β} (h : o.isPanic = false)
    (hf : ∀ a, (f a).isPanic = false) : (o.bind f).isPanic = false := by
  cases o with
  | ok a => exact hf a
  | throw e => rfl
  | panic p => cases h

theorem isPanic_ite {α : Type} {c : Prop} [Decidable c] {a b : Outcome α} (ha : a.isPanic = false)
    (hb : ¬c → b.isPanic = false) : (if c then a else b).isPanic = false := by
  split
  · exact ha
  · exact hb ‹_›

theorem genValue_no_panic (pr : Prim) (v : SVal) (s : Src) (hs : Src.of v = some s) (a : GenArm)
    (h : genArmOK s a = true) : (genValue pr a v).isPanic = false := by
  obtain ⟨cty, ety, form⟩ := a
  unfold genArmOK at h
  have h := (Bool.and_eq_true_iff.mp h).2
  cases v with
  | null => cases hs
  | int n =>
    cases hs
    cases form with
    | cast =>
      obtain ⟨p, hp⟩ := castP_int_some pr ety n h
      unfold genValue
      dsimp only
      rw [hp]
      rfl
    | narrow => exact isPanic_ite rfl fun _ => rfl
    | sprintf | ne0 | err => rfl
    | _ => cases h
  | float f =>
    cases hs
    cases form with
    | cast =>
      obtain ⟨p, hp⟩ := castP_flt_some pr ety f h
      unfold genValue
      dsimp only
      rw [hp]
      rfl
    | sprintf | ne0 | err => rfl
    | _ => cases h
  | bool b =>
    cases hs
    cases form with
    | boolConst =>
      -- the last `else` is the ill-typed clause: `h` leaves only `string` once `isInt`, `isFloat` have failed
      refine isPanic_ite rfl fun hi => isPanic_ite rfl fun hf => ?_
      rw [if_pos (by simpa [hi, hf] using h)]
      rfl
    | err => rfl
    | _ => cases h
  | str s =>
    cases hs
    cases form with
    | ident | err => rfl
    | parseBool =>
      cases s with
      | lit b =>
        unfold genValue
        dsimp only
        split <;> rfl
      | _ => rfl
    | _ => cases h

theorem typeAlias_no_panic (pr : Prim) (t : GoType) (v : SVal) :
    (typeAlias pr t v).isPanic = false := by
  unfold typeAlias
  split
  · cases access pr .asInt v <;> rfl
  · rfl

/-- name `0` is a predeclared type; `GoType.duration = ⟨.int64, 1⟩` is the one defined type `typeAlias` serves -/
theorem typeAlias_predeclared (pr : Prim) (k : Kind) (v : SVal) :
    typeAlias pr ⟨k, 0⟩ v = .throw .unsupportedType :=
  if_neg (fun h => Nat.zero_ne_one (congrArg GoType.name (eq_of_beq h)))

theorem convertValue_no_panic (pr : Prim) {g : GenTables} (hwf : GenWF g = true) (t : GoType) (v : SVal) :
    (convertValue pr g t v).isPanic = false := by
  unfold convertValue
  cases hd : v.direct with
  | none => rfl
  | some kp =>
    obtain ⟨s, hs⟩ : ∃ s, Src.of v = some s := by cases v <;> first | exact ⟨_, rfl⟩ | cases hd
    dsimp only
    split
    · rfl
    · split
      · rename_i a hfind
        obtain ⟨hok, hty⟩ := genArm_of_find hwf hs (Option.ite_none_right_eq_some.mp hfind).2
        refine isPanic_bind (genValue_no_panic pr v s hs a hok) fun p' => ?_
        rw [if_pos (beq_iff_eq.mpr hty)]
        rfl
      · exact typeAlias_no_panic pr t v

theorem convertFromIndex_no_panic (pr : Prim) {g : GenTables} (hwf : GenWF g = true) (t : GoType) (v : SVal) :
    (convertFromIndex pr g t v).isPanic = false := by
  unfold convertFromIndex
  have h := convertValue_no_panic pr hwf t v
  cases hc : convertValue pr g t v with
  | ok a => rfl
  | throw e => exact typeAlias_no_panic pr t v
  | panic p => rw [hc] at h; cases h

theorem mem_sized {k : Kind} (hi : k.isInt = true) (hk : k ≠ .int) : k ∈ sizedInts := by
  unfold Kind.isInt Kind.intRange at hi
  split at hi <;> first | decide | exact absurd rfl hk | cases hi

theorem convertValue_sized (pr : Prim) {g : GenTables} (h : genExact g = true)
    {k : Kind} (hk : k ∈ sizedInts) (n : Int) :
    convertValue pr g ⟨k, 0⟩ (.int n) =
      if k.fits n then .ok ⟨⟨k, 0⟩, .int n⟩ else .throw .outOfRange := by
  obtain ⟨hwf, hch⟩ := Bool.and_eq_true_iff.mp h
  have hnarrow := List.all_eq_true.mp hch k hk
  split at hnarrow
  · rename_i a hfa
    have hty := (genArm_of_find hwf (v := .int n) rfl hfa).2
    have hne : ((⟨k, 0⟩ : GoType) == ⟨.int, 0⟩) = false :=
      beq_false_of_ne (fun h => by cases h; exact absurd hk (by decide))
    simp only [convertValue, SVal.direct, hne, Bool.false_eq_true, if_false, beq_self_eq_true, if_true,
      GenTables.forVal, hfa, genValue_narrow pr (eq_of_beq hnarrow), hty]
    split <;> rfl
  · cases hnarrow

end Proofs.Conv
