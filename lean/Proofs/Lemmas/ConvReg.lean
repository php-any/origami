import Model.ConvReg
/-! The registry level of C17 (`Model.ConvReg`): a memo whose key determines the memoised parameter list never changes
an answer. -/
namespace Proofs.ConvReg
open Model.Conv

theorem callWith_own (pr : Prim) (tin : List InArm) (tout : List OutArm) (sig : Sig)
    (body : List GoVal → List GoVal) (args : List SVal) :
    callWith pr tin tout sig sig.params body args = call pr tin tout sig body args := by
  unfold callWith call
  rfl

theorem planned_own (cfg : Cfg) (e : Entry) (env : Nat) (args : List SVal) :
    cfg.planned e e.sig.params env args = cfg.own e env args := by
  unfold Cfg.planned Cfg.own callViaWith callVia
  cases e.path <;> simp only [callWith_own]

theorem runPlain_append (cfg : Cfg) (U : Universe) (h₁ h₂ : List Op) (reg : List Nat) :
    runPlain cfg U reg (h₁ ++ h₂) = runPlain cfg U reg h₁ ++ runPlain cfg U (regAfter reg h₁) h₂ := by
  fun_induction runPlain cfg U reg h₁ with
  | case1 => rfl
  | case2 reg o ops ih => exact congrArg (none :: ·) ih
  | case3 reg c env args ops ih => exact congrArg (_ :: ·) ih

theorem runPlain_length (cfg : Cfg) (U : Universe) (h : List Op) (reg : List Nat) :
    (runPlain cfg U reg h).length = h.length := by
  fun_induction runPlain cfg U reg h with
  | case1 => rfl
  | case2 reg o ops ih => exact congrArg (· + 1) ih
  | case3 reg c env args ops ih => exact congrArg (· + 1) ih

/-- every stored plan is the own parameter list of every callee filed under its key -/
def MemoInv {κ : Type} [DecidableEq κ] (U : Universe) (keyOf : Callee → κ) (st : List (κ × List GoType)) : Prop :=
  ∀ k p, assoc k st = some p → ∀ c, keyOf c = k → p = (U c).sig.params

theorem runMemo_eq_runPlain {κ : Type} [DecidableEq κ] (cfg : Cfg) (U : Universe) (keyOf : Callee → κ)
    (hk : ∀ c c', keyOf c = keyOf c' → (U c).sig.params = (U c').sig.params)
    (ops : List Op) (reg : List Nat) (st : List (κ × List GoType)) (hinv : MemoInv U keyOf st) :
    runMemo cfg U keyOf reg st ops = runPlain cfg U reg ops := by
  fun_induction runMemo cfg U keyOf reg st ops with
  | case1 => rfl
  | case2 reg st o ops ih => exact congrArg (none :: ·) (ih hinv)
  | case3 reg st c env args ops hr plan hm ih =>
    -- a plan is stored under the callee's key: by `hinv` it is the callee's own list
    rw [hinv _ _ hm c rfl, planned_own, ih hinv, runPlain, if_pos hr]
  | case4 reg st c env args ops hr hm ih =>
    -- nothing stored: the call walks its own list and stores it; `hk` makes it the own list of every
    -- callee under that key, so the invariant holds of the new table
    rw [planned_own, runPlain, if_pos hr, ih]
    intro k p h c' hc'
    unfold assoc at h
    split at h
    next hkk =>
      cases h
      exact hk c c' (hkk.trans hc'.symm)
    next => exact hinv k p h c' hc'
  | case5 reg st c env args ops hr ih => rw [ih hinv, runPlain, if_neg hr]

theorem sound_key {m : MemoFact} (hs : m.sound = true) {c c' : Callee}
    (hk : m.keyBy.key c = m.keyBy.key c') : c = c' ∨ (m.datum = .perOwner ∧ c.owner = c'.owner) := by
  obtain ⟨_, kb, d⟩ := m
  dsimp only [MemoFact.sound] at hs hk ⊢
  split at hs
  · cases c
    cases c'
    cases hk
    exact .inl rfl
  · exact .inr ⟨rfl, congrArg Prod.fst hk⟩
  · cases hs

end Proofs.ConvReg
