import Model.Cpm
import Proofs.Lemmas.RW
/-! C10: sequential facts about the class-path manager `Model.Cpm` — the namespace tree stays
prefix-closed, no call ever removes a node or a path (memoisation only adds fresh nodes), so a
registered namespace directory stays visible to every later lookup; and the manager behind its lock. -/
namespace Proofs.Cpm
open Model.Cpm

theorem look_put (ns : Nodes) (k k' : Key) (v : List Dir) :
    look (put ns k v) k' = if k = k' then some v else look ns k' := by
  -- the arms of `put`: no entry; the key at the head; another key at the head
  fun_induction put ns k v with
  | case1 => rfl
  | case2 v₀ rest k v => simp only [look]; split <;> rfl
  | case3 k₀ v₀ rest k v h ih =>
    simp only [look, ih]
    by_cases e : k = k'
    · rw [if_pos e, if_pos e, if_neg (e ▸ h)]
    · rw [if_neg e, if_neg e]

theorem look_put_self (ns : Nodes) (k : Key) (v : List Dir) : look (put ns k v) k = some v := by
  rw [look_put, if_pos rfl]

theorem look_put_ne (ns : Nodes) (k k' : Key) (v : List Dir) (h : k' ≠ k) :
    look (put ns k v) k' = look ns k' := by
  rw [look_put, if_neg (Ne.symm h)]

/-- every prefix of a node's namespace is a node -/
def PC (ns : Nodes) : Prop := ∀ k ext, look ns (k ++ ext) ≠ none → look ns k ≠ none

/-- every node stays a node and keeps every path it had -/
def Mono (ns ns' : Nodes) : Prop :=
  ∀ k ps, look ns k = some ps → ∃ ps', look ns' k = some ps' ∧ ∀ p ∈ ps, p ∈ ps'

theorem Mono.refl (ns : Nodes) : Mono ns ns := fun _ ps h => ⟨ps, h, fun _ hp => hp⟩

theorem Mono.trans {a b c : Nodes} (h1 : Mono a b) (h2 : Mono b c) : Mono a c := by
  intro k ps h
  obtain ⟨ps', h', hs'⟩ := h1 k ps h
  obtain ⟨ps'', h'', hs''⟩ := h2 k ps' h'
  exact ⟨ps'', h'', fun p hp => hs'' p (hs' p hp)⟩

theorem Mono.exists {a b : Nodes} (h : Mono a b) {k : Key} (hk : look a k ≠ none) : look b k ≠ none := by
  cases ha : look a k with
  | none => exact absurd ha hk
  | some ps =>
    obtain ⟨ps', h', _⟩ := h k ps ha
    simp [h']

theorem mono_set (ns : Nodes) (k : Key) (v : List Dir) (hv : ∀ ps, look ns k = some ps → ∀ p ∈ ps, p ∈ v) :
    Mono ns (put ns k v) := by
  intro k' ps hk
  by_cases e : k' = k
  · subst e
    exact ⟨v, look_put_self _ _ _, hv ps hk⟩
  · exact ⟨ps, by rw [look_put_ne _ _ _ _ e]; exact hk, fun _ hp => hp⟩

theorem mono_set_fresh (ns : Nodes) (k : Key) (v : List Dir) (h : look ns k = none) : Mono ns (put ns k v) :=
  mono_set ns k v fun ps hp => by rw [h] at hp; cases hp

theorem pc_set (ns : Nodes) (cur : Key) (part : String) (v : List Dir) (hpc : PC ns) (hcur : look ns cur ≠ none) :
    PC (put ns (cur ++ [part]) v) := by
  intro k ext h
  by_cases hk : k = cur ++ [part]
  · subst hk; simp [look_put_self]
  · rw [look_put_ne _ _ _ _ hk]
    by_cases he : k ++ ext = cur ++ [part]
    · -- a proper prefix of `cur ++ [part]` is a prefix of `cur`
      obtain ⟨ext', h'⟩ := (List.prefix_concat_iff.mp ⟨ext, he⟩).resolve_left hk
      exact hpc k ext' (by rw [h']; exact hcur)
    · rw [look_put_ne _ _ _ _ he] at h
      exact hpc k ext h

def Fresh (ns : Nodes) (k : Key) : Prop := ∀ ext, look ns (k ++ ext) = none

theorem fresh_of_pc (ns : Nodes) (k : Key) (hpc : PC ns) (h : look ns k = none) : Fresh ns k := by
  intro ext
  cases hx : look ns (k ++ ext) with
  | none => rfl
  | some v => exact absurd h (hpc k ext (by simp [hx]))

/-- the inner loop of `findNamespaceNode`: it only ever inserts fresh nodes -/
theorem discover_spec (d : Disk) (part : String) (paths : List Dir) (ns : Nodes) (cur : Key) (found : Bool)
    (hpc : PC ns) (hcur : look ns cur ≠ none) (hfresh : Fresh ns (cur ++ [part])) :
    PC (discover d part paths (ns, cur, found)).1 ∧ Mono ns (discover d part paths (ns, cur, found)).1 ∧
    look (discover d part paths (ns, cur, found)).1 (discover d part paths (ns, cur, found)).2.1 ≠ none := by
  induction paths generalizing ns cur found with
  | nil => exact ⟨hpc, Mono.refl ns, hcur⟩
  | cons p ps ih =>
    simp only [discover]
    cases hs : d.sub p part with
    | none => exact ih ns cur found hpc hcur hfresh
    | some dir =>
      simp only []
      have hnone : look ns (cur ++ [part]) = none := by simpa using hfresh []
      have hpc' := pc_set ns cur part [dir] hpc hcur
      have hcur' : look (put ns (cur ++ [part]) [dir]) (cur ++ [part]) ≠ none := by simp [look_put_self]
      have hfresh' : Fresh (put ns (cur ++ [part]) [dir]) (cur ++ [part] ++ [part]) := by
        intro ext
        have hne : cur ++ [part] ++ [part] ++ ext ≠ cur ++ [part] := by
          rw [List.append_assoc (cur ++ [part])]
          exact fun h => List.cons_ne_nil _ _ (List.append_right_eq_self.mp h)
        rw [look_put_ne _ _ _ _ hne, List.append_assoc (cur ++ [part])]
        exact hfresh _
      obtain ⟨h1, h2, h3⟩ := ih (put ns (cur ++ [part]) [dir]) (cur ++ [part]) true hpc' hcur' hfresh'
      exact ⟨h1, (mono_set_fresh ns _ _ hnone).trans h2, h3⟩

/-- `findNamespaceNode` -/
theorem walk_spec (d : Disk) (parts : List String) (ns : Nodes) (cur : Key) (hpc : PC ns) (hcur : look ns cur ≠ none) :
    PC (walk d ns cur parts).1 ∧ Mono ns (walk d ns cur parts).1 ∧
    ∀ k, (walk d ns cur parts).2 = some k → look (walk d ns cur parts).1 k ≠ none := by
  -- the arms of `walk`: no part left; the child is a node; the node itself is missing; the child is discovered on disk; it is not
  fun_induction walk d ns cur parts with
  | case1 ns cur => exact ⟨hpc, Mono.refl ns, fun k hk => by cases hk; exact hcur⟩
  | case2 ns cur part rest v hl ih => exact ih hpc (by simp [hl])
  | case3 ns cur part rest hl hc => exact absurd hc hcur
  | case4 ns cur part rest hl paths hc r hr ih =>
    obtain ⟨h1, h2, h3⟩ := discover_spec d part paths ns cur false hpc hcur (fresh_of_pc ns _ hpc hl)
    obtain ⟨g1, g2, g3⟩ := ih h1 h3
    exact ⟨g1, h2.trans g2, g3⟩
  | case5 ns cur part rest hl paths hc r hr =>
    obtain ⟨h1, h2, h3⟩ := discover_spec d part paths ns cur false hpc hcur (fresh_of_pc ns _ hpc hl)
    exact ⟨h1, h2, fun k hk => by cases hk⟩

/-- `addNamespaceToDAG` -/
theorem addWalk_spec (parts : List String) (path : Dir) (ns : Nodes) (cur : Key) (hpc : PC ns) (hcur : look ns cur ≠ none) :
    PC (addWalk ns cur parts path) ∧ Mono ns (addWalk ns cur parts path) ∧
    (parts ≠ [] → ∃ ps, look (addWalk ns cur parts path) (cur ++ parts) = some ps ∧ path ∈ ps) := by
  fun_induction addWalk ns cur parts path with
  | case1 ns cur path => exact ⟨hpc, Mono.refl ns, fun h => absurd rfl h⟩
  | case2 ns cur part rest path k ps ns1 ih =>
    -- `k`, `ps`, `ns1` are the `let`s of `addWalk`: `ns1` is the tree after this part (last part: node `k` lists `path`;
    -- inner part: node `k` created empty if absent). The fourth claim of `h1` is only there for the last part; `ih`
    -- carries the first three on.
    have h1 : PC ns1 ∧ Mono ns ns1 ∧ look ns1 k ≠ none ∧ (rest = [] → ∃ ps, look ns1 k = some ps ∧ path ∈ ps) := by
      cases rest with
      | nil =>
        refine ⟨pc_set ns cur part _ hpc hcur, mono_set ns _ _ fun ps' hl p hp => ?_, by simp [ns1, look_put_self],
          fun _ => ⟨_, look_put_self _ _ _, ?_⟩⟩
        · simp only [ps, k, hl]
          split
          · exact hp
          · exact List.mem_append_left _ hp
        · split
          · assumption
          · simp
      | cons part2 rest2 =>
        cases hl : look ns k with
        | some v =>
          have : ns1 = ns := by simp only [ns1, hl]
          rw [this]
          exact ⟨hpc, Mono.refl ns, by simp [hl], fun h => nomatch h⟩
        | none =>
          have : ns1 = put ns k [] := by simp only [ns1, hl]
          rw [this]
          exact ⟨pc_set ns cur part [] hpc hcur, mono_set_fresh ns _ _ hl, by simp [look_put_self], fun h => nomatch h⟩
    obtain ⟨g1, g2, g3⟩ := ih h1.1 h1.2.2.1
    refine ⟨g1, h1.2.1.trans g2, fun _ => ?_⟩
    cases rest with
    | nil => exact h1.2.2.2 rfl
    | cons part2 rest2 =>
      have := g3 (by simp)
      rwa [List.append_assoc] at this

def WF (ns : Nodes) : Prop := look ns [] ≠ none ∧ PC ns

theorem wf_init : WF init := by
  refine ⟨by simp [init, look], ?_⟩
  intro k ext h
  cases k with
  | nil => simp [init, look]
  | cons x xs => simp [init, look] at h

theorem step_find_fst (d : Disk) (ns : Nodes) (parts : List String) (cls : String) (full : Option String) :
    (step d ns (.find parts cls full)).1 = (walk d ns [] parts).1 := by
  simp only [step, find]
  cases walk d ns [] parts with
  | mk ns' k =>
    cases k with
    | none => rfl
    | some k =>
      simp only []
      cases look ns' k with
      | none => rfl
      | some ps => simp only []; cases findFile d cls full ps <;> rfl

theorem step_spec (d : Disk) (ns : Nodes) (op : Op) (h : WF ns) : WF (step d ns op).1 ∧ Mono ns (step d ns op).1 := by
  cases op with
  | add parts path =>
    simp only [step, addNamespace]
    split
    · exact ⟨h, Mono.refl ns⟩
    · split
      · obtain ⟨g1, g2, _⟩ := addWalk_spec parts path ns [] h.2 h.1
        exact ⟨⟨g2.exists h.1, g1⟩, g2⟩
      · exact ⟨h, Mono.refl ns⟩
  | find parts cls full =>
    obtain ⟨g1, g2, _⟩ := walk_spec d parts ns [] h.2 h.1
    rw [step_find_fst]
    exact ⟨⟨g2.exists h.1, g1⟩, g2⟩

theorem runOps_spec (d : Disk) (ops : List Op) (ns : Nodes) (h : WF ns) : WF (runOps d ns ops) ∧ Mono ns (runOps d ns ops) :=
  List.foldlRecOn (motive := fun s => WF s ∧ Mono ns s) ops _ ⟨h, .refl ns⟩
    fun s' h' op _ => have g := step_spec d s' op h'.1; ⟨g.1, h'.2.trans g.2⟩

/-- in a prefix-closed tree a node is reached without discovering (memoising) anything -/
theorem walk_of_node (d : Disk) (parts : List String) (ns : Nodes) (cur : Key) (hpc : PC ns)
    (h : look ns (cur ++ parts) ≠ none) : walk d ns cur parts = (ns, some (cur ++ parts)) := by
  -- no part left; the child is a node; the child is missing, which prefix-closure excludes
  fun_induction walk d ns cur parts with
  | case1 ns cur => simp
  | case2 ns cur part rest v hl ih => rw [ih hpc (by rwa [List.append_assoc]), List.append_assoc]; rfl
  | case3 ns cur part rest hl _ | case4 ns cur part rest hl _ _ _ _ _ | case5 ns cur part rest hl _ _ _ _ =>
    exact absurd hl (hpc _ rest (by rwa [List.append_assoc]))

theorem findFile_hit (d : Disk) (cls : String) (full : Option String) (ps : List Dir) (p : Dir) (f : String)
    (hp : p ∈ ps) (hf : d.file p cls = some f) : findFile d cls full ps ≠ none := by
  -- the arms of `findFile`: no path left; the simple name hits; the whole name hits; on to the next path
  fun_induction findFile d cls full ps with
  | case1 => cases hp
  | case2 q qs g hq => simp
  | case3 q qs hq g hq2 => simp
  | case4 q qs hq hq2 ih =>
    rcases List.mem_cons.mp hp with e | e
    · subst e; rw [hf] at hq; cases hq
    · exact ih e

end Proofs.Cpm

/-! Behind its lock: the sequential reading of the log of `Model.RW` instantiated with `Model.Cpm.secOf` is
`Model.Cpm.step` call by call. -/
namespace Proofs.CpmConc
open Model.RW Model.Cpm Proofs.RW

/-- both calls of the manager write the namespace tree, so both must hold `Lock` -/
def discB (lockOf : String → Mode) : Bool :=
  permits (lockOf "AddNamespace") .wr && permits (lockOf "FindClassFile") .wr

theorem secOf_ok (d : Disk) (lockOf : String → Mode) (hd : discB lockOf = true) (op : Op) :
    (secOf d lockOf op).ok := by
  have h := Bool.and_eq_true_iff.mp hd
  cases op
  · exact ok_single h.1
  · exact ok_single h.2

/-- unfolds to `callStep (step d)`, the instance for the class-path manager of `Proofs.RW.callStep` (`RWLin`) -/
def cpmStep (d : Disk) (p : Nodes × (Tid → List Res)) (e : Tid × Op) : Nodes × (Tid → List Res) :=
  ((step d p.1 e.2).1, upd p.2 e.1 (p.2 e.1 ++ [(step d p.1 e.2).2]))

def cpmRun (d : Disk) (lin : List (Tid × Op)) (p : Nodes × (Tid → List Res)) : Nodes × (Tid → List Res) :=
  lin.foldl (cpmStep d) p

theorem seqStep_secOf (d : Disk) (lockOf : String → Mode) (p : Nodes × (Tid → List Res)) (t : Tid) (op : Op) :
    seqStep p (t, secOf d lockOf op) = cpmStep d p (t, op) := by
  simp [seqStep, cpmStep, secOf, execAccs, Acc.apply]

end Proofs.CpmConc
