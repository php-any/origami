import Model.Ctl
import Spec.Ctl
/-! Association lists and the scope table (`idx`, `mkScope`). -/
namespace Proofs.Ctl
open Spec.Ctl Model.Ctl

theorem aget_aset {κ α : Type} [DecidableEq κ] (l : List (κ × α)) (k k' : κ) (a : α) :
    aget (aset l k a) k' = if k' = k then some a else aget l k' := by
  induction l with
  | nil =>
    simp only [aset, aget]
  | cons h t ih =>
    obtain ⟨k0, a0⟩ := h
    simp only [aset]
    by_cases hk : k = k0
    · subst hk
      simp only [if_true, aget]
      by_cases h2 : k' = k <;> simp [h2]
    · simp only [hk, if_false, aget, ih]
      by_cases h2 : k' = k0
      · subst h2
        simp [Ne.symm hk]
      · simp [h2]

theorem aget_aset_self {κ α : Type} [DecidableEq κ] (l : List (κ × α)) (k : κ) (a : α) :
    aget (aset l k a) k = some a := by simp [aget_aset]

theorem aget_aset_ne {κ α : Type} [DecidableEq κ] (l : List (κ × α)) (k k' : κ) (a : α) (h : k' ≠ k) :
    aget (aset l k a) k' = aget l k' := by simp [aget_aset, h]

theorem aset_aset {κ α : Type} [DecidableEq κ] (l : List (κ × α)) (k : κ) (a : α) : aset (aset l k a) k a = aset l k a := by
  induction l with
  | nil => simp [aset]
  | cons p rest ih =>
    obtain ⟨k', a'⟩ := p
    by_cases hk : k = k'
    · simp [aset, hk]
    · simp [aset, hk, ih]

theorem getElem?_idx {sc : List Var} {x : Var} (h : x ∈ sc) : sc[idx sc x]? = some x := by
  induction sc with
  | nil => cases h
  | cons y ys ih =>
    simp only [idx]
    by_cases e : x = y
    · simp [e]
    · simp only [e, if_false]
      simpa using ih (List.mem_of_ne_of_mem e h)

theorem idx_lt {sc : List Var} {x : Var} (h : x ∈ sc) : idx sc x < sc.length :=
  (List.getElem?_eq_some_iff.mp (getElem?_idx h)).1

theorem idx_inj {sc : List Var} {x y : Var} (hx : x ∈ sc) (hy : y ∈ sc) (h : idx sc x = idx sc y) : x = y := by
  have h1 := getElem?_idx hx
  have h2 := getElem?_idx hy
  rw [h] at h1
  rw [h1] at h2
  exact Option.some.inj h2

theorem getElem?_set_idx {sc : List Var} {slots : List Val} {env : Env} {x y : Var} (hx : x ∈ sc) (hy : y ∈ sc)
    (hlt : idx sc x < slots.length) (v : Val) (h : slots[idx sc y]? = some ((aget env y).getD .null)) :
    (slots.set (idx sc x) v)[idx sc y]? = some ((aget (aset env x v) y).getD .null) := by
  rw [List.getElem?_set, aget_aset]
  by_cases e : y = x
  · subst e; simp [hlt]
  · have : idx sc x ≠ idx sc y := fun e' => e (idx_inj hy hx e'.symm)
    simp [this, e]
    exact h

theorem mem_addVar {acc : List Var} {y x : Var} : x ∈ addVar acc y ↔ x ∈ acc ∨ x = y := by
  unfold addVar
  split
  · next hy => exact ⟨Or.inl, fun h => h.elim id fun e => e ▸ hy⟩
  · simp

theorem mem_foldl_addVar (xs acc : List Var) (x : Var) (h : x ∈ acc ∨ x ∈ xs) : x ∈ xs.foldl addVar acc := by
  induction xs generalizing acc with
  | nil => exact h.resolve_right List.not_mem_nil
  | cons y ys ih =>
    refine ih _ ?_
    rw [mem_addVar, or_assoc, ← List.mem_cons]
    exact h

theorem mem_mkScope {xs : List Var} {x : Var} (h : x ∈ xs) : x ∈ mkScope xs :=
  mem_foldl_addVar xs [] x (Or.inr h)

/-- every name of `xs` is in the table `sc`; threaded through `SimAt` so that `idx sc x` is a real index
(`idx_lt`, `idx_inj`) -/
def Covers (sc : List Var) (xs : List Var) : Prop := ∀ x ∈ xs, x ∈ sc

theorem covers_mkScope (xs : List Var) : Covers (mkScope xs) xs := fun _ h => mem_mkScope h

theorem Covers.left {sc a b : List Var} (h : Covers sc (a ++ b)) : Covers sc a :=
  fun x hx => h x (List.mem_append_left _ hx)

theorem Covers.right {sc a b : List Var} (h : Covers sc (a ++ b)) : Covers sc b :=
  fun x hx => h x (List.mem_append_right _ hx)

theorem Covers.head {sc : List Var} {x : Var} {b : List Var} (h : Covers sc (x :: b)) : x ∈ sc :=
  h x (List.mem_cons_self)

theorem Covers.tail {sc : List Var} {x : Var} {b : List Var} (h : Covers sc (x :: b)) : Covers sc b :=
  fun y hy => h y (List.mem_cons_of_mem _ hy)

end Proofs.Ctl
