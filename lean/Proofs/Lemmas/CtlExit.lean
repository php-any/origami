import Spec.Ctl
import Spec.CtlFrag
/-! Exit targets in the reference semantics. If every `break n` / `continue n` in a statement is written
under at least `n - k` enclosing loops or switches of that statement (`closedS k`), every completed outcome
of the statement leaves at most `k` constructs around it: it is `brk m` / `cont m` with `1 ≤ m ≤ k`, normal,
or `ret` (`ExitsLe k`). Each loop or switch takes one level off its body's outcome (`exits_step_le`). -/
namespace Proofs.Ctl
open Spec.Ctl

def ExitsLe (k : Nat) (r : Res Out) : Prop := ∀ o s, r = .ok o s → OutLe k o

theorem exitsLe_bind {α : Type} {k : Nat} (r : Res α) (g : α → St → Res Out) (h : ∀ a s, ExitsLe k (g a s)) :
    ExitsLe k (r.bind g) := by
  cases r with
  | ok a s => exact h a s
  | err s => intro o s' e; cases e
  | timeout => intro o s' e; cases e

theorem exitsLe_timeout (k : Nat) : ExitsLe k .timeout := by intro o s e; cases e
theorem exitsLe_err (k : Nat) (s : St) : ExitsLe k (.err s) := by intro o s' e; cases e
theorem exitsLe_ok {k : Nat} {o : Out} (s : St) (h : OutLe k o) : ExitsLe k (.ok o s) := by
  intro o' s' e; cases e; exact h

def StepExitsLe (k : Nat) : Step → Prop
  | .exit o => OutLe k o
  | _ => True

theorem exits_step_le {k : Nat} {o : Out} (h : OutLe (k+1) o) :
    StepExitsLe k (loopStep o) ∧ StepExitsLe k (switchStep o) := by
  rcases o with _ | (_ | _ | m) | (_ | _ | m) | v
  case brk.succ.succ | cont.succ.succ => simp only [loopStep, switchStep, StepExitsLe, OutLe] at h ⊢; omega
  all_goals exact ⟨True.intro, True.intro⟩

structure ExitAt (funs : List FunDecl) (f : Nat) : Prop where
  execS : ∀ {k cur st s}, closedS k st = true → ExitsLe k (execS funs f cur st s)
  execB : ∀ {k cur b s}, closedB k b = true → ExitsLe k (execB funs f cur b s)
  execElifs : ∀ {k cur el els s}, closedElifs k el = true → closedB k els = true →
    ExitsLe k (execElifs funs f cur el els s)
  execWhile : ∀ {k cur c b s}, closedB (k+1) b = true → ExitsLe k (execWhile funs f cur c b s)
  execDo : ∀ {k cur b c s}, closedB (k+1) b = true → ExitsLe k (execDo funs f cur b c s)
  execFor : ∀ {k cur c incs b s}, closedB (k+1) b = true → ExitsLe k (execFor funs f cur c incs b s)
  execForeach : ∀ {k cur kv v b l i s}, closedB (k+1) b = true → ExitsLe k (execForeach funs f cur kv v b l i s)
  execSwitch : ∀ {k cur v cs d s}, closedCases (k+1) cs = true → closedB (k+1) d = true →
    ExitsLe k (execSwitch funs f cur v cs d s)
  runBodies : ∀ {k cur cs d s}, closedCases (k+1) cs = true → closedB (k+1) d = true →
    ExitsLe k (runBodies funs f cur cs d s)

/-- A construct that consumes one level; `step` is `loopStep` or `switchStep`. -/
theorem after_step {k : Nat} (step : Out → Step) (hstep : ∀ {o}, OutLe (k+1) o → StepExitsLe k (step o))
    {r : Res Out} (hb : ExitsLe (k+1) r) (again : St → Res Out) (hagain : ∀ s, ExitsLe k (again s)) :
    ExitsLe k (r.bind fun o s2 =>
      match step o with
      | .next => again s2
      | .exit o' => .ok o' s2
      | .bad => .err s2) := by
  cases r with
  | timeout => exact exitsLe_timeout _
  | err s => exact exitsLe_err _ _
  | ok o s =>
    have h := hstep (hb o s rfl)
    simp only [Res.bind]
    cases hs : step o with
    | next => exact hagain s
    | exit o' => rw [hs] at h; exact exitsLe_ok s h
    | bad => exact exitsLe_err _ _

theorem echoArgs_le (funs : List FunDecl) (k : Nat) (cur : Cur) :
    ∀ (f : Nat) (es : Args) (s : St), ExitsLe k (echoArgs funs f cur es s)
  | 0, _, _ => exitsLe_timeout _
  | _+1, .nil, s => exitsLe_ok _ True.intro
  | f+1, .cons e rest, s => by
    simp only [echoArgs]
    exact exitsLe_bind _ _ (fun v s1 => echoArgs_le funs k cur f rest _)

theorem exitAt_succ {funs : List FunDecl} {f : Nat} (ih : ExitAt funs f) : ExitAt funs (f+1) where
  execS := by
    intro k cur st s hcl
    rcases st with _ | _ | _ | _ | _ | _ | _ | _ | _ | _ | (_ | _) <;>
      simp only [closedS, Bool.and_eq_true, decide_eq_true_eq] at hcl <;> simp only [Spec.Ctl.execS]
    case echo es => exact echoArgs_le funs k cur f es s
    case expr e => exact exitsLe_bind _ _ (fun _ s1 => exitsLe_ok _ True.intro)
    case ite c t elifs els =>
      refine exitsLe_bind _ _ (fun vc s1 => ?_)
      split
      · exact ih.execB hcl.1
      · exact ih.execElifs hcl.2.1 hcl.2.2
    case while_ c b => exact ih.execWhile hcl
    case doWhile b c => exact ih.execDo hcl
    case for_ inits cond incs b => exact exitsLe_bind _ _ (fun _ s1 => ih.execFor hcl)
    case foreach e kv v b =>
      refine exitsLe_bind _ _ (fun ve s1 => ?_)
      split
      · exact ih.execForeach hcl
      · exact exitsLe_ok _ True.intro
      · exact exitsLe_err _ _
    case switch e cases dflt => exact exitsLe_bind _ _ (fun v s1 => ih.execSwitch hcl.1 hcl.2)
    case brk n | cont n =>
      split
      · exact exitsLe_err _ _
      · exact exitsLe_ok _ hcl
    case ret.none => exact exitsLe_ok _ True.intro
    case ret.some e => exact exitsLe_bind _ _ (fun v s1 => exitsLe_ok _ True.intro)
  execB := by
    intro k cur b s hcl
    cases b with
    | nil => simp only [Spec.Ctl.execB]; exact exitsLe_ok _ True.intro
    | cons st rest =>
      simp only [closedB, Bool.and_eq_true] at hcl
      simp only [Spec.Ctl.execB]
      have hst := ih.execS (cur := cur) (s := s) hcl.1
      cases hr : Spec.Ctl.execS funs f cur st s with
      | timeout => exact exitsLe_timeout _
      | err s1 => exact exitsLe_err _ _
      | ok o s1 =>
        simp only [Res.bind]
        cases o with
        | normal => exact ih.execB hcl.2
        | brk m => exact exitsLe_ok _ (hst _ _ hr)
        | cont m => exact exitsLe_ok _ (hst _ _ hr)
        | ret v => exact exitsLe_ok _ True.intro
  execElifs := by
    intro k cur el els s h1 h2
    cases el with
    | nil => simp only [Spec.Ctl.execElifs]; exact ih.execB h2
    | cons c b rest =>
      simp only [closedElifs, Bool.and_eq_true] at h1
      simp only [Spec.Ctl.execElifs]
      refine exitsLe_bind _ _ (fun vc s1 => ?_)
      split
      · exact ih.execB h1.1
      · exact ih.execElifs h1.2 h2
  execWhile := by
    intro k cur c b s hcl
    simp only [Spec.Ctl.execWhile]
    refine exitsLe_bind _ _ (fun vc s1 => ?_)
    split
    · exact after_step loopStep (fun h => (exits_step_le h).1) (ih.execB hcl) _ (fun s2 => ih.execWhile hcl)
    · exact exitsLe_ok _ True.intro
  execDo := by
    intro k cur b c s hcl
    simp only [Spec.Ctl.execDo]
    refine after_step loopStep (fun h => (exits_step_le h).1) (ih.execB hcl) _ (fun s1 => ?_)
    refine exitsLe_bind _ _ (fun vc s2 => ?_)
    split
    · exact ih.execDo hcl
    · exact exitsLe_ok _ True.intro
  execFor := by
    intro k cur c incs b s hcl
    simp only [Spec.Ctl.execFor]
    refine exitsLe_bind _ _ (fun vc s1 => ?_)
    split
    · exact after_step loopStep (fun h => (exits_step_le h).1) (ih.execB hcl) _
        (fun s2 => exitsLe_bind _ _ (fun _ s3 => ih.execFor hcl))
    · exact exitsLe_ok _ True.intro
  execForeach := by
    intro k cur kv v b l i s hcl
    cases l with
    | nil => simp only [Spec.Ctl.execForeach]; exact exitsLe_ok _ True.intro
    | cons x xs =>
      simp only [Spec.Ctl.execForeach]
      exact after_step loopStep (fun h => (exits_step_le h).1) (ih.execB hcl) _ (fun s3 => ih.execForeach hcl)
  execSwitch := by
    intro k cur v cs d s h1 h2
    cases cs with
    | nil => simp only [Spec.Ctl.execSwitch]; exact ih.runBodies h1 h2
    | cons lbl b rest =>
      have h1' := h1
      simp only [closedCases, Bool.and_eq_true] at h1
      simp only [Spec.Ctl.execSwitch]
      refine exitsLe_bind _ _ (fun vl s1 => ?_)
      split
      · exact ih.runBodies h1' h2
      · exact ih.execSwitch h1.2 h2
  runBodies := by
    intro k cur cs d s h1 h2
    cases cs with
    | nil =>
      simp only [Spec.Ctl.runBodies]
      exact after_step switchStep (fun h => (exits_step_le h).2) (ih.execB h2) (fun s1 => .ok .normal s1)
        (fun s1 => exitsLe_ok _ True.intro)
    | cons lbl b rest =>
      simp only [closedCases, Bool.and_eq_true] at h1
      simp only [Spec.Ctl.runBodies]
      exact after_step switchStep (fun h => (exits_step_le h).2) (ih.execB h1.1) _
        (fun s1 => ih.runBodies h1.2 h2)

theorem exitAt (funs : List FunDecl) : ∀ f, ExitAt funs f
  | 0 => by constructor <;> intros <;> exact exitsLe_timeout _
  | f+1 => exitAt_succ (exitAt funs f)

theorem execWhile_exit (funs : List FunDecl) (fuel : Nat) (cur : Cur) (c : Expr) (b : Block) (s s1 s2 : St) (vc : Val)
    (o o' : Out) (hc : evalE funs fuel cur c s = .ok vc s1) (ht : vc.truthy = true)
    (hb : execB funs fuel cur b s1 = .ok o s2) (ho : loopStep o = .exit o') :
    execWhile funs (fuel+1) cur c b s = .ok o' s2 := by
  simp only [execWhile, hc, Res.bind, ht, if_true, hb, ho]

end Proofs.Ctl
