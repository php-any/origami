import Proofs.Lemmas.CtlBasic
/-! The fused nodes of `node/fused_assign.go` against the general nodes they replace (model-level facts, no reference
semantics involved). -/
namespace Proofs.Ctl
open Spec.Ctl Model.Ctl

theorem incGeneral_int {k : IncKind} {s s1 : MSt} {i : Nat} {n : Int} {v new : Val}
    (hg : s.getSlot i = some (.int n)) (hv : incVal k (.int n) = some (v, new)) (hs : s.setSlot i new = some s1) :
    incGeneral k s i = .ok v s1 := by
  simp only [incGeneral, hg, hv, assignTo, hs, MRes.bind]

/-- VarPostIncr / VarPostDecr = PostfixIncr / PostfixDecr on the same variable. -/
theorem incFused_post (k : IncKind) (hk : k = .postInc ∨ k = .postDec) (s : MSt) (i : Nat) :
    incFused k s i = incGeneral k s i := by
  unfold incFused
  split
  · split
    · next hg _ _ hs => rcases hk with rfl | rfl <;> exact (incGeneral_int hg rfl hs).symm
    · rfl
  · rfl

/-- VarStmtIncr has the effect of PostfixIncr; only the (discarded) value differs. -/
theorem stmtIncr_effect {β : Type} (s : MSt) (i : Nat) (k : MSt → MRes β) :
    (stmtIncrM s i).bind (fun _ s1 => k s1) = (incGeneral .postInc s i).bind (fun _ s1 => k s1) := by
  unfold stmtIncrM
  split
  · split
    · next hg _ _ hs => rw [incGeneral_int hg rfl hs]; rfl
    · rfl
  · rfl

theorem toStmtIncr_effect {β : Type} (mf : List MFun) (f : Nat) (e : MExpr) (m : MSt) (k : MSt → MRes β) :
    (evalM mf (f+1) (toStmtIncr e) m).bind (fun _ m1 => k m1) = (evalM mf (f+1) e m).bind (fun _ m1 => k m1) := by
  cases e <;> simp only [toStmtIncr]
  simp only [evalM, incFused_post _ (.inl rfl)]
  exact stmtIncr_effect m _ k

/-- VarFastAssign = BinaryAssignVariable whenever the integer path computes what the original
right-hand side evaluates to. -/
theorem fastAssign_eq (mf : List MFun) (f : Nat) (op : FastOp) (dst : Nat) (l r : Opnd) (slow : MExpr) (s : MSt)
    (hslow : ∀ n, fastValue s op l r = some n →
      evalM mf f slow s = .timeout ∨ evalM mf f slow s = .ok (.int n) s) :
    evalM mf (f+1) (.assignVar dst slow) s = .timeout ∨
    evalM mf (f+1) (.fastAssign op dst l r slow) s = evalM mf (f+1) (.assignVar dst slow) s := by
  simp only [evalM]
  cases hd : (s.getSlot dst).isSome with
  | false => right; simp
  | true =>
    simp only [if_true]
    cases hv : fastValue s op l r with
    | none => right; rfl
    | some n =>
      simp only []
      cases hs : s.setSlot dst (.int n) with
      | none => right; rfl
      | some s1 =>
        simp only []
        cases hslow n hv with
        | inl h => left; rw [h]; rfl
        | inr h => right; rw [h]; simp [MRes.bind, assignTo, hs]

theorem readOpnd_preOpnd {sc : List Var} {m : MSt} {a : Expr} {n : Int} (h : readOpnd m (preOpnd sc a) = some n) :
    (∃ y, a = .var y ∧ m.getSlot (idx sc y) = some (.int n)) ∨ a = .lit (.int n) := by
  cases a with
  | var y =>
    simp only [preOpnd, readOpnd] at h
    cases hg : m.getSlot (idx sc y) with
    | none => simp [hg] at h
    | some v =>
      cases v <;> simp [hg] at h
      subst h
      exact .inl ⟨y, rfl, hg⟩
  | lit v =>
    cases v <;> simp [preOpnd, readOpnd] at h
    subst h
    exact .inr rfl
  | _ => simp [preOpnd, readOpnd] at h

theorem opnd_evalM (mf : List MFun) (sc : List Var) (a : Expr) (m : MSt) {n : Int}
    (h : readOpnd m (preOpnd sc a) = some n) (f : Nat) :
    evalM mf (f+1) (compE sc a) m = .ok (.int n) m := by
  rcases readOpnd_preOpnd h with ⟨y, rfl, hg⟩ | rfl
  · simp only [compE, evalM, hg]
  · simp only [compE, evalM]

/-- The integer path reads the operand without fuel; the general node for it needs one unit, hence `timeout ∨ …`. -/
theorem opnd_slow (mf : List MFun) (sc : List Var) (a : Expr) (m : MSt) {n : Int}
    (h : readOpnd m (preOpnd sc a) = some n) :
    ∀ f, evalM mf f (compE sc a) m = .timeout ∨ evalM mf f (compE sc a) m = .ok (.int n) m
  | 0 => .inl (by simp only [evalM])
  | f+1 => .inr (opnd_evalM mf sc a m h f)

/-- `bop` is not `le`, so `compile` builds the plain binary node. -/
theorem arith_slow (mf : List MFun) (sc : List Var) (bop : BinOp) (a b : Expr) (m : MSt) {x y n : Int}
    (hc : compE sc (.bin bop a b) = .bin bop (compE sc a) (compE sc b))
    (ha : readOpnd m (preOpnd sc a) = some x) (hb : readOpnd m (preOpnd sc b) = some y)
    (hv : binop bop (.int x) (.int y) = some (.int n)) :
    ∀ f, evalM mf f (compE sc (.bin bop a b)) m = .timeout ∨ evalM mf f (compE sc (.bin bop a b)) m = .ok (.int n) m
  | 0 => .inl (by simp only [evalM])
  | 1 => .inl (by simp only [hc, evalM, binM, MRes.bind])
  | f+2 => .inr (by simp only [hc, evalM, binM, opnd_evalM mf sc a m ha f, opnd_evalM mf sc b m hb f, MRes.bind, hv])

/-- VarFastAssign, for every assignment `$x = e` the parser turns into one, against BinaryAssignVariable on the same
right-hand side (which may need more fuel). -/
theorem mkAssign_eq (mf : List MFun) (sc : List Var) (x : Var) (e : Expr) (m : MSt) (fuel : Nat) :
    evalM mf (fuel+1) (.assignVar (idx sc x) (compE sc e)) m = .timeout ∨
    evalM mf (fuel+1) (mkAssign sc x e (compE sc e)) m =
      evalM mf (fuel+1) (.assignVar (idx sc x) (compE sc e)) m := by
  unfold mkAssign
  split
  · exact fastAssign_eq mf fuel _ _ _ _ _ m fun n hn => opnd_slow mf sc (.var _) m hn fuel
  · exact fastAssign_eq mf fuel _ _ _ _ _ m fun n hn => opnd_slow mf sc (.lit (.int _)) m (by cases hn; rfl) fuel
  · next a b =>
    refine fastAssign_eq mf fuel _ _ _ _ _ m fun n hn => ?_
    simp only [fastValue] at hn
    split at hn
    · next x y ha hb => cases hn; exact arith_slow mf sc .mul a b m rfl ha hb rfl fuel
    · cases hn
  · next a b =>
    refine fastAssign_eq mf fuel _ _ _ _ _ m fun n hn => ?_
    simp only [fastValue] at hn
    split at hn
    · next x y ha hb => cases hn; exact arith_slow mf sc .add a b m rfl ha hb rfl fuel
    · cases hn
  · exact .inr rfl

end Proofs.Ctl
