import Model.Ctl
/-! Model-level facts about a call: its result and effects do not depend on the caller's slots and leave them alone. -/
namespace Proofs.Ctl
open Spec.Ctl Model.Ctl

/-- a result with the slot vector (the running Context) left out: what a call can pass on -/
def noFrame : MRes Val → Option ((Val ⊕ Ctl) × List ((FName × Nat) × Val) × List String)
  | .ok v s => some (.inl v, s.statics, s.out)
  | .ctl c s => some (.inr c, s.statics, s.out)
  | .timeout => none

def frameOf : MRes Val → Option Frame
  | .ok _ s => some s.fr
  | .ctl _ s => some s.fr
  | .timeout => none

theorem callResultM_frame (caller : Frame) (r : MRes Val) (fr : Frame) (h : frameOf (callResultM caller r) = some fr) :
    fr = caller := by
  cases r with
  | timeout => simp [callResultM, frameOf] at h
  | ok v s => simp [callResultM, frameOf] at h; exact h.symm
  | ctl c s => cases c <;> simp [callResultM, frameOf] at h <;> exact h.symm

theorem callResultM_noFrame (c1 c2 : Frame) (r : MRes Val) :
    noFrame (callResultM c1 r) = noFrame (callResultM c2 r) := by
  cases r with
  | timeout => rfl
  | ok v s => rfl
  | ctl c s => cases c <;> rfl

theorem call_unfold (mf : List MFun) (f : Nat) (g : FName) (args : MArgs) (s : MSt) (d : MFun)
    (hd : Model.Ctl.lookupFun mf g = some d) :
    evalM mf (f+1) (.call g args) s =
      (bindArgs mf f d.params args s (List.replicate d.nvars .null)).bind fun slots s1 =>
        callResultM s1.fr (execMB mf f d.body .null
          (bindStatics g d.statics
            { fr := { slots := slots, bound := [], fn := some g }, statics := s1.statics, out := s1.out })) := by
  simp only [evalM, hd]

end Proofs.Ctl
