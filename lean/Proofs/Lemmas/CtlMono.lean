import Spec.Ctl
/-! Fuel monotonicity of the reference semantics: once a run has an answer, more fuel gives the
same answer (`timeout ≤ r` in the information order). -/
namespace Proofs.Ctl
open Spec.Ctl

def Res.le {α : Type} (r r' : Res α) : Prop := r = .timeout ∨ r = r'

theorem Res.le_refl {α : Type} (r : Res α) : Res.le r r := Or.inr rfl

theorem Res.timeout_le {α : Type} (r : Res α) : Res.le .timeout r := Or.inl rfl

theorem Res.bind_le {α β : Type} {r r' : Res α} {k k' : α → St → Res β} (h : Res.le r r')
    (hk : ∀ a s, Res.le (k a s) (k' a s)) : Res.le (r.bind k) (r'.bind k') := by
  cases h with
  | inl h => subst h; exact Or.inl rfl
  | inr h =>
    subst h
    cases r with
    | ok a s => exact hk a s
    | err s => exact Or.inr rfl
    | timeout => exact Or.inl rfl

theorem callResult_le (env : Env) {r r' : Res Out} (h : Res.le r r') :
    Res.le (callResult env r) (callResult env r') := by
  cases h with
  | inl h => subst h; exact Or.inl rfl
  | inr h => subst h; exact Or.inr rfl

theorem Res.ite_le {α : Type} {c : Prop} [Decidable c] {a a' b b' : Res α} (ha : Res.le a a') (hb : Res.le b b') :
    Res.le (if c then a else b) (if c then a' else b') := by
  split
  · exact ha
  · exact hb

theorem Res.step_le (st : Step) (s : St) {a a' : Res Out} (h : Res.le a a') :
    Res.le (match st with | .next => a | .exit o' => .ok o' s | .bad => .err s)
      (match st with | .next => a' | .exit o' => .ok o' s | .bad => .err s) := by
  cases st
  · exact h
  · exact Res.le_refl _
  · exact Res.le_refl _

structure MonoAt (funs : List FunDecl) (f : Nat) : Prop where
  evalE : ∀ {cur e s}, Res.le (evalE funs f cur e s) (evalE funs (f+1) cur e s)
  evalArgs : ∀ {cur es s}, Res.le (evalArgs funs f cur es s) (evalArgs funs (f+1) cur es s)
  evalArms : ∀ {cur v arms d s}, Res.le (evalArms funs f cur v arms d s) (evalArms funs (f+1) cur v arms d s)
  echoArgs : ∀ {cur es s}, Res.le (echoArgs funs f cur es s) (echoArgs funs (f+1) cur es s)
  evalDiscard : ∀ {cur es s}, Res.le (evalDiscard funs f cur es s) (evalDiscard funs (f+1) cur es s)
  execS : ∀ {cur st s}, Res.le (execS funs f cur st s) (execS funs (f+1) cur st s)
  execB : ∀ {cur b s}, Res.le (execB funs f cur b s) (execB funs (f+1) cur b s)
  execElifs : ∀ {cur el els s}, Res.le (execElifs funs f cur el els s) (execElifs funs (f+1) cur el els s)
  execWhile : ∀ {cur c b s}, Res.le (execWhile funs f cur c b s) (execWhile funs (f+1) cur c b s)
  execDo : ∀ {cur b c s}, Res.le (execDo funs f cur b c s) (execDo funs (f+1) cur b c s)
  execFor : ∀ {cur c incs b s}, Res.le (execFor funs f cur c incs b s) (execFor funs (f+1) cur c incs b s)
  execForeach : ∀ {cur k v b l i s},
    Res.le (execForeach funs f cur k v b l i s) (execForeach funs (f+1) cur k v b l i s)
  execSwitch : ∀ {cur v cs d s}, Res.le (execSwitch funs f cur v cs d s) (execSwitch funs (f+1) cur v cs d s)
  runBodies : ∀ {cur cs d s}, Res.le (runBodies funs f cur cs d s) (runBodies funs (f+1) cur cs d s)

/-- Each equation of the semantics at fuel `f+2` is the one at `f+1` with the recursive calls one unit richer,
and `bind`, `if`, `callResult` and the `Step` tail are monotone. -/
theorem monoAt_succ {funs : List FunDecl} {f : Nat} (ih : MonoAt funs f) : MonoAt funs (f+1) where
  evalE := by
    intro cur e s
    cases e <;> simp only [evalE]
    case lit | var | inc => exact Res.le_refl _
    case bin => exact Res.bind_le ih.evalE fun _ _ => Res.bind_le ih.evalE fun _ _ => Res.le_refl _
    case not => exact Res.bind_le ih.evalE fun _ _ => Res.le_refl _
    case and =>
      exact Res.bind_le ih.evalE fun _ _ => Res.ite_le (Res.bind_le ih.evalE fun _ _ => Res.le_refl _) (Res.le_refl _)
    case or =>
      exact Res.bind_le ih.evalE fun _ _ => Res.ite_le (Res.le_refl _) (Res.bind_le ih.evalE fun _ _ => Res.le_refl _)
    case assign => exact Res.bind_le ih.evalE fun _ _ => Res.le_refl _
    case call =>
      split
      · exact Res.le_refl _
      · exact Res.bind_le ih.evalArgs fun _ _ => Res.ite_le (Res.le_refl _) (callResult_le _ ih.execB)
    case matchE => exact Res.bind_le ih.evalE fun _ _ => ih.evalArms
  evalArgs := by
    intro cur es s
    cases es <;> simp only [evalArgs]
    · exact Res.le_refl _
    · exact Res.bind_le ih.evalE fun _ _ => Res.bind_le ih.evalArgs fun _ _ => Res.le_refl _
  evalArms := by
    intro cur v arms d s
    cases arms <;> simp only [evalArms]
    · exact ih.evalE
    · exact Res.bind_le ih.evalE fun _ _ => Res.ite_le ih.evalE ih.evalArms
  echoArgs := by
    intro cur es s
    cases es <;> simp only [echoArgs]
    · exact Res.le_refl _
    · exact Res.bind_le ih.evalE fun _ _ => ih.echoArgs
  evalDiscard := by
    intro cur es s
    cases es <;> simp only [evalDiscard]
    · exact Res.le_refl _
    · exact Res.bind_le ih.evalE fun _ _ => ih.evalDiscard
  execS := by
    intro cur st s
    rcases st with _ | _ | _ | _ | _ | _ | _ | _ | _ | _ | (_ | _) <;> simp only [execS]
    case echo => exact ih.echoArgs
    case expr => exact Res.bind_le ih.evalE fun _ _ => Res.le_refl _
    case ite => exact Res.bind_le ih.evalE fun _ _ => Res.ite_le ih.execB ih.execElifs
    case while_ => exact ih.execWhile
    case doWhile => exact ih.execDo
    case for_ => exact Res.bind_le ih.evalDiscard fun _ _ => ih.execFor
    case foreach =>
      refine Res.bind_le ih.evalE fun ve _ => ?_
      cases ve
      case list => exact ih.execForeach
      all_goals exact Res.le_refl _
    case switch => exact Res.bind_le ih.evalE fun _ _ => ih.execSwitch
    case brk | cont | ret.none => exact Res.le_refl _
    case ret.some => exact Res.bind_le ih.evalE fun _ _ => Res.le_refl _
  execB := by
    intro cur b s
    cases b <;> simp only [execB]
    · exact Res.le_refl _
    · refine Res.bind_le ih.execS fun o _ => ?_
      cases o
      case normal => exact ih.execB
      all_goals exact Res.le_refl _
  execElifs := by
    intro cur el els s
    cases el <;> simp only [execElifs]
    · exact ih.execB
    · exact Res.bind_le ih.evalE fun _ _ => Res.ite_le ih.execB ih.execElifs
  execWhile := by
    intro cur c b s
    rw [execWhile, execWhile]
    exact Res.bind_le ih.evalE fun _ _ =>
      Res.ite_le (Res.bind_le ih.execB fun _ _ => Res.step_le _ _ ih.execWhile) (Res.le_refl _)
  execDo := by
    intro cur b c s
    rw [execDo, execDo]
    exact Res.bind_le ih.execB fun _ _ =>
      Res.step_le _ _ (Res.bind_le ih.evalE fun _ _ => Res.ite_le ih.execDo (Res.le_refl _))
  execFor := by
    intro cur c incs b s
    rw [execFor, execFor]
    exact Res.bind_le ih.evalE fun _ _ =>
      Res.ite_le (Res.bind_le ih.execB fun _ _ => Res.step_le _ _ (Res.bind_le ih.evalDiscard fun _ _ => ih.execFor))
        (Res.le_refl _)
  execForeach := by
    intro cur k v b l i s
    cases l <;> simp only [execForeach]
    · exact Res.le_refl _
    · exact Res.bind_le ih.execB fun _ _ => Res.step_le _ _ ih.execForeach
  execSwitch := by
    intro cur v cs d s
    cases cs <;> simp only [execSwitch]
    · exact ih.runBodies
    · exact Res.bind_le ih.evalE fun _ _ => Res.ite_le ih.runBodies ih.execSwitch
  runBodies := by
    intro cur cs d s
    cases cs <;> simp only [runBodies]
    · exact Res.bind_le ih.execB fun _ _ => Res.step_le _ _ (Res.le_refl _)
    · exact Res.bind_le ih.execB fun _ _ => Res.step_le _ _ ih.runBodies

theorem monoAt (funs : List FunDecl) : ∀ f, MonoAt funs f
  | 0 => by constructor <;> intros <;> exact Res.timeout_le _
  | f+1 => monoAt_succ (monoAt funs f)

end Proofs.Ctl
