import Proofs.Lemmas.CtlBasic
/-! The simulation relation `Rel` between a reference state (`Spec.Ctl.St`: locals and static
cells by *name*) and a model state (`Model.Ctl.MSt`: a slot vector indexed by the parser's
variable table, static cells by *slot index*), and the relations on results built on it. -/
namespace Proofs.Ctl
open Spec.Ctl Model.Ctl

def SRel (funs : List FunDecl) (ss : Statics) (ms : List ((FName × Nat) × Val)) : Prop :=
  ∀ g d, lookupFun funs g = some d → ∀ x ∈ funScope d,
    aget ms (g, idx (funScope d) x) = aget ss (g, x)

/-- inside function `g` the variable table `sc` is `funScope` of `g`'s declaration; no condition on the main
program -/
def CtxOK (funs : List FunDecl) (sc : List Var) (cur : Cur) : Prop :=
  ∀ g sv, cur = some (g, sv) → ∃ d, lookupFun funs g = some d ∧ sv = d.svars ∧ sc = funScope d

def isStatic (cur : Cur) (x : Var) : Prop := ∃ g sv, cur = some (g, sv) ∧ x ∈ sv

/-- The names `sv` inside `cur` are the static names declared SO FAR: while a call is entered they grow
one `static` declaration at a time (`rel_bindStatic`), so `Rel` is meant with `sv` a prefix of `d.svars` too. -/
structure Rel (funs : List FunDecl) (sc : List Var) (cur : Cur) (s : St) (m : MSt) : Prop where
  out : m.out = s.out
  len : m.fr.slots.length = sc.length
  fn : m.fr.fn = cur.map (·.1)
  bound : ∀ x ∈ sc, (idx sc x ∈ m.fr.bound ↔ isStatic cur x)
  locals : ∀ x ∈ sc, ¬ isStatic cur x → m.fr.slots[idx sc x]? = some ((aget s.env x).getD .null)
  statics : SRel funs s.statics m.statics

theorem isStatic_some {g : FName} {sv : List Var} {x : Var} : isStatic (some (g, sv)) x ↔ x ∈ sv :=
  ⟨fun ⟨_, _, e, hm⟩ => by cases e; exact hm, fun hm => ⟨g, sv, rfl, hm⟩⟩

theorem rel_read {funs sc cur s m} (h : Rel funs sc cur s m) (hc : CtxOK funs sc cur) {x : Var} (hx : x ∈ sc) :
    m.getSlot (idx sc x) = some (s.rd cur x) := by
  unfold MSt.getSlot St.rd
  rw [h.fn]
  cases cur with
  | none => exact h.locals x hx fun ⟨_, _, e, _⟩ => by cases e
  | some gs =>
    obtain ⟨g, sv⟩ := gs
    simp only [Option.map]
    obtain ⟨d, hd, hsv, hsc⟩ := hc g sv rfl
    have hb := (h.bound x hx).trans isStatic_some
    by_cases hs : x ∈ sv
    · simp only [hb.mpr hs, if_true, hs]
      have := h.statics g d hd x (hsc ▸ hx)
      rw [← hsc] at this
      rw [this]
    · simp only [mt hb.mp hs, if_false, hs]
      exact h.locals x hx (mt isStatic_some.mp hs)

theorem srel_aset {funs ss ms} (h : SRel funs ss ms) {g d} (hd : lookupFun funs g = some d) {x : Var}
    (hx : x ∈ funScope d) (v : Val) :
    SRel funs (aset ss (g, x) v) (aset ms (g, idx (funScope d) x) v) := by
  intro g' d' hd' y hy
  rw [aget_aset, aget_aset]
  by_cases hg : g' = g
  · subst hg
    rw [hd] at hd'
    cases hd'
    by_cases hyx : y = x
    · subst hyx
      simp
    · have : idx (funScope d) y ≠ idx (funScope d) x := fun e => hyx (idx_inj hy hx e)
      simp [hyx, this]
      exact h g' d hd y hy
  · simp only [Prod.mk.injEq, hg, false_and, if_false]
    exact h g' d' hd' y hy

theorem rel_write {funs sc cur s m} (h : Rel funs sc cur s m) (hc : CtxOK funs sc cur) {x : Var} (hx : x ∈ sc)
    (v : Val) : ∃ m', m.setSlot (idx sc x) v = some m' ∧ Rel funs sc cur (s.wr cur x v) m' := by
  have hlt : idx sc x < m.fr.slots.length := by rw [h.len]; exact idx_lt hx
  have hloc : Rel funs sc cur { s with env := aset s.env x v }
      { m with fr := { m.fr with slots := m.fr.slots.set (idx sc x) v } } :=
    ⟨h.out, by simp [h.len], h.fn, h.bound,
      fun y hy hns => getElem?_set_idx hx hy hlt v (h.locals y hy hns), h.statics⟩
  unfold MSt.setSlot St.wr
  rw [h.fn]
  cases cur with
  | none => simp only [Option.map, hlt, if_true]; exact ⟨_, rfl, hloc⟩
  | some gs =>
    obtain ⟨g, sv⟩ := gs
    simp only [Option.map]
    obtain ⟨d, hd, hsv, hsc⟩ := hc g sv rfl
    have hb := (h.bound x hx).trans isStatic_some
    by_cases hs : x ∈ sv
    · simp only [hb.mpr hs, if_true, hs]
      refine ⟨_, rfl, h.out, h.len, h.fn, h.bound, h.locals, ?_⟩
      simp only []
      rw [hsc]
      exact srel_aset h.statics hd (hsc ▸ hx) v
    · simp only [mt hb.mp hs, if_false, hs, hlt, if_true]
      exact ⟨_, rfl, hloc⟩

theorem rel_echo {funs sc cur s m} (h : Rel funs sc cur s m) (v : Val) :
    Rel funs sc cur (s.echo v) (m.echo v) := by
  refine ⟨?_, h.len, h.fn, h.bound, h.locals, h.statics⟩
  simp [St.echo, MSt.echo, h.out]

/-- The reference running out of fuel agrees with anything: the theorem is about runs the reference
semantics completes. -/
def RelR {α β : Type} (funs : List FunDecl) (sc : List Var) (cur : Cur) (Q : α → β → Prop) :
    Res α → MRes β → Prop
  | .ok a s, .ok b m => Q a b ∧ Rel funs sc cur s m
  | .err s, .ctl .thr m => Rel funs sc cur s m
  | .timeout, _ => True
  | _, _ => False

abbrev RelV (funs : List FunDecl) (sc : List Var) (cur : Cur) : Res Val → MRes Val → Prop :=
  RelR funs sc cur (fun a b => a = b)

/-- `RelR` for statements. Only level-1 `brk` / `cont` have a counterpart: the fragment has no other level, and
the model's Break level is ignored (`.brk _`) as every loop node ignores it. The model's value on `ok` is
unconstrained: the reference has none. -/
def RelO (funs : List FunDecl) (sc : List Var) (cur : Cur) : Res Out → MRes Val → Prop
  | .ok .normal s, .ok _ m => Rel funs sc cur s m
  | .ok (.brk 1) s, .ctl (.brk _) m => Rel funs sc cur s m
  | .ok (.cont 1) s, .ctl .cont m => Rel funs sc cur s m
  | .ok (.ret v) s, .ctl (.ret v') m => v = v' ∧ Rel funs sc cur s m
  | .err s, .ctl .thr m => Rel funs sc cur s m
  | .timeout, _ => True
  | _, _ => False

theorem relR_timeout {α β : Type} {funs sc cur} {Q : α → β → Prop} (mr : MRes β) :
    RelR funs sc cur Q .timeout mr := by
  cases mr <;> exact True.intro

theorem relO_timeout {funs sc cur} (mr : MRes Val) : RelO funs sc cur .timeout mr := by
  unfold RelO; cases mr <;> simp

theorem relR_cases {α β : Type} {funs sc cur} {Q : α → β → Prop} {r : Res α} {mr : MRes β}
    (h : RelR funs sc cur Q r mr) {P : Prop} (htime : r = .timeout → P)
    (hok : ∀ a b s m, r = .ok a s → mr = .ok b m → Q a b → Rel funs sc cur s m → P)
    (herr : ∀ s m, r = .err s → mr = .ctl .thr m → Rel funs sc cur s m → P) : P := by
  unfold RelR at h
  split at h
  · exact hok _ _ _ _ rfl rfl h.1 h.2
  · exact herr _ _ rfl rfl h
  · exact htime rfl
  · exact h.elim

/-- Carries a simulation from the general node to the node `compile` fuses in its place: the model-level equations say
"the general node is out of fuel, or the fused node gives the same". -/
theorem relR_fused {α β : Type} {funs sc cur} {Q : α → β → Prop} {r : Res α} {mr mr' : MRes β}
    (h : RelR funs sc cur Q r mr') (he : mr' = .timeout ∨ mr = mr') : RelR funs sc cur Q r mr := by
  rcases he with rfl | rfl
  · cases r with
    | timeout => exact relR_timeout _
    | ok a s => exact False.elim h
    | err s => exact False.elim h
  · exact h

theorem relR_bind {α β α' β' : Type} {funs sc cur} {Q : α → β → Prop} {Q' : α' → β' → Prop}
    {r : Res α} {mr : MRes β} {k : α → St → Res α'} {k' : β → MSt → MRes β'}
    (h : RelR funs sc cur Q r mr)
    (hk : ∀ a b s m, Q a b → Rel funs sc cur s m → RelR funs sc cur Q' (k a s) (k' b m)) :
    RelR funs sc cur Q' (r.bind k) (mr.bind k') := by
  apply relR_cases h
  · rintro rfl; exact relR_timeout _
  · rintro a b s m rfl rfl q hr; exact hk a b s m q hr
  · rintro s m rfl rfl hr; exact hr

theorem relRO_bind {α β : Type} {funs sc cur} {Q : α → β → Prop}
    {r : Res α} {mr : MRes β} {k : α → St → Res Out} {k' : β → MSt → MRes Val}
    (h : RelR funs sc cur Q r mr)
    (hk : ∀ a b s m, Q a b → Rel funs sc cur s m → RelO funs sc cur (k a s) (k' b m)) :
    RelO funs sc cur (r.bind k) (mr.bind k') := by
  apply relR_cases h
  · rintro rfl; exact relO_timeout _
  · rintro a b s m rfl rfl q hr; exact hk a b s m q hr
  · rintro s m rfl rfl hr; exact hr

theorem relV_bind {α β : Type} {funs sc cur} {Q : α → β → Prop} {r : Res Val} {mr : MRes Val}
    {k : Val → St → Res α} {k' : Val → MSt → MRes β} (h : RelV funs sc cur r mr)
    (hk : ∀ v s m, Rel funs sc cur s m → RelR funs sc cur Q (k v s) (k' v m)) :
    RelR funs sc cur Q (r.bind k) (mr.bind k') :=
  relR_bind h fun _ _ s m e hr => e ▸ hk _ s m hr

theorem relVO_bind {funs sc cur} {r : Res Val} {mr : MRes Val} {k : Val → St → Res Out} {k' : Val → MSt → MRes Val}
    (h : RelV funs sc cur r mr) (hk : ∀ v s m, Rel funs sc cur s m → RelO funs sc cur (k v s) (k' v m)) :
    RelO funs sc cur (r.bind k) (mr.bind k') :=
  relRO_bind h fun _ _ s m e hr => e ▸ hk _ s m hr

theorem relR_map_left {α β α' : Type} {funs sc cur} {Q : α → β → Prop} {Q' : α' → β → Prop}
    {r : Res α} {mr : MRes β} (g : α → α') (h : RelR funs sc cur Q r mr)
    (hq : ∀ a b, Q a b → Q' (g a) b) :
    RelR funs sc cur Q' (r.bind fun a s => .ok (g a) s) mr := by
  apply relR_cases h
  · rintro rfl; exact relR_timeout _
  · rintro a b s m rfl rfl q hr; exact ⟨hq a b q, hr⟩
  · rintro s m rfl rfl hr; exact hr

theorem relO_of_relV {funs sc cur} {r : Res Val} {mr : MRes Val} (h : RelV funs sc cur r mr) :
    RelO funs sc cur (r.bind fun _ s1 => .ok .normal s1) mr := by
  apply relR_cases h
  · rintro rfl; exact relO_timeout _
  · rintro a b s m rfl rfl _ hr; exact hr
  · rintro s m rfl rfl hr; exact hr

theorem relO_cases {funs sc cur} {r : Res Out} {mr : MRes Val} (h : RelO funs sc cur r mr) {P : Prop}
    (htime : r = .timeout → P)
    (hnormal : ∀ s v m, r = .ok .normal s → mr = .ok v m → Rel funs sc cur s m → P)
    (hbrk : ∀ s l m, r = .ok (.brk 1) s → mr = .ctl (.brk l) m → Rel funs sc cur s m → P)
    (hcont : ∀ s m, r = .ok (.cont 1) s → mr = .ctl .cont m → Rel funs sc cur s m → P)
    (hret : ∀ s v m, r = .ok (.ret v) s → mr = .ctl (.ret v) m → Rel funs sc cur s m → P)
    (herr : ∀ s m, r = .err s → mr = .ctl .thr m → Rel funs sc cur s m → P) : P := by
  unfold RelO at h
  split at h
  · exact hnormal _ _ _ rfl rfl h
  · exact hbrk _ _ _ rfl rfl h
  · exact hcont _ _ rfl rfl h
  · obtain ⟨rfl, h⟩ := h; exact hret _ _ _ rfl rfl h
  · exact herr _ _ rfl rfl h
  · exact htime rfl
  · exact h.elim

theorem relO_loop {funs sc cur} {r : Res Out} {mr : MRes Val} (h : RelO funs sc cur r mr)
    {again : St → Res Out} {againM : Val → MSt → MRes Val}
    (hagain : ∀ v s m, Rel funs sc cur s m → RelO funs sc cur (again s) (againM v m)) :
    RelO funs sc cur
      (r.bind fun o s => match loopStep o with | .next => again s | .exit o' => .ok o' s | .bad => .err s)
      (match (generalizing := false) mr with
        | .ok v m => againM v m
        | .ctl (.brk _) m => .ok .null m
        | .ctl .cont m => againM .null m
        | r => r) := by
  apply relO_cases h
  · rintro rfl; exact relO_timeout _
  · rintro s v m rfl rfl hr; exact hagain v s m hr
  · rintro s l m rfl rfl hr; exact hr
  · rintro s m rfl rfl hr; exact hagain .null s m hr
  · rintro s v m rfl rfl hr; exact ⟨rfl, hr⟩
  · rintro s m rfl rfl hr; exact hr

/-- as `relO_loop`, except that Continue ends a switch (`switchStep (.cont 1) = .exit .normal`) -/
theorem relO_switch {funs sc cur} {r : Res Out} {mr : MRes Val} (h : RelO funs sc cur r mr)
    {again : St → Res Out} {againM : Val → MSt → MRes Val}
    (hagain : ∀ v s m, Rel funs sc cur s m → RelO funs sc cur (again s) (againM v m)) :
    RelO funs sc cur
      (r.bind fun o s => match switchStep o with | .next => again s | .exit o' => .ok o' s | .bad => .err s)
      (match (generalizing := false) mr with
        | .ok v m => againM v m
        | .ctl (.brk _) m => .ok .null m
        | .ctl .cont m => .ok .null m
        | r => r) := by
  apply relO_cases h
  · rintro rfl; exact relO_timeout _
  · rintro s v m rfl rfl hr; exact hagain v s m hr
  · rintro s l m rfl rfl hr; exact hr
  · rintro s m rfl rfl hr; exact hr
  · rintro s v m rfl rfl hr; exact ⟨rfl, hr⟩
  · rintro s m rfl rfl hr; exact hr

theorem relV_ok {funs sc cur} {v : Val} {s : St} {m : MSt} (h : Rel funs sc cur s m) :
    RelV funs sc cur (.ok v s) (.ok v m) := ⟨rfl, h⟩

theorem relV_err {funs sc cur} {s : St} {m : MSt} (h : Rel funs sc cur s m) :
    RelV funs sc cur (.err s : Res Val) (.ctl .thr m) := h

end Proofs.Ctl
