import Model.CtlScan
/-! Pre-scans of a function body. A scan that opens only the statement-list fields `o` never reports a construct
that is absent (`scan*_sound`) and is exact on every body all of whose fields it opens (`scan*_complete`). -/
namespace Proofs.CtlScan
open Model.CtlScan

mutual
theorem scanSt_sound (o : List String) : ∀ t, scanSt o t = true → hasSt t = true
  | .hit, _ => rfl
  | .other, h => by simp [scanSt] at h
  | .node ps, h => by simp only [scanSt] at h; simp only [hasSt]; exact scanParts_sound o ps h
theorem scanParts_sound (o : List String) : ∀ t, scanParts o t = true → hasParts t = true
  | .nil, h => by simp [scanParts] at h
  | .cons f b rest, h => by
    simp only [scanParts, Bool.or_eq_true, Bool.and_eq_true] at h
    simp only [hasParts, Bool.or_eq_true]
    rcases h with ⟨_, h⟩ | h
    · exact Or.inl (scanBlk_sound o b h)
    · exact Or.inr (scanParts_sound o rest h)
theorem scanBlk_sound (o : List String) : ∀ t, scanBlk o t = true → hasBlk t = true
  | .nil, h => by simp [scanBlk] at h
  | .cons s rest, h => by
    simp only [scanBlk, Bool.or_eq_true] at h
    simp only [hasBlk, Bool.or_eq_true]
    rcases h with h | h
    · exact Or.inl (scanSt_sound o s h)
    · exact Or.inr (scanBlk_sound o rest h)
end

mutual
theorem scanSt_complete (o : List String) : ∀ t, (∀ f ∈ fieldsSt t, f ∈ o) → scanSt o t = hasSt t
  | .hit, _ => rfl
  | .other, _ => rfl
  | .node ps, h => by simp only [scanSt, hasSt]; exact scanParts_complete o ps (by simpa [fieldsSt] using h)
theorem scanParts_complete (o : List String) : ∀ t, (∀ f ∈ fieldsParts t, f ∈ o) → scanParts o t = hasParts t
  | .nil, _ => rfl
  | .cons f b rest, h => by
    simp only [fieldsParts, List.mem_cons, List.mem_append] at h
    have hf : f ∈ o := h f (Or.inl rfl)
    have hb := scanBlk_complete o b (fun x hx => h x (Or.inr (Or.inl hx)))
    have hr := scanParts_complete o rest (fun x hx => h x (Or.inr (Or.inr hx)))
    simp [scanParts, hasParts, hf, hb, hr]
theorem scanBlk_complete (o : List String) : ∀ t, (∀ f ∈ fieldsBlk t, f ∈ o) → scanBlk o t = hasBlk t
  | .nil, _ => rfl
  | .cons s rest, h => by
    simp only [fieldsBlk, List.mem_append] at h
    have hs := scanSt_complete o s (fun x hx => h x (Or.inl hx))
    have hr := scanBlk_complete o rest (fun x hx => h x (Or.inr hx))
    simp [scanBlk, hasBlk, hs, hr]
end

/-- the smallest body a scan that does not open `f` gets wrong: the construct alone inside `f` -/
def missBody (f : String) : Blk := .cons (.node (.cons f (.cons .hit .nil) .nil)) .nil

theorem missBody_fields (f : String) : fieldsBlk (missBody f) = [f] := by
  simp [missBody, fieldsBlk, fieldsSt, fieldsParts]

theorem missBody_has (f : String) : hasBlk (missBody f) = true := by
  simp [missBody, hasBlk, hasSt, hasParts]

theorem missBody_scan (o : List String) (f : String) (h : f ∉ o) : scanBlk o (missBody f) = false := by
  simp [missBody, scanBlk, scanSt, scanParts, h]

theorem mem_mustOpen {containers : List String} {name c : String} :
    c ∈ mustOpen containers name ↔ c ∈ containers ∧ c ∉ notInFunctionBody ∧ (name, c) ∉ knownUnopened := by
  simp [mustOpen, List.mem_filter]

end Proofs.CtlScan
