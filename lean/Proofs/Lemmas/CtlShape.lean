import Model.CtlShape
import Proofs.Lemmas.CtlBasic
/-! What a construct of `Model.CtlShape` does after its body, read off the decided arms of its dispatch table. -/
namespace Proofs.CtlShape
open Spec.Ctl Model.Ctl Model.CtlShape

theorem execBody_eq (funs : List MFun) (d : Dispatch) (hns : ∀ c, d.arm c ≠ .swallow) :
    ∀ (f : Nat) (b : MBlock) (v : Val) (s : MSt), execBody funs d f b v s = execMB funs f b v s := by
  intro f
  induction f with
  | zero => intro b v s; simp [execBody, execMB]
  | succ f ih =>
    intro b v s
    cases b with
    | nil => simp [execBody, execMB]
    | cons st rest =>
      simp only [execBody, execMB]
      cases h : execM funs f st s with
      | ok v1 s1 => simp [MRes.bind, ih]
      | ctl c s1 => simp [MRes.bind, hns c]
      | timeout => simp [MRes.bind]

/-- the decided arms of a dispatch table; Return and Throw go up (a Go panic always does) -/
structure Arms (d : Dispatch) (onBrk onCont : Arm) : Prop where
  brk : ∀ n, d.arm (.brk n) = onBrk
  cont : d.arm .cont = onCont
  ret : ∀ v, d.arm (.ret v) = .propagate
  thr : d.arm .thr = .propagate

theorem Arms.noSwallow {d : Dispatch} {ab ac : Arm} (A : Arms d ab ac) (hb : ab ≠ .swallow) (hc : ac ≠ .swallow) :
    ∀ c, d.arm c ≠ .swallow := by
  intro c
  cases c with
  | brk n => rw [A.brk]; exact hb
  | cont => rw [A.cont]; exact hc
  | ret v => rw [A.ret]; decide
  | thr => rw [A.thr]; decide
  | crash => exact fun h => Arm.noConfusion h

/-- What a construct does with the result of its body (`K`: what follows the body, `k`: what a restart does),
read off the two arms that differ between constructs. -/
theorem Arms.afterBody {d : Dispatch} {ab ac : Arm} (A : Arms d ab ac) (hb : ab ≠ .swallow) (hc : ac ≠ .swallow)
    (funs : List MFun) (f : Nat) (b : MBlock) (v : Val) (s : MSt) (K : Val → MSt → MRes Val) (k : MSt → MRes Val) :
    (match d.step (execBody funs d f b v s) with
      | .fallOut v' s' => K v' s'
      | .skipRest s' => k s'
      | .stop r => r) =
    match execMB funs f b v s with
    | .ok v' s' => K v' s'
    | .ctl (.brk n) s' => (match ab.step (.brk n) s' with | .fallOut v' s' => K v' s' | .skipRest s' => k s' | .stop r => r)
    | .ctl .cont s' => (match ac.step .cont s' with | .fallOut v' s' => K v' s' | .skipRest s' => k s' | .stop r => r)
    | r => r := by
  rw [execBody_eq funs d (A.noSwallow hb hc)]
  cases execMB funs f b v s with
  | timeout => rfl
  | ok v' s' => rfl
  | ctl c s' => cases c <;> simp only [Dispatch.step, A.brk, A.cont, A.ret, A.thr, Arm.step] <;> rfl

/-- where the body is the last phase of an iteration, going on (`next`) and restarting are the same thing -/
theorem Arms.afterBody_last {d : Dispatch} {ac : Arm} (A : Arms d .leave ac) (hc : ac = .next ∨ ac = .restart)
    (funs : List MFun) (f : Nat) (b : MBlock) (v : Val) (s : MSt) (K : Val → MSt → MRes Val) :
    (match d.step (execBody funs d f b v s) with
      | .fallOut v' s' => K v' s'
      | .skipRest s' => K .null s'
      | .stop r => r) =
    match execMB funs f b v s with
    | .ok v' s' => K v' s'
    | .ctl (.brk _) s' => .ok .null s'
    | .ctl .cont s' => K .null s'
    | r => r := by
  have hns : ac ≠ .swallow := by rcases hc with h | h <;> rw [h] <;> decide
  refine (A.afterBody (by decide) hns funs f b v s K fun s' => K .null s').trans ?_
  rcases hc with h | h <;> rw [h] <;> rfl

theorem loopArms_of {d : Dispatch} (hb : d.loopBase = true) : Arms d .leave (pick d.onContinue) := by
  simp only [Dispatch.loopBase, Bool.and_eq_true, beq_iff_eq] at hb
  exact ⟨fun _ => hb.1.1.2, rfl, fun _ => hb.1.2, hb.2⟩

theorem scanTests_matched_guarded (F : ScanFacts) (hg : F.testGuard = .untilMatched) (ts : List Bool) :
    scanTests F true ts = ts.map (fun _ => false) := by
  induction ts with
  | nil => rfl
  | cons t ts ih => simp [scanTests, hg, ih]

theorem foldl_keepOrInsert {κ : Type} [DecidableEq κ] (i : κ) (v : Val) :
    ∀ (ops : List StoreOp) (cells : List (κ × Val)),
      ops.all (fun op => op == .insertFresh || op == .growKeep) = true →
      ops.foldl (fun cs op => op.apply i v cs) cells =
        if ops.contains .insertFresh then aset cells i v else cells
  | [], cells, _ => by simp
  | op :: ops, cells, h => by
    simp only [List.all_cons, Bool.and_eq_true, Bool.or_eq_true, beq_iff_eq] at h
    have ih := foldl_keepOrInsert i v ops
    have hI : StoreOp.apply i v cells .insertFresh = aset cells i v := rfl
    have hK : StoreOp.apply i v cells .growKeep = cells := rfl
    cases h.1 with
    | inl hi =>
      subst hi
      rw [List.foldl_cons, hI, ih _ h.2]
      simp only [List.contains_cons, BEq.rfl, Bool.true_or, if_true]
      split
      · exact Proofs.Ctl.aset_aset cells i v
      · rfl
    | inr hk =>
      subst hk
      rw [List.foldl_cons, hK, ih _ h.2]
      have : (StoreOp.insertFresh == StoreOp.growKeep) = false := by decide
      simp only [List.contains_cons, this, Bool.false_or]

theorem initBy_eq {κ : Type} [DecidableEq κ] (F : StoreFacts) (h : storeOK F = true) (cells : List (κ × Val)) (i : κ) (v : Val) :
    initBy F cells i v = if (aget cells i).isNone then aset cells i v else cells := by
  simp only [storeOK, Bool.and_eq_true] at h
  obtain ⟨⟨⟨⟨⟨hg, hall⟩, hins⟩, _⟩, _⟩, _⟩ := h
  simp only [initBy, hg, Bool.true_and]
  cases hc : aget cells i with
  | some z => simp
  | none =>
    simp only [Option.isSome_none, Option.isNone_none, Bool.false_eq_true, if_false, if_true]
    rw [foldl_keepOrInsert i v F.initOps cells hall, hins]
    rfl

end Proofs.CtlShape
