import Proofs.Lemmas.CtlSimCall
/-! Simulation: the induction on fuel (one clause per function of the two interpreters). -/
namespace Proofs.Ctl
open Spec.Ctl Model.Ctl

variable {funs : List FunDecl}

theorem simAt_zero (funs : List FunDecl) : SimAt funs 0 := by
  constructor <;> intros <;> first | exact relR_timeout _ | exact relO_timeout _

-- where one `simp only` closes the alternatives of a `cases` (`cases k <;> simp only […]`, `rcases st … <;> …`), each
-- alternative uses a different subset of the listed lemmas
set_option linter.unusedSimpArgs false in
theorem simAt_succ {f : Nat} (hgood : GoodFuns funs) (ih : SimAt funs f) : SimAt funs (f+1) where
  evalE := by
    intro sc cur e s m hc hr ce ge
    cases e <;> simp only [varsE, goodE, Bool.and_eq_true] at ce ge
    case lit v => simp only [evalE, compE, evalM]; exact relV_ok hr
    case var x =>
      simp only [evalE, compE, evalM, rel_read hr hc ce.head]
      exact relV_ok hr
    case bin op a b =>
      have hgen := sim_bin ih op a b hc hr ce.left ce.right ge.1 ge.2
      simp only [compE, mkBin]
      -- first pattern of `mkBin`, `$x <= n` as `VarIntLe`: on an int slot the node answers without evaluating operands,
      -- while the reference spends fuel `f` on its two operands (none left at `f = 0`, hence `cases f`); on any other
      -- slot the node runs the `bin .le` it carries and both sides fail
      split
      · next x n =>
        have hx : x ∈ sc := ce.left.head
        cases f with
        | zero => simp only [evalE, Res.bind]; exact relR_timeout _
        | succ f =>
          simp only [evalM, rel_read hr hc hx, evalE, Res.bind]
          cases hv : s.rd cur x with
          | int v => simp only [binop]; exact relV_ok hr
          | _ => simp only [binop, compE, binM, evalM, rel_read hr hc hx, hv, MRes.bind]; exact relV_err hr
      · simpa only [evalM] using hgen
    case not a =>
      simp only [evalE, compE, evalM]
      exact relV_bind (ih.evalE sc cur a s m hc hr ce ge) fun v s1 m1 h1 => relV_ok h1
    case and a b =>
      simp only [evalE, compE, evalM]
      refine relV_bind (ih.evalE sc cur a s m hc hr ce.left ge.1) fun v s1 m1 h1 => ?_
      cases v.truthy with
      | false => exact relV_ok h1
      | true =>
        simp only [if_true]
        exact relV_bind (ih.evalE sc cur b s1 m1 hc h1 ce.right ge.2) fun w s2 m2 h2 => relV_ok h2
    case or a b =>
      simp only [evalE, compE, evalM]
      refine relV_bind (ih.evalE sc cur a s m hc hr ce.left ge.1) fun v s1 m1 h1 => ?_
      cases v.truthy with
      | true => exact relV_ok h1
      | false =>
        simp only [Bool.false_eq_true, if_false]
        exact relV_bind (ih.evalE sc cur b s1 m1 hc h1 ce.right ge.2) fun w s2 m2 h2 => relV_ok h2
    case assign x e =>
      simp only [compE]
      exact sim_assign ih x e hc hr ce.head ce.tail ge
    case inc k x =>
      cases k <;> simp only [compE, mkInc, evalM, incFused_post _ (.inl rfl), incFused_post _ (.inr rfl)] <;> exact sim_incGeneral hc hr _ ce.head f
    case call g args => exact simCall_step ih hgood sc cur g args s m hc hr ce ge
    case matchE subj arms d =>
      simp only [evalE, compE, evalM]
      exact relV_bind (ih.evalE sc cur subj s m hc hr ce.left ge.1) fun v s1 m1 h1 =>
        ih.evalArms sc cur v arms d s1 m1 hc h1 ce.right.left ce.right.right ge.2.1 ge.2.2
  evalArms := by
    intro sc cur v arms d s m hc hr ca cd ga gd
    cases arms with
    | nil =>
      simp only [evalArms, compArms, evalArmsM]
      exact ih.evalE sc cur d s m hc hr cd gd
    | cons c r rest =>
      simp only [varsArms, goodArms, Bool.and_eq_true] at ca ga
      simp only [evalArms, compArms, evalArmsM]
      refine relV_bind (ih.evalE sc cur c s m hc hr ca.left ga.1) fun vc s1 m1 h1 => ?_
      cases strictEq v vc with
      | true => exact ih.evalE sc cur r s1 m1 hc h1 ca.right.left ga.2.1
      | false => exact ih.evalArms sc cur v rest d s1 m1 hc h1 ca.right.right cd ga.2.2 gd
  echo := by
    intro sc cur es s m hc hr ce ge
    cases es with
    | nil => simp only [echoArgs, compArgs, echoM]; exact hr
    | cons e rest =>
      simp only [varsArgs, goodArgs, Bool.and_eq_true] at ce ge
      simp only [echoArgs, compArgs, echoM]
      exact relVO_bind (ih.evalE sc cur e s m hc hr ce.left ge.1) fun v s1 m1 h1 =>
        ih.echo sc cur rest _ _ hc (rel_echo h1 v) ce.right ge.2
  discard := by
    intro sc cur es s m hc hr ce ge
    cases es with
    | nil => simp only [evalDiscard, compArgs, discardM]; exact ⟨True.intro, hr⟩
    | cons e rest =>
      simp only [varsArgs, goodArgs, Bool.and_eq_true] at ce ge
      simp only [evalDiscard, compArgs, discardM]
      exact relV_bind (ih.evalE sc cur e s m hc hr ce.left ge.1) fun _ s1 m1 h1 =>
        ih.discard sc cur rest s1 m1 hc h1 ce.right ge.2
  discardIncs := by
    intro sc cur es s m hc hr ce ge
    cases es with
    | nil => simp only [evalDiscard, compArgs, mapIncs, discardM]; exact ⟨True.intro, hr⟩
    | cons e rest =>
      simp only [varsArgs, goodArgs, Bool.and_eq_true] at ce ge
      simp only [evalDiscard, compArgs, mapIncs, discardM]
      -- `toStmtIncr_effect` speaks of a node that has fuel; without any the reference is out of fuel too
      cases f with
      | zero =>
        simp only [evalE, Res.bind]; exact relR_timeout _
      | succ f =>
        rw [toStmtIncr_effect]
        exact relV_bind (ih.evalE sc cur e s m hc hr ce.left ge.1) fun _ s1 m1 h1 =>
          ih.discardIncs sc cur rest s1 m1 hc h1 ce.right ge.2
  bindArgs := by
    intro sc cur args ps s m slots hc hr ca ga hlen hidx
    cases args with
    | nil =>
      simp only [evalArgs, compArgs]
      cases ps with
      | nil => simp only [bindArgs]; exact ⟨⟨rfl, rfl⟩, hr⟩
      | cons p ps =>
        simp only [bindArgs]
        obtain ⟨sl, h1⟩ := fillDefaults_some (p :: ps) slots hidx
        rw [h1]
        exact ⟨⟨rfl, by simp [bindPure, h1]⟩, hr⟩
    | cons e rest =>
      simp only [varsArgs, goodArgs, Bool.and_eq_true] at ca ga
      cases ps with
      | nil => simp [Args.length] at hlen
      | cons p ps =>
        simp only [Args.length, List.length_cons] at hlen
        simp only [evalArgs, compArgs, bindArgs]
        refine relV_bind (ih.evalE sc cur e s m hc hr ca.left ga.1) fun v s1 m1 h1 => ?_
        have hp : p.idx < slots.length := hidx p List.mem_cons_self
        simp only [hp, if_true]
        refine relR_map_left (fun vs => v :: vs)
          (ih.bindArgs sc cur rest ps s1 m1 (slots.set p.idx v) hc h1 ca.right ga.2 (by omega)
            (by intro q hq; simpa using hidx q (List.mem_cons_of_mem _ hq))) ?_
        intro vs sl hq
        exact ⟨by simp [Args.length, hq.1], by simpa [bindPure] using hq.2⟩
  execS := by
    intro sc cur st s m hc hr cs gs
    rcases st with _ | _ | _ | _ | _ | _ | _ | _ | _ | _ | (_ | _) <;>
      simp only [varsS, goodS, Bool.and_eq_true, beq_iff_eq] at cs gs <;> simp only [execS, compS, execM]
    case echo es => exact ih.echo sc cur es s m hc hr cs gs
    case expr e => exact relO_of_relV (ih.evalE sc cur e s m hc hr cs gs)
    case ite c t elifs els =>
      refine relVO_bind (ih.evalE sc cur c s m hc hr cs.left gs.1) fun v s1 m1 h1 => ?_
      cases v.truthy with
      | true => exact ih.execB sc cur t .null s1 m1 hc h1 cs.right.left gs.2.1
      | false => exact ih.elifs sc cur elifs els s1 m1 hc h1 cs.right.right.left cs.right.right.right gs.2.2.1 gs.2.2.2
    case while_ c b => exact ih.while_ sc cur c b .null s m hc hr cs.left cs.right gs.1 gs.2
    case doWhile b c => exact ih.do_ sc cur b c .null s m hc hr cs.right cs.left gs.2 gs.1
    case for_ inits cond incs b =>
      refine relRO_bind (ih.discard sc cur inits s m hc hr cs.left gs.1) fun _ _ s1 m1 _ h1 => ?_
      exact ih.for_ sc cur cond incs b .null s1 m1 hc h1 cs.right.left cs.right.right.left cs.right.right.right
        gs.2.1 gs.2.2.1 gs.2.2.2
    case foreach e k v b =>
      refine relVO_bind (ih.evalE sc cur e s m hc hr cs.left gs.1) fun ve s1 m1 h1 => ?_
      have hk : ∀ kv, k = some kv → kv ∈ sc := fun kv hkv => cs.right.left kv (by simp [hkv])
      cases ve with
      | list l => exact ih.foreach sc cur k v b l 0 .null s1 m1 hc h1 hk cs.right.right.head cs.right.right.tail gs.2
      | _ => exact h1
    case switch e cases dflt =>
      exact relVO_bind (ih.evalE sc cur e s m hc hr cs.left gs.1) fun v s1 m1 h1 =>
        ih.switch sc cur v cases dflt s1 m1 hc h1 cs.right.left cs.right.right gs.2.1 gs.2.2
    case brk n => subst gs; exact hr
    case cont n => subst gs; exact hr
    case ret.none => exact ⟨rfl, hr⟩
    case ret.some e => exact relVO_bind (ih.evalE sc cur e s m hc hr cs gs) fun v s1 m1 h1 => ⟨rfl, h1⟩
  execB := by
    intro sc cur b v0 s m hc hr cb gb
    cases b with
    | nil => simp only [execB, compB, execMB]; exact hr
    | cons st rest =>
      simp only [varsB, goodB, Bool.and_eq_true] at cb gb
      simp only [execB, compB, execMB]
      -- the cases of `relO_cases` in its order: out of fuel, then normal / brk / cont / ret / err
      apply relO_cases (ih.execS sc cur st s m hc hr cb.left gb.1)
      · intro h; rw [h]; exact relO_timeout _
      · intro s1 v m1 h1 h2 hr1
        rw [h1, h2]
        exact ih.execB sc cur rest v s1 m1 hc hr1 cb.right gb.2
      · intro s1 l m1 h1 h2 hr1; rw [h1, h2]; exact hr1
      · intro s1 m1 h1 h2 hr1; rw [h1, h2]; exact hr1
      · intro s1 v m1 h1 h2 hr1; rw [h1, h2]; exact ⟨rfl, hr1⟩
      · intro s1 m1 h1 h2 hr1; rw [h1, h2]; exact hr1
  elifs := by
    intro sc cur el els s m hc hr ce cb ge gb
    cases el with
    | nil =>
      simp only [execElifs, compElifs, elifsM]
      exact ih.execB sc cur els .null s m hc hr cb gb
    | cons c b rest =>
      simp only [varsElifs, goodElifs, Bool.and_eq_true] at ce ge
      simp only [execElifs, compElifs, elifsM]
      refine relVO_bind (ih.evalE sc cur c s m hc hr ce.left ge.1) fun v s1 m1 h1 => ?_
      cases v.truthy with
      | true => exact ih.execB sc cur b .null s1 m1 hc h1 ce.right.left ge.2.1
      | false => exact ih.elifs sc cur rest els s1 m1 hc h1 ce.right.right cb ge.2.2 gb
  while_ := by
    intro sc cur c b v0 s m hc hr cc cb gc gb
    simp only [execWhile, whileM]
    refine relVO_bind (ih.evalE sc cur c s m hc hr cc gc) fun v s1 m1 h1 => ?_
    cases v.truthy with
    | false => exact h1
    | true =>
      simp only [if_true]
      exact relO_loop (ih.execB sc cur b v0 s1 m1 hc h1 cb gb) fun v2 s2 m2 h2 =>
        ih.while_ sc cur c b v2 s2 m2 hc h2 cc cb gc gb
  do_ := by
    intro sc cur b c v0 s m hc hr cc cb gc gb
    simp only [execDo, doM]
    refine relO_loop (ih.execB sc cur b v0 s m hc hr cb gb) fun v1 s1 m1 h1 => ?_
    refine relVO_bind (ih.evalE sc cur c s1 m1 hc h1 cc gc) fun v s2 m2 h2 => ?_
    cases v.truthy with
    | false => exact h2
    | true => exact ih.do_ sc cur b c v1 s2 m2 hc h2 cc cb gc gb
  for_ := by
    intro sc cur c incs b v0 s m hc hr cc ci cb gc gi gb
    simp only [execFor, Model.Ctl.forM]
    refine relVO_bind (ih.evalE sc cur c s m hc hr cc gc) fun v s1 m1 h1 => ?_
    cases v.truthy with
    | false => exact h1
    | true =>
      simp only [if_true]
      refine relO_loop (ih.execB sc cur b v0 s1 m1 hc h1 cb gb) fun v2 s2 m2 h2 => ?_
      exact relRO_bind (ih.discardIncs sc cur incs s2 m2 hc h2 ci gi) fun _ _ s3 m3 _ h3 =>
        ih.for_ sc cur c incs b v2 s3 m3 hc h3 cc ci cb gc gi gb
  foreach := by
    intro sc cur k v b l i v0 s m hc hr hk hv cb gb
    cases l with
    | nil => simp only [execForeach, foreachM]; exact hr
    | cons x xs =>
      obtain ⟨m1, hm1, h1⟩ := rel_write hr hc hv (.int x)
      have next := fun v3 s3 m3 (h3 : Rel funs sc cur s3 m3) =>
        ih.foreach sc cur k v b xs (i+1) v3 s3 m3 hc h3 hk hv cb gb
      cases k with
      | none =>
        simp only [execForeach, foreachM, Option.map, assignTo, hm1, MRes.bind]
        exact relO_loop (ih.execB sc cur b v0 _ _ hc h1 cb gb) next
      | some kv =>
        obtain ⟨m2, hm2, h2⟩ := rel_write h1 hc (hk kv rfl) (.int i)
        simp only [execForeach, foreachM, Option.map, assignTo, hm1, MRes.bind, hm2, Option.getD]
        exact relO_loop (ih.execB sc cur b v0 _ _ hc h2 cb gb) next
  switch := by
    intro sc cur v cs d s m hc hr cc cd gc gd
    cases cs with
    | nil =>
      simp only [execSwitch, compCases, switchM]
      exact ih.runBodies sc cur .nil d s m hc hr cc cd gc gd
    | cons lbl b rest =>
      have cc' := cc
      have gc' := gc
      simp only [varsCases, goodCases, Bool.and_eq_true] at cc gc
      simp only [execSwitch, compCases, switchM]
      refine relVO_bind (ih.evalE sc cur lbl s m hc hr cc.left gc.1) fun vl s1 m1 h1 => ?_
      cases looseEq v vl with
      | true => exact ih.runBodies sc cur (.cons lbl b rest) d s1 m1 hc h1 cc' cd gc' gd
      | false => exact ih.switch sc cur v rest d s1 m1 hc h1 cc.right.right cd gc.2.2 gd
  runBodies := by
    intro sc cur cs d s m hc hr cc cd gc gd
    cases cs with
    | nil =>
      simp only [runBodies, compCases, runBodiesM]
      exact relO_switch (ih.execB sc cur d .null s m hc hr cd gd) fun _ _ _ h1 => h1
    | cons lbl b rest =>
      simp only [varsCases, goodCases, Bool.and_eq_true] at cc gc
      simp only [runBodies, compCases, runBodiesM]
      exact relO_switch (ih.execB sc cur b .null s m hc hr cc.right.left gc.2.1) fun _ s1 m1 h1 =>
        ih.runBodies sc cur rest d s1 m1 hc h1 cc.right.right cd gc.2.2 gd

theorem simAt (hgood : GoodFuns funs) : ∀ f, SimAt funs f
  | 0 => simAt_zero funs
  | f+1 => simAt_succ hgood (simAt hgood f)

theorem rel_init (funs : List FunDecl) (sc : List Var) :
    Rel funs sc none St.init (MSt.init sc.length) := by
  refine ⟨rfl, (slotsEnv_init sc).1, rfl, ?_, fun x hx _ => (slotsEnv_init sc).2 x hx, fun _ _ _ _ _ => rfl⟩
  intro x hx
  simp only [MSt.init, List.not_mem_nil, false_iff]
  rintro ⟨g, sv, e, _⟩
  cases e

theorem not_refines_of {p : Prog} {fuel : Nat} {a b : List String × Status}
    (hs : Spec.Ctl.run p fuel = some a) (hm : Model.Ctl.run p fuel = some b) (hne : a ≠ b) :
    ¬ (∀ p fuel r, Spec.Ctl.run p fuel = some r → Model.Ctl.run p fuel = some r) :=
  fun h => hne (Option.some.inj ((h p fuel a hs).symm.trans hm))

end Proofs.Ctl
