import Proofs.Lemmas.CtlSimE
/-! Simulation of a call: entering the callee (fresh slot vector, parameters, `static` declarations), leaving it (the
result, the caller's locals untouched). -/
namespace Proofs.Ctl
open Spec.Ctl Model.Ctl

variable {funs : List FunDecl}

theorem execS_ret_not_normal (f : Nat) (cur : Cur) (e : Option Expr) (s s' : St) :
    execS funs f cur (.ret e) s ≠ .ok .normal s' := by
  cases f with
  | zero => simp [execS]
  | succ f =>
    cases e with
    | none => simp [execS]
    | some e =>
      simp only [execS]
      cases evalE funs f cur e s <;> simp [Res.bind]

theorem endsRet_not_normal : (b : Block) → endsRet b = true → ∀ (f : Nat) (cur : Cur) (s s' : St),
    execB funs f cur b s ≠ .ok .normal s'
  | .nil, h => by simp [endsRet] at h
  | .cons st rest, h => by
    intro f cur s s'
    cases f with
    | zero => simp [execB]
    | succ f =>
      simp only [execB]
      cases hst : execS funs f cur st s with
      | timeout => simp [Res.bind]
      | err s1 => simp [Res.bind]
      | ok o s1 =>
        cases o with
        | normal =>
          -- the head completed normally, so it is no `return`: the block's last statement is further on
          have hrest : endsRet rest = true := by
            unfold endsRet at h
            split at h
            · cases h
            · rename_i heq
              cases heq
              exact absurd hst (execS_ret_not_normal f cur _ s s1)
            · rename_i heq
              cases heq
              exact h
          exact endsRet_not_normal rest hrest f cur s1 s'
        | _ => simp [Res.bind]

def mparams (sc : List Var) (ps : List Param) : List MParam := ps.map fun p => ⟨idx sc p.name, p.dflt⟩

/-- `Rel`'s `len` and `locals` for a frame with no bound slot -/
def SlotsEnv (sc : List Var) (slots : List Val) (env : Env) : Prop :=
  slots.length = sc.length ∧ ∀ x ∈ sc, slots[idx sc x]? = some ((aget env x).getD .null)

theorem slotsEnv_set {sc slots env} (h : SlotsEnv sc slots env) {x : Var} (hx : x ∈ sc) (v : Val) :
    SlotsEnv sc (slots.set (idx sc x) v) (aset env x v) :=
  ⟨by simp [h.1], fun y hy => getElem?_set_idx hx hy (by rw [h.1]; exact idx_lt hx) v (h.2 y hy)⟩

/-- parameters still to be bound: distinct names of the table, none of them bound yet. The last is why `fillDefaults`'
test "the slot is null" coincides with "no argument was bound": an unbound name's slot holds `null` (`SlotsEnv`). -/
def Fresh (sc : List Var) (ps : List Param) (env : Env) : Prop :=
  (ps.map (·.name)).Nodup ∧ ∀ p ∈ ps, p.name ∈ sc ∧ aget env p.name = none

theorem Fresh.step {sc : List Var} {p : Param} {ps : List Param} {env : Env} (h : Fresh sc (p :: ps) env) (v : Val) :
    p.name ∈ sc ∧ aget env p.name = none ∧ Fresh sc ps (aset env p.name v) := by
  obtain ⟨hnd, hall⟩ := h
  have hnd' := List.nodup_cons.mp (by rw [List.map_cons] at hnd; exact hnd)
  refine ⟨(hall p List.mem_cons_self).1, (hall p List.mem_cons_self).2, hnd'.2, fun q hq => ?_⟩
  have hne : q.name ≠ p.name := fun e => hnd'.1 (e ▸ List.mem_map.mpr ⟨q, hq, rfl⟩)
  have hq' := hall q (List.mem_cons_of_mem _ hq)
  exact ⟨hq'.1, by rw [aget_aset_ne _ _ _ _ hne]; exact hq'.2⟩

theorem bindPure_nil (ps : List MParam) (slots : List Val) : bindPure ps [] slots = fillDefaults ps slots := by
  cases ps <;> rfl

theorem bindPure_rel (sc : List Var) : (ps : List Param) → (vs : List Val) → (slots : List Val) → (env : Env) →
    Fresh sc ps env → SlotsEnv sc slots env →
    ∃ sl, bindPure (mparams sc ps) vs slots = some sl ∧ SlotsEnv sc sl (bindParams ps vs env)
  | [], vs, slots, env, _, h => ⟨slots, by simp [mparams, bindPure], by simpa [bindParams] using h⟩
  | p :: ps, [], slots, env, hf, h => by
    obtain ⟨hp, hnone, hf'⟩ := hf.step (p.dflt.getD .null)
    have hslot : slots[idx sc p.name]? = some .null := by rw [h.2 _ hp, hnone]; rfl
    have hset := slotsEnv_set h hp (p.dflt.getD .null)
    simp only [mparams, List.map_cons, bindPure, fillDefaults, hslot, bindParams]
    cases hd : p.dflt with
    | none =>
      -- the model leaves the slot alone: it already holds the null the reference semantics binds
      rw [hd] at hset hf'
      obtain ⟨hlt, e⟩ := List.getElem?_eq_some_iff.mp hslot
      have hid : slots.set (idx sc p.name) .null = slots := by rw [← e]; exact List.set_getElem_self hlt
      rw [Option.getD, hid] at hset
      simpa only [mparams, bindPure_nil] using bindPure_rel sc ps [] slots _ hf' hset
    | some d =>
      rw [hd] at hset hf'
      simpa only [mparams, bindPure_nil, Option.getD] using bindPure_rel sc ps [] _ _ hf' hset
  | p :: ps, v :: vs, slots, env, hf, h => by
    obtain ⟨hp, _, hf'⟩ := hf.step v
    simp only [mparams, List.map_cons, bindPure, bindParams]
    exact bindPure_rel sc ps vs _ _ hf' (slotsEnv_set h hp v)

theorem slotsEnv_init (sc : List Var) : SlotsEnv sc (List.replicate sc.length .null) [] := by
  refine ⟨by simp, ?_⟩
  intro x hx
  have := idx_lt hx
  simp [aget, this]

theorem mem_funScope_param {d : FunDecl} {p : Param} (h : p ∈ d.params) : p.name ∈ funScope d :=
  mem_mkScope (List.mem_append_left _ (List.mem_map.mpr ⟨p, h, rfl⟩))

theorem mem_funScope_static {d : FunDecl} {p : Var × Val} (h : p ∈ d.statics) : p.1 ∈ funScope d :=
  mem_mkScope (List.mem_append_right _ (List.mem_append_left _ (List.mem_map.mpr ⟨p, h, rfl⟩)))

theorem covers_funScope_body (d : FunDecl) : Covers (funScope d) (varsB d.body) :=
  fun _ h => mem_mkScope (List.mem_append_right _ (List.mem_append_right _ h))

theorem compFun_params (d : FunDecl) : (compFun d).params = mparams (funScope d) d.params := rfl

/-- The declared name's slot is bound from now on (so the local it held no longer matters) and its cell exists on both
sides. -/
theorem rel_bindStatic {g : FName} {d : FunDecl} (hd : lookupFun funs g = some d) {sv : List Var} {s : St} {m : MSt}
    (hr : Rel funs (funScope d) (some (g, sv)) s m) {x : Var} (hx : x ∈ funScope d) (v : Val) :
    Rel funs (funScope d) (some (g, sv ++ [x])) { s with statics := initStatics g [(x, v)] s.statics }
      (bindStatic g m (idx (funScope d) x) v) := by
  have hlt : idx (funScope d) x < m.fr.slots.length := hr.len ▸ idx_lt hx
  refine ⟨hr.out, hr.len, hr.fn, fun y hy => ?_, fun y hy hn => ?_, ?_⟩
  · simp only [bindStatic, hlt, if_true, List.mem_cons, hr.bound y hy, isStatic_some, List.mem_append,
      List.not_mem_nil, or_false]
    rw [or_comm]
    exact or_congr_right ⟨idx_inj hy hx, congrArg _⟩
  · exact hr.locals y hy fun h => hn (isStatic_some.mpr (List.mem_append_left _ (isStatic_some.mp h)))
  · simp only [bindStatic, initStatics, hr.statics g d hd x hx]
    split
    · exact srel_aset hr.statics hd hx v
    · exact hr.statics

theorem rel_bindStatics {g : FName} {d : FunDecl} (hd : lookupFun funs g = some d) :
    (sts : List (Var × Val)) → (sv : List Var) → (s : St) → (m : MSt) → Rel funs (funScope d) (some (g, sv)) s m →
    (∀ p ∈ sts, p.1 ∈ funScope d) →
    Rel funs (funScope d) (some (g, sv ++ sts.map (·.1))) { s with statics := initStatics g sts s.statics }
      (bindStatics g (sts.map fun (x, v) => (idx (funScope d) x, v)) m)
  | [], sv, s, m, hr, _ => by simpa [initStatics, bindStatics] using hr
  | (x, v) :: rest, sv, s, m, hr, hin => by
    have := rel_bindStatics hd rest _ _ _ (rel_bindStatic hd hr (hin (x, v) List.mem_cons_self) v)
      fun p hp => hin p (List.mem_cons_of_mem _ hp)
    simpa only [List.map_cons, List.append_assoc, List.singleton_append, initStatics, bindStatics] using this

theorem rel_enter {sc cur} {s1 : St} {m1 : MSt} (hr : Rel funs sc cur s1 m1)
    {g : FName} {d : FunDecl} (hd : lookupFun funs g = some d) (hnd : (d.params.map (·.name)).Nodup)
    (vs : List Val) (slots' : List Val)
    (hb : some slots' = bindPure (compFun d).params vs (List.replicate (compFun d).nvars .null)) :
    Rel funs (funScope d) (some (g, d.svars))
      { env := bindParams d.params vs [], statics := initStatics g d.statics s1.statics, out := s1.out }
      (bindStatics g (compFun d).statics { m1 with fr := { slots := slots', bound := [], fn := some g } }) := by
  obtain ⟨sl, hsl, henv⟩ := bindPure_rel (funScope d) d.params vs (List.replicate (funScope d).length .null) []
    ⟨hnd, fun p hp => ⟨mem_funScope_param hp, rfl⟩⟩ (slotsEnv_init _)
  -- `compFun d` has the parameters and the size of `funScope d` by definition
  obtain rfl : slots' = sl := Option.some.inj (hb.trans hsl)
  have h0 : Rel funs (funScope d) (some (g, []))
      { env := bindParams d.params vs [], statics := s1.statics, out := s1.out }
      { m1 with fr := { slots := slots', bound := [], fn := some g } } :=
    ⟨hr.out, henv.1, rfl, fun x _ => by simp [isStatic_some], fun x hx _ => henv.2 x hx, hr.statics⟩
  exact rel_bindStatics hd d.statics [] _ _ h0 fun p hp => mem_funScope_static hp

/-- Leaving a call. `hnn`: on a body that ends normally the two sides differ — the reference call yields `null`,
`callResultM` the value the body's last statement left — so that case is excluded; `simCall_step` discharges it
from `endsRet`, which is where the fragment condition "function bodies end in `return`" enters the proof. -/
theorem rel_leave {sc cur} {s1 : St} {m1 : MSt} (hr : Rel funs sc cur s1 m1) {sc' cur'}
    {r : Res Out} {mr : MRes Val} (h : RelO funs sc' cur' r mr) (hnn : ∀ s', r ≠ .ok .normal s') :
    RelV funs sc cur (callResult s1.env r) (callResultM m1.fr mr) := by
  have back : ∀ {s' : St} {m' : MSt}, Rel funs sc' cur' s' m' →
      Rel funs sc cur { s' with env := s1.env } { m' with fr := m1.fr } := by
    intro s' m' h'
    exact ⟨h'.out, hr.len, hr.fn, hr.bound, hr.locals, h'.statics⟩
  apply relO_cases h
  · rintro rfl; exact relR_timeout _
  · rintro s' v m' rfl rfl _; exact absurd rfl (hnn s')
  · rintro s' l m' rfl rfl h'; exact back h'
  · rintro s' m' rfl rfl h'; exact back h'
  · rintro s' v m' rfl rfl h'; exact ⟨rfl, back h'⟩
  · rintro s' m' rfl rfl h'; exact back h'

theorem simCall_step {f : Nat} (ih : SimAt funs f) (hgood : GoodFuns funs) (sc : List Var) (cur : Cur)
    (g : FName) (args : Args) (s : St) (m : MSt)
    (hc : CtxOK funs sc cur) (hr : Rel funs sc cur s m) (ca : Covers sc (varsArgs args))
    (ge : arityOk funs g args.length = true ∧ goodArgs funs args = true) :
    RelV funs sc cur (evalE funs (f+1) cur (.call g args) s)
      (evalM (mfuns funs) (f+1) (compE sc (.call g args)) m) := by
  simp only [evalE, compE, evalM, lookupFun_map]
  cases hd : Spec.Ctl.lookupFun funs g with
  | none => simp only [Option.map]; exact relV_err hr
  | some d =>
    simp only [Option.map]
    have har : required d.params ≤ args.length ∧ args.length ≤ d.params.length := by
      simpa only [arityOk, hd, Bool.and_eq_true, decide_eq_true_eq] using ge.1
    have hgd := hgood d (List.mem_of_find?_eq_some hd)
    simp only [goodFun, Bool.and_eq_true, decide_eq_true_eq] at hgd
    have hidx : ∀ p ∈ (compFun d).params, p.idx < (List.replicate (compFun d).nvars Val.null).length := by
      intro p hp
      rw [compFun_params] at hp
      obtain ⟨q, hq, rfl⟩ := List.mem_map.mp hp
      simp only [List.length_replicate]
      exact idx_lt (mem_funScope_param hq)
    have hlen : args.length ≤ (compFun d).params.length := by
      rw [compFun_params]; simp [mparams]; exact har.2
    refine relR_bind (ih.bindArgs sc cur args (compFun d).params s m _ hc hr ca ge.2 hlen hidx) ?_
    intro vs slots' s1 m1 hq h1
    have hnlt : ¬ vs.length < required d.params := by rw [hq.1]; omega
    simp only [hnlt, if_false]
    have henter := rel_enter h1 hd hgd.2.2 vs slots' hq.2
    have hctx : CtxOK funs (funScope d) (some (g, d.svars)) := by
      intro g' sv e; cases e; exact ⟨d, hd, rfl, rfl⟩
    have hbody := ih.execB (funScope d) (some (g, d.svars)) d.body .null _ _ hctx henter
      (covers_funScope_body d) hgd.1
    exact rel_leave h1 hbody (fun s' => endsRet_not_normal d.body hgd.2.1 f _ _ s')

end Proofs.Ctl
