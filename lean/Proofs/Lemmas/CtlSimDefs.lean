import Proofs.Lemmas.CtlRel
import Spec.CtlFrag
/-! What "the model simulates the reference semantics at fuel `f`" means (`SimAt`), and what a call needs
of the compiled function table. -/
namespace Proofs.Ctl
open Spec.Ctl Model.Ctl

abbrev mfuns (funs : List FunDecl) : List MFun := funs.map compFun

def GoodFuns (funs : List FunDecl) : Prop := ∀ d ∈ funs, goodFun funs d = true

/-- binding as a function of the argument values -/
def bindPure : List MParam → List Val → List Val → Option (List Val)
  | [], _, slots => some slots
  | p :: ps, v :: vs, slots => bindPure ps vs (slots.set p.idx v)
  | p :: ps, [], slots => fillDefaults (p :: ps) slots

/-- One field per function of the reference interpreter's mutual block against its model counterpart (`evalDiscard` twice:
against `discardM` on the compiled list and on `mapIncs` of it, the increments of a `for`). `v0` is arbitrary: the model
threads the value of the last statement through blocks and loops, the reference has no counterpart and `RelO` ignores it. -/
structure SimAt (funs : List FunDecl) (f : Nat) : Prop where
  evalE : ∀ sc cur e s m, CtxOK funs sc cur → Rel funs sc cur s m → Covers sc (varsE e) → goodE funs e = true →
    RelV funs sc cur (evalE funs f cur e s) (evalM (mfuns funs) f (compE sc e) m)
  evalArms : ∀ sc cur v arms d s m, CtxOK funs sc cur → Rel funs sc cur s m →
    Covers sc (varsArms arms) → Covers sc (varsE d) → goodArms funs arms = true → goodE funs d = true →
    RelV funs sc cur (evalArms funs f cur v arms d s) (evalArmsM (mfuns funs) f v (compArms sc arms) (compE sc d) m)
  echo : ∀ sc cur es s m, CtxOK funs sc cur → Rel funs sc cur s m → Covers sc (varsArgs es) → goodArgs funs es = true →
    RelO funs sc cur (echoArgs funs f cur es s) (echoM (mfuns funs) f (compArgs sc es) m)
  discard : ∀ sc cur es s m, CtxOK funs sc cur → Rel funs sc cur s m → Covers sc (varsArgs es) → goodArgs funs es = true →
    RelR funs sc cur (fun _ _ => True) (evalDiscard funs f cur es s) (discardM (mfuns funs) f (compArgs sc es) m)
  discardIncs : ∀ sc cur es s m, CtxOK funs sc cur → Rel funs sc cur s m → Covers sc (varsArgs es) → goodArgs funs es = true →
    RelR funs sc cur (fun _ _ => True) (evalDiscard funs f cur es s) (discardM (mfuns funs) f (mapIncs (compArgs sc es)) m)
  bindArgs : ∀ sc cur args ps s m slots, CtxOK funs sc cur → Rel funs sc cur s m → Covers sc (varsArgs args) →
    goodArgs funs args = true → args.length ≤ ps.length → (∀ p ∈ ps, p.idx < slots.length) →
    RelR funs sc cur (fun vs sl => vs.length = args.length ∧ some sl = bindPure ps vs slots)
      (evalArgs funs f cur args s) (bindArgs (mfuns funs) f ps (compArgs sc args) m slots)
  execS : ∀ sc cur st s m, CtxOK funs sc cur → Rel funs sc cur s m → Covers sc (varsS st) → goodS funs st = true →
    RelO funs sc cur (execS funs f cur st s) (execM (mfuns funs) f (compS sc st) m)
  execB : ∀ sc cur b v0 s m, CtxOK funs sc cur → Rel funs sc cur s m → Covers sc (varsB b) → goodB funs b = true →
    RelO funs sc cur (execB funs f cur b s) (execMB (mfuns funs) f (compB sc b) v0 m)
  elifs : ∀ sc cur el els s m, CtxOK funs sc cur → Rel funs sc cur s m → Covers sc (varsElifs el) → Covers sc (varsB els) →
    goodElifs funs el = true → goodB funs els = true →
    RelO funs sc cur (execElifs funs f cur el els s) (elifsM (mfuns funs) f (compElifs sc el) (compB sc els) m)
  while_ : ∀ sc cur c b v0 s m, CtxOK funs sc cur → Rel funs sc cur s m → Covers sc (varsE c) → Covers sc (varsB b) →
    goodE funs c = true → goodB funs b = true →
    RelO funs sc cur (execWhile funs f cur c b s) (whileM (mfuns funs) f (compE sc c) (compB sc b) v0 m)
  do_ : ∀ sc cur b c v0 s m, CtxOK funs sc cur → Rel funs sc cur s m → Covers sc (varsE c) → Covers sc (varsB b) →
    goodE funs c = true → goodB funs b = true →
    RelO funs sc cur (execDo funs f cur b c s) (doM (mfuns funs) f (compB sc b) (compE sc c) v0 m)
  for_ : ∀ sc cur c incs b v0 s m, CtxOK funs sc cur → Rel funs sc cur s m → Covers sc (varsE c) → Covers sc (varsArgs incs) →
    Covers sc (varsB b) → goodE funs c = true → goodArgs funs incs = true → goodB funs b = true →
    RelO funs sc cur (execFor funs f cur c incs b s)
      (forM (mfuns funs) f (compE sc c) (mapIncs (compArgs sc incs)) (compB sc b) v0 m)
  foreach : ∀ sc cur k v b l i v0 s m, CtxOK funs sc cur → Rel funs sc cur s m → (∀ kv, k = some kv → kv ∈ sc) → v ∈ sc →
    Covers sc (varsB b) → goodB funs b = true →
    RelO funs sc cur (execForeach funs f cur k v b l i s)
      (foreachM (mfuns funs) f (k.map (idx sc)) (idx sc v) (compB sc b) l i v0 m)
  switch : ∀ sc cur v cs d s m, CtxOK funs sc cur → Rel funs sc cur s m → Covers sc (varsCases cs) → Covers sc (varsB d) →
    goodCases funs cs = true → goodB funs d = true →
    RelO funs sc cur (execSwitch funs f cur v cs d s) (switchM (mfuns funs) f v (compCases sc cs) (compB sc d) m)
  runBodies : ∀ sc cur cs d s m, CtxOK funs sc cur → Rel funs sc cur s m → Covers sc (varsCases cs) → Covers sc (varsB d) →
    goodCases funs cs = true → goodB funs d = true →
    RelO funs sc cur (runBodies funs f cur cs d s) (runBodiesM (mfuns funs) f (compCases sc cs) (compB sc d) m)

theorem compFun_name (d : FunDecl) : (compFun d).name = d.name := rfl

theorem lookupFun_map (funs : List FunDecl) (g : FName) :
    Model.Ctl.lookupFun (mfuns funs) g = (Spec.Ctl.lookupFun funs g).map compFun :=
  List.find?_map ..

theorem fillDefaults_some (ps : List MParam) (slots : List Val) (h : ∀ p ∈ ps, p.idx < slots.length) :
    ∃ sl, fillDefaults ps slots = some sl := by
  induction ps generalizing slots with
  | nil => exact ⟨slots, rfl⟩
  | cons p ps ih =>
    have hp : p.idx < slots.length := h p List.mem_cons_self
    have hrest : ∀ q ∈ ps, q.idx < slots.length := fun q hq => h q (List.mem_cons_of_mem _ hq)
    simp only [fillDefaults]
    rw [List.getElem?_eq_getElem hp]
    split
    · rename_i heq; cases heq
    · split
      · exact ih (slots.set p.idx _) (by simpa using hrest)
      · exact ih slots hrest
    · exact ih slots hrest

end Proofs.Ctl
