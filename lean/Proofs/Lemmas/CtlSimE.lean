import Proofs.Lemmas.CtlSimDefs
import Proofs.Lemmas.CtlFast
/-! Simulation, expression level: the nodes with a case analysis of their own (binary, assignment, increment). -/
namespace Proofs.Ctl
open Spec.Ctl Model.Ctl

variable {funs : List FunDecl}

theorem sim_bin {f : Nat} (ih : SimAt funs f) {sc cur} (op : BinOp) (a b : Expr) {s m}
    (hc : CtxOK funs sc cur) (hr : Rel funs sc cur s m)
    (ca : Covers sc (varsE a)) (cb : Covers sc (varsE b)) (ga : goodE funs a = true) (gb : goodE funs b = true) :
    RelV funs sc cur (evalE funs (f+1) cur (.bin op a b) s)
      (binM (evalM (mfuns funs) f) op (compE sc a) (compE sc b) m) := by
  simp only [evalE, binM]
  refine relV_bind (ih.evalE sc cur a s m hc hr ca ga) fun va s1 m1 h1 => ?_
  refine relV_bind (ih.evalE sc cur b s1 m1 hc h1 cb gb) fun vb s2 m2 h2 => ?_
  cases binop op va vb with
  | none => exact relV_err h2
  | some v => exact relV_ok h2

theorem binop_le_bool {a b v : Val} (h : binop .le a b = some v) : v = .bool v.truthy := by
  cases a <;> cases b <;> simp [binop] at h
  subst h
  rfl

/-- Only the general node is simulated; `mkAssign_eq` carries the result over to the fused one. -/
theorem sim_assign {f : Nat} (ih : SimAt funs f) {sc cur} (x : Var) (e : Expr) {s m}
    (hc : CtxOK funs sc cur) (hr : Rel funs sc cur s m)
    (hx : x ∈ sc) (ce : Covers sc (varsE e)) (ge : goodE funs e = true) :
    RelV funs sc cur (evalE funs (f+1) cur (.assign x e) s)
      (evalM (mfuns funs) (f+1) (mkAssign sc x e (compE sc e)) m) := by
  refine relR_fused ?_ (mkAssign_eq (mfuns funs) sc x e m f)
  simp only [evalE, evalM]
  refine relV_bind (ih.evalE sc cur e s m hc hr ce ge) fun v s1 m1 h1 => ?_
  obtain ⟨m', hm, hrel⟩ := rel_write h1 hc hx v
  simp only [assignTo, hm]
  exact relV_ok hrel

theorem sim_incGeneral {sc cur} {s : St} {m : MSt} (hc : CtxOK funs sc cur) (hr : Rel funs sc cur s m)
    (k : IncKind) {x : Var} (hx : x ∈ sc) (f : Nat) :
    RelV funs sc cur (evalE funs (f+1) cur (.inc k x) s) (incGeneral k m (idx sc x)) := by
  simp only [evalE, incGeneral, rel_read hr hc hx]
  cases incVal k (s.rd cur x) with
  | none => exact relV_err hr
  | some p =>
    obtain ⟨v, new⟩ := p
    simp only []
    obtain ⟨m', hm, hrel⟩ := rel_write hr hc hx new
    simp only [assignTo, hm, MRes.bind]
    exact relV_ok hrel

end Proofs.Ctl
