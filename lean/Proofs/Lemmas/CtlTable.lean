import Model.CtlTable
/-! A dispatch table built when the node is constructed, against the ordered scan of the clause keys.
Building with the guard "key not yet present" (`buildBy true`) is first-wins, which is the scan; building by
overwriting (`buildBy false`) is last-wins; the two agree on every key iff the keys are `Nodup`. -/
namespace Proofs.CtlTable
open Model.CtlTable

theorem scan_eq (ls : List Nat) (k : Nat) : scanDispatch ls k = ls.idxOf? k := by
  induction ls with
  | nil => rfl
  | cons l ls ih => simp only [scanDispatch, List.idxOf?_cons, ih, beq_iff_eq]

/-- what an answer of the scan says, in the words of `FirstWins` -/
theorem scan_iff (ls : List Nat) (k : Nat) (o : Option Nat) :
    scanDispatch ls k = o ↔ match o with
      | some i => ls[i]? = some k ∧ ∀ j, j < i → ls[j]? ≠ some k
      | none => k ∉ ls := by
  rw [scan_eq]
  cases o with
  | none => exact List.idxOf?_eq_none_iff
  | some i =>
    -- core states positions with `ls[i]` under a bound, `FirstWins` with `ls[i]? = some _`
    simp only [List.idxOf?_eq_some_iff, List.getElem?_eq_some_iff, ne_eq, not_exists]
    exact ⟨fun ⟨h, e, hj⟩ => ⟨⟨h, e⟩, fun j hji _ => hj j hji⟩,
      fun ⟨⟨h, e⟩, hj⟩ => ⟨h, e, fun j hji => hj j hji (Nat.lt_trans hji h)⟩⟩

theorem last_none_iff (ls : List Nat) (k : Nat) : lastDispatch ls k = none ↔ k ∉ ls := by
  induction ls with
  | nil => simp [lastDispatch]
  | cons l ls ih =>
    rw [lastDispatch, List.mem_cons, not_or, ← ih]
    cases lastDispatch ls k with
    | some j => simp
    | none =>
      by_cases h : l = k
      · simp [h]
      · simp [h, Ne.symm h]

theorem buildBy_guarded (ls : List Nat) (i : Nat) (t : Table) (k : Nat) :
    buildBy true ls i t k = match t k with
      | some j => some j
      | none => (scanDispatch ls k).map (· + i) := by
  induction ls generalizing i t with
  | nil =>
    simp only [buildBy]
    cases t k <;> simp [scanDispatch]
  | cons l ls ih =>
    rw [buildBy, ih]
    by_cases hl : (t l).isSome
    · simp only [Bool.true_and, hl, if_true]
      cases htk : t k with
      | some j => rfl
      | none =>
        have : l ≠ k := by intro e; subst e; rw [htk] at hl; cases hl
        simp only [scanDispatch, this, if_false]
        cases scanDispatch ls k <;> simp [Nat.add_assoc, Nat.add_comm 1 i]
    · simp only [Bool.true_and, hl, Bool.false_eq_true, if_false]
      by_cases h : l = k
      · subst h
        have : t l = none := by cases htl : t l <;> simp [htl] at hl ⊢
        simp [Table.set, this, scanDispatch]
      · simp only [Table.set, Ne.symm h, if_false, scanDispatch, h]
        cases t k with
        | some j => rfl
        | none => cases scanDispatch ls k <;> simp [Nat.add_assoc, Nat.add_comm 1 i]

theorem buildBy_overwrite (ls : List Nat) (i : Nat) (t : Table) (k : Nat) :
    buildBy false ls i t k = match lastDispatch ls k with
      | some j => some (j + i)
      | none => t k := by
  induction ls generalizing i t with
  | nil => simp [buildBy, lastDispatch]
  | cons l ls ih =>
    rw [buildBy, ih, lastDispatch]
    cases lastDispatch ls k with
    | some j => simp [Nat.add_assoc, Nat.add_comm 1 i]
    | none =>
      by_cases h : l = k
      · simp [Table.set, h]
      · simp [Table.set, h, Ne.symm h]

theorem last_eq_scan_iff_nodup (ls : List Nat) : (∀ k, lastDispatch ls k = scanDispatch ls k) ↔ ls.Nodup := by
  induction ls with
  | nil => simp [lastDispatch, scanDispatch]
  | cons l ls ih =>
    rw [List.nodup_cons]
    constructor
    · intro h
      have hl : l ∉ ls := by
        have := h l
        rw [lastDispatch] at this
        cases hd : lastDispatch ls l with
        | none => exact (last_none_iff ls l).mp hd
        | some j => rw [hd] at this; simp [scanDispatch] at this
      refine ⟨hl, ih.mp fun k => ?_⟩
      by_cases hk : l = k
      · subst hk
        rw [(last_none_iff ls l).mpr hl, (scan_iff ls l none).mpr hl]
      · -- both sides are the tail's answer shifted by one
        have := h k
        simp only [lastDispatch, scanDispatch, hk, if_false] at this
        cases hd : lastDispatch ls k <;> cases hs : scanDispatch ls k <;> simp [hd, hs] at this ⊢
        exact this
    · intro ⟨hl, hn⟩ k
      have hall := ih.mpr hn k
      rw [lastDispatch, hall]
      by_cases hk : l = k
      · subst hk
        simp [(scan_iff ls l none).mpr hl, scanDispatch]
      · simp only [scanDispatch, hk, if_false]
        cases scanDispatch ls k <;> simp

theorem scanEffects_nil_iff (cs : List Clause) (i k : Nat) :
    scanEffects cs i k = [] ↔
      ∀ (n : Nat) (c : Clause), cs[n]? = some c →
        (∀ j : Nat, j < n → (cs[j]?.map Clause.key) ≠ some k) → c.effect = false := by
  induction cs generalizing i with
  | nil => simp [scanEffects]
  | cons c cs ih =>
    -- `∀ n` splits into the head (`n = 0`) and the clauses of the tail (`n + 1`), and for those "no earlier clause
    -- carries `k`" into the head and the earlier clauses of the tail
    simp only [scanEffects, List.append_eq_nil_iff, ← Nat.and_forall_add_one (p := fun n => ∀ d, (c :: cs)[n]? = some d → _ → _),
      Nat.forall_lt_succ_left, List.getElem?_cons_zero, List.getElem?_cons_succ, Option.map_some, Option.some.injEq,
      Nat.not_lt_zero, false_imp_iff, implies_true, forall_const, forall_eq', ne_eq]
    refine and_congr (by cases c.effect <;> simp) ?_
    by_cases hk : c.key = k
    · simp only [hk, if_true, not_true, false_and, false_imp_iff, implies_true]
    · simp only [hk, if_false, not_false_eq_true, true_and, ih (i + 1), ne_eq]

end Proofs.CtlTable
