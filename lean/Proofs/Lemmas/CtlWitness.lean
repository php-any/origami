import Model.Ctl
import Spec.Ctl
import Spec.CtlFrag
/-! Concrete programs used by the non-vacuity examples (`progAll`) and the negation witnesses of C02
(the four witnesses are also cases of the harness's known streams, run on the real interpreter). -/
namespace Proofs.Ctl
open Spec.Ctl

def blk : List Stmt → Block
  | [] => .nil
  | s :: r => .cons s (blk r)

def args : List Expr → Args
  | [] => .nil
  | e :: r => .cons e (args r)

def cases : List (Expr × List Stmt) → Cases
  | [] => .nil
  | (l, b) :: r => .cons l (blk b) (cases r)

def int (n : Int) : Expr := .lit (.int n)
def str (s : String) : Expr := .lit (.str s)
def echo (es : List Expr) : Stmt := .echo (args es)

/-- `for ($x = 0; $x < n; $x++) { body }` -/
def forUpTo (x : Var) (n : Int) (body : List Stmt) : Stmt :=
  .for_ (args [.assign x (int 0)]) (.bin .lt (.var x) (int n)) (args [.inc .postInc x]) (blk body)

/-- `for ($i…2) { for ($j…2) { break 2; } echo "a"; }` — the reference semantics prints nothing -/
def progBreak2 : Prog :=
  { funs := [], main := blk [forUpTo 0 2 [forUpTo 1 2 [.brk 2], echo [str "a"]]] }

/-- `for ($i…2) { switch (1) { case 1: continue 2; } echo "a"; }` — the reference semantics prints nothing -/
def progContinue2 : Prog :=
  { funs := [], main := blk [forUpTo 0 2 [.switch (int 1) (cases [(int 1, [.cont 2])]) .nil, echo [str "a"]]] }

/-- `function f() { $a = 5; }  echo "[", f(), "]";` — the reference semantics prints `[]` -/
def progNoReturn : Prog :=
  { funs := [{ name := 0, params := [], statics := [], body := blk [.expr (.assign 0 (int 5))] }],
    main := blk [echo [str "[", .call 0 .nil, str "]"]] }

/-- `function f($a, $b) { return $a; }  echo f(1);` — a missing argument is an error in the reference semantics -/
def progTooFew : Prog :=
  { funs := [{ name := 0, params := [⟨0, none⟩, ⟨1, none⟩], statics := [], body := blk [.ret (some (.var 0))] }],
    main := blk [echo [.call 0 (args [int 1])], echo [str "after"]] }

/-- a program inside the fragment with one of each loop, `switch`, `match`, `static`, a call with a default,
`break` and `continue`:
```
function f($d, $k = 2) { static $n = 0; $n++; if ($d <= 0) { return $n; } return f($d - 1) + $k; }
$i = 0;
while ($i < 5) { $i++; if ($i == 2) { continue; } if ($i == 4) { break; } echo "w", $i; }
do { $i += 1; } while ($i <= 5);
foreach ([1, 2, 3] as $k => $v) { switch ($v) { case 1: case 2: echo "s", $k; break; default: echo "d"; } }
for ($j = 0; $j <= 1; $j++) { $t = $j * 2; echo match ($t) { 0 => "z", default => "n" }; }
echo f(2), f(0, 5);
```
-/
def progAll : Prog :=
  { funs := [{ name := 0, params := [⟨0, none⟩, ⟨1, some (.int 2)⟩], statics := [(2, .int 0)],
               body := blk [.expr (.inc .postInc 2),
                 .ite (.bin .le (.var 0) (int 0)) (blk [.ret (some (.var 2))]) .nil .nil,
                 .ret (some (.bin .add (.call 0 (args [.bin .sub (.var 0) (int 1)])) (.var 1)))] }],
    main := blk [
      .expr (.assign 0 (int 0)),
      .while_ (.bin .lt (.var 0) (int 5)) (blk [.expr (.inc .postInc 0),
        .ite (.bin .eq (.var 0) (int 2)) (blk [.cont 1]) .nil .nil,
        .ite (.bin .eq (.var 0) (int 4)) (blk [.brk 1]) .nil .nil,
        echo [str "w", .var 0]]),
      .doWhile (blk [.expr (.assign 0 (.bin .add (.var 0) (int 1)))]) (.bin .le (.var 0) (int 5)),
      .foreach (.lit (.list [1, 2, 3])) (some 1) 2 (blk [
        .switch (.var 2) (cases [(int 1, []), (int 2, [echo [str "s", .var 1], .brk 1])]) (blk [echo [str "d"]])]),
      .for_ (args [.assign 3 (int 0)]) (.bin .le (.var 3) (int 1)) (args [.inc .postInc 3]) (blk [
        .expr (.assign 4 (.bin .mul (.var 3) (int 2))),
        echo [.matchE (.var 4) (.cons (int 0) (str "z") .nil) (str "n")]]),
      echo [.call 0 (args [int 2]), .call 0 (args [int 0, int 5])] ] }

theorem progAll_inFragment : inFragment progAll = true := by decide +kernel

theorem progAll_run :
    Spec.Ctl.run progAll 40 = some (["w", "1", "w", "3", "s", "0", "s", "1", "d", "z", "n", "7", "4"], .done) := by
  decide +kernel

end Proofs.Ctl
