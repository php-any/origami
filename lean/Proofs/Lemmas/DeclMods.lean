import Model.DeclMods
import Spec.DeclMods
/-! Lemmas for the modifier-resolution part of C07: a parser whose keyword branches assign their own variable
resolves the keywords it consumes by a left fold of `stepKw` (no stage changes what folding the remaining keywords over
its variables gives: `runStages_fold`), and that fold is what `Spec.DeclMods.Resolved` describes. -/
namespace Proofs.DeclMods
open Model.Access (Mod)
open Model.DeclMods Spec.DeclMods

def stepKw (m : Mods) (k : Kw) : Mods := applyActs m (canon k)

theorem findBranch_some {bs : List Branch} {k : Kw} {b : Branch} (h : findBranch bs k = some b) :
    b ∈ bs ∧ b.tok = k := by
  fun_induction findBranch bs k with
  | case1 => cases h
  | case2 x xs =>
    cases h
    exact ⟨List.mem_cons_self, rfl⟩
  | case3 x xs k hx ih => exact ⟨List.mem_cons_of_mem _ (ih h).1, (ih h).2⟩

theorem findBranch_none {bs : List Branch} {k : Kw} (h : findBranch bs k = none) :
    ∀ b ∈ bs, b.tok ≠ k := by
  fun_induction findBranch bs k with
  | case1 => exact fun _ hb => nomatch hb
  | case2 x xs => cases h
  | case3 x xs k hx ih => exact List.forall_mem_cons.mpr ⟨hx, ih h⟩

theorem runRep_nil (bs : List Branch) (m : Mods) : runRep bs [] m = (m, []) := rfl

theorem runRep_cons (bs : List Branch) (k : Kw) (ks : List Kw) (m : Mods) :
    runRep bs (k :: ks) m =
      match findBranch bs k with
      | some b => runRep bs ks (applyActs m b.acts)
      | none => (m, k :: ks) := rfl

theorem runOnce_cons (bs : List Branch) (k : Kw) (ks : List Kw) (m : Mods) :
    runOnce bs (k :: ks) m =
      match findBranch bs k with
      | some b => (applyActs m b.acts, ks)
      | none => (m, k :: ks) := rfl

theorem applyActs_of_find {bs : List Branch} (hw : ∀ b ∈ bs, wfBranch b = true) {k : Kw} {b : Branch}
    (hf : findBranch bs k = some b) (m : Mods) : applyActs m b.acts = stepKw m k := by
  obtain ⟨hb, ht⟩ := findBranch_some hf
  have hacts : b.acts = canon b.tok := by
    have := hw b hb
    simp only [wfBranch, Bool.and_eq_true, beq_iff_eq] at this
    exact this.1
  rw [stepKw, ← ht, hacts]

theorem runRep_fold (bs : List Branch) (hw : ∀ b ∈ bs, wfBranch b = true) (ks : List Kw) (m : Mods) :
    (runRep bs ks m).2.foldl stepKw (runRep bs ks m).1 = ks.foldl stepKw m := by
  fun_induction runRep bs ks m with
  | case1 => rfl
  | case2 m k ks b hf ih =>
    rw [ih, applyActs_of_find hw hf]
    rfl
  | case3 => rfl

theorem runOnce_fold (bs : List Branch) (hw : ∀ b ∈ bs, wfBranch b = true) (ks : List Kw) (m : Mods) :
    (runOnce bs ks m).2.foldl stepKw (runOnce bs ks m).1 = ks.foldl stepKw m := by
  fun_cases runOnce bs ks m with
  | case1 => rfl
  | case2 m k ks b hf =>
    rw [applyActs_of_find hw hf]
    rfl
  | case3 => rfl

theorem runStages_fold : ∀ (sts : List Stage), (∀ st ∈ sts, wfStage st = true) → ∀ (ks : List Kw) (m : Mods),
    (runStages sts ks m).2.foldl stepKw (runStages sts ks m).1 = ks.foldl stepKw m
  | [], _, _, _ => rfl
  | st :: sts, hw, ks, m => by
    have hb : ∀ b ∈ st.branches, wfBranch b = true := List.all_eq_true.mp (hw st List.mem_cons_self)
    rw [runStages, runStages_fold sts (fun s hs => hw s (List.mem_cons_of_mem _ hs)), runStage]
    cases st.rep with
    | true => exact runRep_fold st.branches hb ks m
    | false => exact runOnce_fold st.branches hb ks m

theorem parse_fold {p : Parser} (hw : wf p = true) {kws : List Kw} {m : Mods} (h : parse p kws = some m) :
    m = kws.foldl stepKw p.init := by
  have hk := runStages_fold p.stages (List.all_eq_true.mp hw) kws p.init
  unfold parse at h
  by_cases hr : (runStages p.stages kws p.init).2 = []
  · simp only [hr, if_true] at h
    rw [hr] at hk
    split at h
    · cases h
    · cases h; exact hk
  · simp only [hr, if_false] at h
    cases h

theorem stepKw_vis (m : Mods) (k : Kw) :
    (stepKw m k).vis = match k with | .vis v => some v | _ => m.vis := by
  cases k with
  | flag f => cases f <;> rfl
  | _ => rfl

theorem stepKw_flag (m : Mods) (k : Kw) (f : Flag) :
    (stepKw m k).flag f = (decide (k = .flag f) || m.flag f) := by
  cases k with
  | flag g => cases g <;> cases f <;> rfl
  | _ => cases f <;> rfl

theorem fold_flag (ks : List Kw) (m : Mods) (f : Flag) :
    (ks.foldl stepKw m).flag f = (m.flag f || decide (Kw.flag f ∈ ks)) := by
  induction ks generalizing m with
  | nil => simp
  | cons k ks ih =>
    rw [List.foldl_cons, ih, stepKw_flag]
    by_cases hk : k = .flag f
    · subst hk; simp
    · have : ¬ (Kw.flag f = k) := fun e => hk e.symm
      simp [hk, List.mem_cons, this]

theorem fold_vis_none (ks : List Kw) (m : Mods) (h : ∀ v, Kw.vis v ∉ ks) :
    (ks.foldl stepKw m).vis = m.vis :=
  List.foldlRecOn (motive := fun m' : Mods => m'.vis = m.vis) ks _ rfl fun m' hm k hk => by
    rw [stepKw_vis]
    cases k with
    | vis v => exact absurd hk (h v)
    | _ => exact hm

theorem fold_vis_some (ks : List Kw) (m : Mods) (v : Mod)
    (h1 : ∀ w, Kw.vis w ∈ ks → w = v) (h2 : m.vis = some v ∨ Kw.vis v ∈ ks) :
    (ks.foldl stepKw m).vis = some v := by
  induction ks generalizing m with
  | nil => exact h2.resolve_right fun h => nomatch h
  | cons k ks ih =>
    rw [List.foldl_cons]
    refine ih _ (fun w hw => h1 w (List.mem_cons_of_mem _ hw)) ?_
    rw [stepKw_vis]
    cases k with
    | vis w => exact .inl (congrArg some (h1 w List.mem_cons_self))
    | _ =>
      refine h2.imp id fun h => ?_
      cases h with
      | tail _ h => exact h

theorem fold_resolved (dflt : Mods) (kws : List Kw) : Resolved dflt kws (kws.foldl stepKw dflt) where
  explicit := fun v hv ho => fold_vis_some kws dflt v (fun w hw => ho w v hw hv) (.inr hv)
  default := fold_vis_none kws dflt
  flags := fold_flag kws dflt

theorem Mods.ext' {a b : Mods} (hv : a.vis = b.vis) (hf : ∀ f, a.flag f = b.flag f) : a = b := by
  cases a; cases b
  have h1 := hf .static
  have h2 := hf .readonly
  have h3 := hf .final
  have h4 := hf .abstract
  have h5 := hf .other
  simp only [Mods.flag] at h1 h2 h3 h4 h5
  simp only at hv
  subst hv h1 h2 h3 h4 h5
  rfl

theorem resolved_unique {dflt : Mods} {k1 k2 : List Kw} {m1 m2 : Mods}
    (hm : ∀ k, k ∈ k1 ↔ k ∈ k2) (ho : VisOnce k1)
    (r1 : Resolved dflt k1 m1) (r2 : Resolved dflt k2 m2) : m1 = m2 := by
  have ho2 : VisOnce k2 := fun v w hv hw => ho v w ((hm _).mpr hv) ((hm _).mpr hw)
  apply Mods.ext'
  · by_cases hex : ∃ v, Kw.vis v ∈ k1
    · obtain ⟨v, hv⟩ := hex
      rw [r1.explicit v hv ho, r2.explicit v ((hm _).mp hv) ho2]
    · have n1 : ∀ v, Kw.vis v ∉ k1 := fun v hv => hex ⟨v, hv⟩
      have n2 : ∀ v, Kw.vis v ∉ k2 := fun v hv => hex ⟨v, (hm _).mpr hv⟩
      rw [r1.default n1, r2.default n2]
  · intro f
    rw [r1.flags f, r2.flags f]
    have : decide (Kw.flag f ∈ k1) = decide (Kw.flag f ∈ k2) := by
      rw [decide_eq_decide]; exact hm _
    rw [this]

theorem runRep_rest_nil (bs : List Branch) :
    ∀ (ks : List Kw) (m : Mods), (runRep bs ks m).2 = [] ↔ ∀ k ∈ ks, (findBranch bs k).isSome = true := by
  intro ks
  induction ks with
  | nil => intro m; simp [runRep_nil]
  | cons k ks ih =>
    intro m
    rw [runRep_cons]
    cases hf : findBranch bs k with
    | none =>
      simp only [List.mem_cons, forall_eq_or_imp, hf, Option.isSome_none]
      constructor
      · intro h; cases h
      · intro h; cases h.1
    | some b =>
      simp only [List.mem_cons, forall_eq_or_imp, hf, Option.isSome_some, true_and]
      exact ih _

end Proofs.DeclMods
