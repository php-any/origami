import Model.Emit
import Spec.Emit
/-! What `emit` can answer (`emit_answers`): the round trip of the emitted literal and the cause of a crash are its two
readings. After them, rewritings that make the `decide +kernel` obligations of C16 cheap for the kernel. -/
namespace Proofs.Emit
open Model.Emit Spec.Emit

/-- no non-nil pointer to a struct that is no node anywhere in the tree: the one input on which the unpatched
`emitReflectValue` panics -/
def noPlainPtr : Val → Bool
  | .plainPtr => false
  | .obj _ _ fields => noPlainPtr fields
  | .list items => noPlainPtr items
  | .fcons _ v rest => noPlainPtr v && noPlainPtr rest
  | _ => true

/-- what `emit` may answer for a value; a crash only when `c` holds -/
def Answers (e : Val) (c : Prop) : Out Lit → Prop
  | .ok l => rebuild l = e
  | .error _ => True
  | .crash => c

theorem Answers.imp {e : Val} {c c' : Prop} {o : Out Lit} (h : Answers e c o) (hc : c → c') : Answers e c' o := by
  cases o with
  | crash => exact hc h
  | _ => exact h

theorem Answers.bind {e e' : Val} {c : Prop} {o : Out Lit} {g : Lit → Lit} (h : Answers e c o)
    (hg : ∀ l, rebuild l = e → rebuild (g l) = e') : Answers e' c (o.bind fun l => .ok (g l)) := by
  cases o with
  | ok l => exact hg l h
  | error => trivial
  | crash => exact h

theorem Answers.objWrap {tbl : Tables} {m : Mode} {ty : String} {x : Out Lit} {e : Val} {c : Prop}
    (h : Answers e c x) (hn : Bool) :
    Answers (.obj ty (if m.isInline then true else rebuiltNode tbl ty hn) e) c (objWrap tbl m ty x) := by
  unfold Model.Emit.objWrap
  split
  · exact h.bind fun l hl => by rw [rebuild, hl]
  · unfold objOut rebuiltNode
    -- the three paths that write something wrap the fields the same way
    cases path tbl ty with
    | unexported | unknown => trivial
    | _ => exact h.bind fun l hl => by rw [rebuild, hl]

theorem Answers.consOut {act : FieldAct} {ty name : String} {v rest : Out Lit} {ev er : Val} {cv cr : Prop}
    (hv : Answers ev cv v) (hr : Answers er cr rest) :
    Answers (if act == .emit then .fcons name ev er else er) (cv ∨ cr) (consOut act ty name v rest) := by
  cases act with
  | emit =>
    cases v with
    | ok lv =>
      cases rest with
      | ok lr =>
        show rebuild (.fcons name lv lr) = _
        rw [rebuild, show rebuild lv = ev from hv, show rebuild lr = er from hr]
        rfl
      | error => trivial
      | crash => exact .inr hr
    | error => trivial
    | crash => exact .inl hv
  | skip => exact hr.imp .inr
  | failShape | failUnexported => trivial

/-- **What `emit` can answer**, in every mode: text that evaluates to the tree `erase` describes, an explicit
error, or a panic, and then the assertion is unchecked and the tree holds a pointer to a non-node. -/
theorem emit_answers (tbl : Tables) : ∀ (v : Val) (m : Mode) (ty : String),
    Answers (erase tbl m ty v) (tbl.ptrAssertUnchecked = true ∧ noPlainPtr v = false) (emit tbl m ty v) := by
  intro v
  induction v with
  | nil | scalar _ => intro m ty; exact rfl
  | blob | unnamed => intro m ty; trivial
  | plainPtr =>
    intro m ty
    simp only [emit]
    split
    · exact ⟨‹_›, rfl⟩
    · trivial
  | obj oty hn fields ih => intro m ty; exact (ih _ _).objWrap hn
  | list items ih => intro m ty; exact (ih _ _).bind fun l hl => by rw [rebuild, hl]; rfl
  | fnil =>
    intro m ty
    cases m with
    | value | inline => trivial
    | _ => exact rfl
  | fcons name v rest ihv ihr =>
    intro m ty
    simp only [emit, erase, keepField, noPlainPtr, Bool.and_eq_false_iff]
    refine ((ihv _ _).consOut (ihr _ _)).imp ?_
    rintro (⟨a, b⟩ | ⟨a, b⟩)
    · exact ⟨a, .inl b⟩
    · exact ⟨a, .inr b⟩

theorem emit_rebuild (tbl : Tables) (v : Val) (m : Mode) (ty : String) (l : Lit)
    (h : emit tbl m ty v = .ok l) : rebuild l = erase tbl m ty v := by
  have := emit_answers tbl v m ty
  rwa [h] at this

theorem crash_cause (tbl : Tables) (v : Val) (m : Mode) (ty : String)
    (h : emit tbl m ty v = .crash) : tbl.ptrAssertUnchecked = true ∧ noPlainPtr v = false := by
  have := emit_answers tbl v m ty
  rwa [h] at this

theorem erase_of_no_drop (tbl : Tables) : ∀ (v : Val) (m : Mode) (ty : String),
    dropped tbl m ty v = [] → stripPos (erase tbl m ty v) = stripPos v := by
  intro v
  induction v with
  | obj oty hn fields ih =>
    intro m ty h
    simp only [dropped, List.append_eq_nil_iff] at h
    simp [erase, stripPos, ih _ _ h.2]
  | list items ih =>
    intro m ty h
    simp only [dropped] at h
    simp [erase, stripPos, ih _ _ h]
  | fcons name v rest ihv ihr =>
    intro m ty h
    simp only [dropped] at h
    by_cases hk : keepField m name = true
    · rw [if_pos hk, List.append_eq_nil_iff] at h
      simp [erase, hk, stripPos, ihv _ _ h.1, ihr _ _ h.2]
    · rw [if_neg hk] at h; cases h
  | _ => intros; rfl

theorem keepField_readFields (reads : List String) (inner : List (String × List String)) (n : String) :
    keepField (.readFields reads inner) n = reads.contains n := by
  simp only [keepField, fieldAct]
  split <;> simp_all

theorem keepField_reflFields {d : StructDesc} {f : Field} {n : String}
    (h : d.fields.find? (fun g => g.name == n) = some f) :
    keepField (.reflFields d) n = (!f.embeddedNode && !f.ppSkip && f.exported) := by
  simp only [keepField, fieldAct, h]
  cases f.embeddedNode <;> cases f.ppSkip <;> cases f.exported <;> rfl

theorem levelDrops_conf {m : Mode} {d : StructDesc} {fields : Val}
    (hconf : ∀ n ∈ chainNames fields, ∃ f ∈ d.fields, f.name = n ∧ f.embeddedNode = false)
    {n : String} (hn : n ∈ levelDrops m fields) :
    ∃ f ∈ d.fields, f.name = n ∧ f.embeddedNode = false ∧ keepField m f.name = false := by
  obtain ⟨hmem, hk⟩ := List.mem_filter.mp hn
  obtain ⟨f, hf, rfl, hfe⟩ := hconf n hmem
  exact ⟨f, hf, rfl, hfe, by simpa using hk⟩

theorem no_crash (tbl : Tables) (hp : tbl.ptrAssertUnchecked = false) :
    ∀ (v : Val) (m : Mode) (ty : String), emit tbl m ty v ≠ .crash :=
  fun v m ty h => by simpa [hp] using (crash_cause tbl v m ty h).1

theorem no_crash_of_noPlainPtr (tbl : Tables) :
    ∀ (v : Val) (m : Mode) (ty : String), noPlainPtr v = true → emit tbl m ty v ≠ .crash :=
  fun v m ty hv h => by simpa [hv] using (crash_cause tbl v m ty h).2

/-- put so that the registries are searched (a `String` comparison per entry, costly to evaluate) only
for a struct that fails the test itself -/
theorem all_emittable (tbl : Tables) (p : StructDesc → Bool) :
    (emittable tbl).all p
      = tbl.structs.all (fun d => p d || isHandled tbl d.name || (firstUnexported d).isSome) := by
  simp only [emittable, List.all_filter]
  congr 1
  funext d
  cases p d <;> cases isHandled tbl d.name <;> cases firstUnexported d <;> rfl

/-- sizes first: the kernel compares two numbers at once, two names (most share `node.` and more) byte by byte -/
theorem findStruct_bySize (tbl : Tables) (ty : String) :
    findStruct tbl ty
      = tbl.structs.find? (fun d => d.name.utf8ByteSize == ty.utf8ByteSize && d.name == ty) := by
  unfold findStruct
  congr 1
  funext d
  by_cases h : d.name = ty <;> simp [h]

/-- the Bool obligation `C16_fields_unique` implies the hypothesis `huniq` of `C16_reflective_level`. Not used: nobody
instantiates that theorem at the regenerated tables. -/
theorem find_field_of_unique (tbl : Tables)
    (h : tbl.structs.all (fun d => d.fields.all (fun f =>
      (d.fields.find? (fun g => g.name == f.name)).map (·.name) == some f.name
      && (d.fields.filter (fun g => g.name == f.name)).length == 1)) = true)
    {d : StructDesc} (hd : d ∈ tbl.structs) :
    ∀ f ∈ d.fields, d.fields.find? (fun g => g.name == f.name) = some f := by
  intro f hf
  simp only [List.all_eq_true, Bool.and_eq_true, beq_iff_eq] at h
  obtain ⟨x, hx⟩ := List.length_eq_one_iff.mp (h d hd f hf).2
  have hfx : f ∈ d.fields.filter (fun g => g.name == f.name) := List.mem_filter.mpr ⟨hf, by simp⟩
  rw [hx, List.mem_singleton] at hfx
  rw [← List.head?_filter, hx, hfx]
  rfl

/-! `String.toList` decodes through indexed byte access, costly for the kernel to evaluate; the names in
the regenerated tables are ASCII, where a character is its byte: `chars` reads them off. -/

def asciiChars : List UInt8 → Option (List Char)
  | [] => some []
  | b :: r => if b < 128 then (asciiChars r).map (Char.ofNat b.toNat :: ·) else none

theorem utf8EncodeChar_ascii (b : UInt8) (h : b < 128) : String.utf8EncodeChar (Char.ofNat b.toNat) = [b] := by
  have hb : b.toNat < 128 := h
  have hv : (Char.ofNat b.toNat).val.toNat = b.toNat := by
    simp [Char.ofNat, Nat.isValidChar, show b.toNat < 55296 by omega, Char.ofNatAux]
  simp [String.utf8EncodeChar, hv, show b.toNat ≤ 127 by omega]

theorem utf8Encode_asciiChars : ∀ (bs : List UInt8) (l : List Char), asciiChars bs = some l →
    l.utf8Encode = bs.toByteArray
  | [], l, h => by cases h; rfl
  | b :: r, l, h => by
    unfold asciiChars at h
    split at h
    · obtain ⟨l', hl', rfl⟩ := Option.map_eq_some_iff.mp h
      rw [List.utf8Encode_cons, List.utf8Encode_singleton, utf8EncodeChar_ascii b ‹_›,
        utf8Encode_asciiChars r l' hl', ← List.toByteArray_append]
      rfl
    · cases h

def chars (s : String) : List Char := (asciiChars s.toByteArray.data.toList).getD s.toList

theorem chars_eq (s : String) : chars s = s.toList := by
  unfold chars
  cases h : asciiChars s.toByteArray.data.toList with
  | none => rfl
  | some l =>
    have : String.ofList l = s :=
      String.toByteArray_inj.mp (by
        rw [String.toByteArray_ofList, utf8Encode_asciiChars _ l h]
        exact ByteArray.ext (by rw [List.data_toByteArray, Array.toArray_toList]))
    rw [Option.getD_some, ← this, String.toList_ofList]

theorem all_staticDrops (tbl : Tables) (q : String × String → Bool) :
    (staticDrops tbl).all q
      = ((emittable tbl).all (fun d => (reflDrops tbl d).all q)
         && (tbl.special ++ tbl.scalars ++ tbl.aux).all (fun h => (handlerDrops tbl h).all q)
         && tbl.special.all (fun h => (innerDrops tbl h).all q)) := by
  simp only [staticDrops, List.all_append, List.all_flatMap]

def runSteps {σ : Type} (sem : Step → σ → σ) (steps : List Step) (s : σ) : σ :=
  steps.foldl (fun st step => sem step st) s

theorem runSteps_filter {σ : Type} (sem : Step → σ → σ) (keep : Step → Bool)
    (hid : ∀ st s, keep st = false → sem st s = s) (steps : List Step) (s : σ) :
    runSteps sem steps s = runSteps sem (steps.filter keep) s := by
  rw [runSteps, runSteps, List.foldl_filter]
  congr
  funext s a
  cases hk : keep a
  · exact hid a s hk
  · rfl

end Proofs.Emit
