import Model.EmitCtx
/-! Lemmas about `Model.EmitCtx`: the substitution of a per-file constant for a per-node attribute. -/
namespace Proofs.EmitCtx
open Model.EmitCtx

theorem mapAttr_eq_iff {α : Type} (f : α → α) (t : T α) :
    mapAttr f t = t ↔ ∀ a ∈ attrs t, f a = a := by
  induction t with
  | site a k ih =>
    simp only [mapAttr, attrs, T.site.injEq, List.mem_cons, forall_eq_or_imp, ih]
  | other tg k ih =>
    simp only [mapAttr, attrs, T.other.injEq, true_and, ih]
  | nil => simp [mapAttr, attrs]
  | cons h tl ih1 ih2 =>
    simp only [mapAttr, attrs, T.cons.injEq, List.forall_mem_append, ih1, ih2]

theorem mapAttr_id {α : Type} (t : T α) : mapAttr id t = t :=
  (mapAttr_eq_iff id t).mpr fun _ _ => rfl

theorem attrs_mapAttr {α : Type} (f : α → α) (t : T α) : attrs (mapAttr f t) = (attrs t).map f := by
  induction t with
  | site a k ih => simp [mapAttr, attrs, ih]
  | other tg k ih => simp [mapAttr, attrs, ih]
  | nil => rfl
  | cons h tl ih1 ih2 => simp [mapAttr, attrs, ih1, ih2]

theorem attrs_label {α : Type} (n : α) (t : T α) : attrs (label n t) = List.replicate (sites t) n := by
  rw [label, attrs_mapAttr, List.map_const', sites]

theorem mem_attrs_parseFile {α : Type} (secs : List (Section α)) (a : α) :
    a ∈ attrs (parseFile secs) ↔ ∃ s ∈ secs, sites s.body ≠ 0 ∧ s.name = a := by
  induction secs with
  | nil => simp [parseFile, attrs]
  | cons s rest ih =>
    simp only [parseFile, attrs, List.mem_append, ih, attrs_label, List.mem_replicate, List.mem_cons,
      exists_eq_or_imp, eq_comm (a := a)]

theorem lastName_of_all {α : Type} (dflt n : α) (secs : List (Section α)) (hne : secs ≠ [])
    (h : ∀ s ∈ secs, s.name = n) : lastName dflt secs = n := by
  induction secs with
  | nil => exact absurd rfl hne
  | cons s rest ih =>
    cases rest with
    | nil => exact h s List.mem_cons_self
    | cons s2 rest2 =>
      unfold lastName
      exact ih (by simp) (fun x hx => h x (List.mem_cons_of_mem _ hx))

theorem shadowed_of_has {tbl : Model.Emit.Tables} {r : CtxRead}
    (h : (fieldNames tbl r.ty).contains r.field = true) : shadowed tbl r = true :=
  List.any_eq_true.mpr ⟨r.field, List.contains_iff_mem.mp h, beq_self_eq_true _⟩

end Proofs.EmitCtx
