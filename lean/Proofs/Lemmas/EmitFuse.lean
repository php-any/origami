import Model.EmitFuse
/-! `cmpInt` against the order of the integers. -/
namespace Proofs.EmitFuse
open Model.EmitFuse

theorem cmpInt_beq_lt (a b : Int) : (cmpInt a b == .lt) = decide (a < b) := by
  unfold cmpInt
  by_cases h : a < b <;> by_cases h2 : a = b <;> simp [h, h2]

theorem cmpInt_beq_le (a b : Int) : (cmpInt a b == .lt || cmpInt a b == .eq) = decide (a ≤ b) := by
  unfold cmpInt
  by_cases h : a < b
  · have : a ≤ b := by omega
    simp [h, this]
  · by_cases h2 : a = b
    · simp [h2]
    · have : ¬ a ≤ b := by omega
      simp [h, h2, this]

end Proofs.EmitFuse
