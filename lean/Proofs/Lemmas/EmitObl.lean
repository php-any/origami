import Proofs.Lemmas.Emit
import Proofs.C16Record
import Generated.C16CompileNodes
/-!
The obligations of C16 on the regenerated struct table and on the handlers' uses of the generator, against
what is on record by hand (`Proofs/C16Record.lean`): finite facts, proved by evaluation. Each of them looks
structs up by name, and the kernel turns every string literal it compares into its bytes once per declaration,
so they are evaluated in one declaration. `Proofs/Properties/C16.lean` states them one by one.
-/
namespace Proofs.EmitObl
open Model.Emit Spec.Emit Model.EmitCtx Proofs.Emit C16
open Generated.C16CompileNodes (tables ctxReads)

/-- The conjuncts in the order of the obligations of the property file: `.1.1` `C16_static_drops_allowed`,
`.1.2.1` `C16_nodes_rebuilt`, `.1.2.2.1` `C16_no_crash_obligation`, `.1.2.2.2.1` `C16_unnamed_elems_by_hand`,
`.1.2.2.2.2` `C16_fields_unique`, `.2.1` `C16_ctx_emits_known`, `.2.2.1` `C16_ctx_no_shadowing`, `.2.2.2`
`C16_ctx_facts_found`. A regenerated table that breaks any of them fails here. -/
theorem tables :
    ((staticDrops tables).all (fun p => allowed.contains p) = true ∧
      (emittable tables).all (fun d => !d.fields.any (·.embeddedNode) || needsNode tables d) = true ∧
      noCrashKinds tables = true ∧
      unnamedByHand tables = true ∧
      tables.structs.all (fun d => d.fields.all (fun f =>
        (d.fields.find? (fun g => g.name == f.name)).map (·.name) == some f.name
        && (d.fields.filter (fun g => g.name == f.name)).length == 1)) = true) ∧
    (emitsKnown knownCtxEmits ctxReads = true ∧
      noShadowing tables ctxReads = true ∧
      ((knownCtxEmits.all fun k => ctxReads.contains ⟨k.2.1, k.1, k.2.2, "emit"⟩) = true ∧
        (["node.CallLater", "node.CallStaticMethodLater", "node.CallStaticPropertyLater"].all fun ty =>
          (fieldNames tables ty).contains "namespace") = true)) := by
  rw [all_staticDrops, noCrashKinds, unnamedByHand, all_emittable, all_emittable, all_emittable, all_emittable]
  simp only [handlerDrops, innerDrops, noShadowing, shadowed, fieldNames, findStruct_bySize]
  decide +kernel

end Proofs.EmitObl
