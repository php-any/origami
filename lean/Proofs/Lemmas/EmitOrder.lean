import Model.EmitOrder
import Proofs.Lemmas.StableSort
/-! Lemmas about keyed collections walked through a key list (`Model.EmitOrder`). -/
namespace Proofs.EmitOrder
open Model.EmitOrder

theorem rebuildKeyed_emitBy {α : Type} (k : Keyed α) (keys : List String) (ht : k.total keys) :
    (rebuildKeyed (emitBy keys k)).index = keys ∧
    ∀ n ∈ keys, (rebuildKeyed (emitBy keys k)).get n = k.get n := by
  induction keys with
  | nil => exact ⟨rfl, fun n hn => nomatch hn⟩
  | cons m ms ih =>
    obtain ⟨v, hv⟩ := Option.isSome_iff_exists.mp (ht m List.mem_cons_self)
    obtain ⟨ihi, ihg⟩ := ih fun x hx => ht x (List.mem_cons_of_mem _ hx)
    have hcons : emitBy (m :: ms) k = (m, v) :: emitBy ms k := by simp [emitBy, hv]
    rw [hcons]
    refine ⟨?_, fun n hn => ?_⟩
    · simp only [rebuildKeyed, List.map_cons] at ihi ⊢
      rw [ihi]
    · by_cases hmn : m = n
      · subst hmn
        simp [rebuildKeyed, List.find?_cons, hv]
      · have hn' : n ∈ ms := (List.mem_cons.mp hn).resolve_left (Ne.symm hmn)
        simpa [rebuildKeyed, List.find?_cons, beq_false_of_ne hmn] using ihg n hn'

theorem mem_sortStrings (n : String) (xs : List String) : n ∈ sortStrings xs ↔ n ∈ xs := by
  have h : sortStrings xs = xs.foldr insertSorted [] := by
    induction xs with
    | nil => rfl
    | cons x xs ih => rw [sortStrings, ih, List.foldr_cons]
  exact h ▸ (StableSort.perm (f := insertSorted) (fun _ => rfl) (fun _ _ _ => rfl) xs).mem_iff

end Proofs.EmitOrder
