import Model.EmitQuote
import Proofs.Lemmas.EmitQuoteUtf8
/-! Round trip of `quote` / `unquote` (`Model.EmitQuote`): each rune of the input is written as one token that `unqTok`
reads back as exactly the bytes consumed, that does not start with `"` and holds no newline (`Tok`; one lemma per kind of
text, `tok_quoteTok` picks); `quoteGo_spec` chains the tokens by `Tok.step`. Then `printf` safety and the integers. -/
namespace Proofs.EmitQuote
open Model.EmitQuote

/-- Properties/C16 states this hypothesis unfolded. -/
def IsBytes (s : Bytes) : Prop := ∀ b ∈ s, b < 256

/-- what the round trip needs of the text written for one rune -/
structure Tok (tok out : Bytes) : Prop where
  reads : ∀ tail, unqTok (tok ++ tail) = some (out, tail)
  head : ∃ c t, tok = c :: t ∧ c ≠ 34
  noNl : 10 ∉ tok

theorem tok_hex (b : Nat) (hb : b < 256) : Tok (92 :: 120 :: hex2 b) [b] := by
  refine ⟨fun tail => ?_, ⟨92, _, rfl, by omega⟩, by simp [hex2, ten_ne_hexDigit]⟩
  show (hexN 0 (hex2 b)).map (fun v => ([v], tail)) = some ([b], tail)
  rw [hexN_hex2 b hb]
  rfl

theorem tok_escByte (b : Nat) (hb : b < 0x80) : Tok (escByte b) [b] := by
  by_cases hs : b ∈ [34, 92, 7, 8, 12, 10, 13, 9, 11]
  · -- the escapes with a letter of their own: the table itself
    simp only [List.mem_cons, List.mem_nil_iff, or_false] at hs
    rcases hs with rfl | rfl | rfl | rfl | rfl | rfl | rfl | rfl | rfl <;>
      exact ⟨fun _ => rfl, ⟨_, _, rfl, by decide⟩, by decide⟩
  · simp only [List.mem_cons, List.mem_nil_iff, or_false, not_or] at hs
    obtain ⟨h34, h92, h7, h8, h12, h10, h13, h9, h11⟩ := hs
    unfold escByte
    rw [if_neg (by omega)]
    by_cases h2 : 32 ≤ b ∧ b < 127
    · rw [if_pos h2]
      refine ⟨fun tail => ?_, ⟨b, [], rfl, h34⟩, by simpa using Ne.symm h10⟩
      simp only [List.cons_append, List.nil_append, unqTok]
      rw [if_neg h92, if_neg h10, (decode_ascii_iff b tail).mpr hb]
    · rw [if_neg h2, if_neg h7, if_neg h8, if_neg h12, if_neg h10, if_neg h13, if_neg h9, if_neg h11]
      exact tok_hex b (by omega)

theorem tok_uEsc (c : Nat) (hv : validCp c) : Tok (uEsc c) (encodeRune c) := by
  have hc : c < 4294967296 := by unfold validCp at hv; omega
  unfold uEsc
  split
  · refine ⟨fun tail => ?_, ⟨92, _, rfl, by omega⟩, by simp [hex4, ten_ne_hexDigit]⟩
    show (hexN 0 (hex4 c)).bind (fun cp => if validCp cp then some (encodeRune cp, tail) else none) = _
    rw [hexN_hex4 c ‹_›, Option.bind_some, if_pos hv]
  · refine ⟨fun tail => ?_, ⟨92, _, rfl, by omega⟩, by simp [hex8, hex4, ten_ne_hexDigit]⟩
    show (hexN 0 (hex8 c)).bind (fun cp => if validCp cp then some (encodeRune cp, tail) else none) = _
    rw [hexN_hex8 c hc, Option.bind_some, if_pos hv]

theorem tok_rune {b0 : Nat} {e : Bytes} {cp : Nat} (R : Rune (b0 :: e) cp) : Tok (b0 :: e) (b0 :: e) := by
  have hb0 := R.high b0 List.mem_cons_self
  refine ⟨fun tail => ?_, ⟨b0, e, rfl, by omega⟩, fun h => by have := R.high 10 h; omega⟩
  have hd := R.stable tail
  rw [List.cons_append] at hd ⊢
  rw [unqTok, if_neg (by omega), if_neg (by omega), hd]
  simp

theorem tok_quoteTok (pr : Nat → Bool) (b0 : Nat) (r : Bytes) (hb0 : b0 < 256) :
    Tok (quoteTok pr (b0 :: r)).1 ((b0 :: r).take (quoteTok pr (b0 :: r)).2) ∧ 1 ≤ (quoteTok pr (b0 :: r)).2 := by
  unfold quoteTok
  simp only
  cases hd : decodeRune (b0 :: r) with
  | ascii => exact ⟨tok_escByte b0 ((decode_ascii_iff b0 r).mp hd), Nat.le_refl 1⟩
  | bad => exact ⟨tok_hex b0 hb0, Nat.le_refl 1⟩
  | rune cp w =>
    obtain ⟨e, t, rfl, rfl, R⟩ := decode_rune hd
    simp only [List.take_succ_cons, List.take_left']
    refine ⟨?_, by omega⟩
    split
    · exact tok_rune R
    · exact R.enc ▸ tok_uEsc cp R.valid

theorem Tok.step {tok out : Bytes} (T : Tok tok out) (k : Nat) (rest : Bytes) :
    unqGo (k + 1) (tok ++ rest) = (unqGo k rest).map (out ++ ·) := by
  obtain ⟨c, t, rfl, hc⟩ := T.head
  have h := T.reads rest
  rw [List.cons_append] at h ⊢
  rw [unqGo, if_neg hc, h]

theorem quoteGo_spec (pr : Nat → Bool) (f : Nat) (s : Bytes) (hl : s.length ≤ f) (hs : IsBytes s) :
    10 ∉ quoteGo pr f s ∧
    ∀ fuel, (quoteGo pr f s).length + 1 ≤ fuel → unqGo fuel (quoteGo pr f s ++ [34]) = some s := by
  have nil : ∀ fuel, 1 ≤ fuel → unqGo fuel ([] ++ [34]) = some [] := fun fuel h => by
    obtain ⟨k, rfl⟩ := Nat.exists_eq_add_of_le' h
    simp [unqGo]
  fun_induction quoteGo pr f s with
  | case1 s =>
    cases List.eq_nil_of_length_eq_zero (Nat.le_zero.mp hl)
    exact ⟨List.not_mem_nil, nil⟩
  | case2 f => exact ⟨List.not_mem_nil, nil⟩
  | case3 f b0 r ih =>
    obtain ⟨T, hw⟩ := tok_quoteTok pr b0 r (hs b0 List.mem_cons_self)
    obtain ⟨ihn, ihr⟩ := ih (by simp only [List.length_drop, List.length_cons] at hl ⊢; omega)
      fun b hb => hs b (List.mem_of_mem_drop hb)
    refine ⟨by simp only [List.mem_append, not_or]; exact ⟨T.noNl, ihn⟩, fun fuel hf => ?_⟩
    obtain ⟨k, rfl⟩ := Nat.exists_eq_add_of_le' (Nat.le_trans (Nat.le_add_left 1 _) hf)
    have hlen : 1 ≤ (quoteTok pr (b0 :: r)).1.length := by obtain ⟨c, t, h, -⟩ := T.head; rw [h]; simp
    rw [List.append_assoc, T.step, ihr k (by simp only [List.length_append] at hf; omega)]
    simp only [Option.map_some, List.take_append_drop]

theorem unquote_quote (pr : Nat → Bool) (s : Bytes) (hs : IsBytes s) : unquote (quote pr s) = some s := by
  unfold quote unquote
  simp only [if_true]
  exact (quoteGo_spec pr s.length s (Nat.le_refl _) hs).2 _ (by simp)

theorem quote_no_nl (pr : Nat → Bool) (s : Bytes) (hs : IsBytes s) : 10 ∉ quote pr s := by
  unfold quote
  simp only [List.mem_cons, List.mem_append, List.mem_nil_iff, or_false, not_or]
  exact ⟨by omega, (quoteGo_spec pr _ s (Nat.le_refl _) hs).1, by omega⟩

theorem splitNL_no_nl (t : Bytes) (h : 10 ∉ t) : splitNL t = [t] := by
  induction t with
  | nil => rfl
  | cons b r ih =>
    simp only [List.mem_cons, not_or] at h
    simp only [splitNL]
    rw [if_neg (fun e => h.1 e.symm), ih h.2]

theorem printfOut_no_nl (k : Nat) (t : Bytes) (h : 10 ∉ t) (hne : t ≠ []) : printfOut k t = tabs k ++ t := by
  unfold printfOut
  by_cases hk : k = 0
  · subst hk; simp [tabs]
  · rw [if_neg hk, splitNL_no_nl t h]
    simp [joinNL, padLine, hne]

theorem dropTabs_tabs (k : Nat) (t : Bytes) (h : t.head? ≠ some 9) : dropTabs (tabs k ++ t) = t := by
  induction k with
  | zero =>
    simp only [tabs, List.replicate_zero, List.nil_append]
    cases t with
    | nil => rfl
    | cons b r =>
      simp only [List.head?_cons, ne_eq, Option.some.injEq] at h
      simp [dropTabs, h]
  | succ k ih =>
    simp only [tabs, List.replicate_succ, List.cons_append, dropTabs, if_true] at ih ⊢
    exact ih

theorem unqRaw_append (s : Bytes) (h : 96 ∉ s) : unqRaw (s ++ [96]) = some (s.filter (· ≠ 13)) := by
  induction s with
  | nil => simp [unqRaw]
  | cons b r ih =>
    simp only [List.mem_cons, not_or] at h
    simp only [List.cons_append, unqRaw]
    rw [if_neg (fun e => h.1 e.symm), ih h.2]
    by_cases h13 : b = 13
    · subst h13; simp
    · simp [h13]

theorem digitsAux_spec (fuel n : Nat) (acc : Bytes) (h : n < fuel) :
    readAux 0 (digitsAux fuel n acc) = readAux n acc ∧
    ∃ c t, digitsAux fuel n acc = c :: t ∧ 48 ≤ c ∧ c ≤ 57 := by
  fun_induction digitsAux fuel n acc with
  | case1 => omega
  | case2 fuel n acc h10 =>
    refine ⟨?_, 48 + n, acc, rfl, by omega, by omega⟩
    rw [readAux, if_pos (by omega), Nat.add_sub_cancel_left, Nat.zero_mul, Nat.zero_add]
  | case3 fuel n acc h10 ih =>
    obtain ⟨ihr, ihd⟩ := ih (by omega)
    refine ⟨?_, ihd⟩
    rw [ihr, readAux, if_pos (by omega), Nat.add_sub_cancel_left, Nat.div_add_mod']

theorem readNat_showNat (n : Nat) : readNat (showNat n) = some n := by
  unfold readNat showNat
  obtain ⟨hread, c, t, h, _, _⟩ := digitsAux_spec (n + 1) n [] (by omega)
  rw [if_neg (by rw [h]; simp), hread]
  rfl

/-- the text of a natural number starts with a digit, so it is not taken for a negated one -/
theorem readInt_showNat (n : Nat) : readInt (showNat n) = some (Int.ofNat n) := by
  obtain ⟨-, c, t, h, h48, -⟩ := digitsAux_spec (n + 1) n [] (by omega)
  have hs : showNat n = c :: t := h
  rw [readInt.eq_def, hs]
  simp only
  rw [if_neg (by omega), ← hs, readNat_showNat]
  rfl

theorem evalFloat_mag (m : Bytes) (h : magOk m) : evalFloat m = some (.fin false m) ∧ evalFloat (45 :: m) = some (.fin true m) := by
  match m, h with
  | c :: r, h =>
    obtain ⟨hd, hne⟩ := h
    unfold isDigit at hd
    have hm : magOk (c :: r) := ⟨hd, hne⟩
    constructor
    · unfold evalFloat
      rw [if_neg (by simp [txtCopysign]; omega), if_neg (by simp [txtInfPos]; omega), if_neg (by simp [txtInfNeg]; omega),
        if_neg (by simp [txtNaN]; omega)]
      simp only
      rw [if_neg (by omega), if_neg hne, if_pos hm]
    · unfold evalFloat
      rw [if_neg (by simp [txtCopysign]), if_neg (by simp [txtInfPos]), if_neg (by simp [txtInfNeg]), if_neg (by simp [txtNaN])]
      simp only [if_true]
      rw [if_neg hne, if_pos hm]

theorem evalFloat_showFloat (sa : Bool) (v : FloatV) (h : v.wf)
    (hs : sa = true ∨ (v ≠ .zero true ∧ (∀ n, v ≠ .inf n) ∧ v ≠ .nan)) :
    evalFloat (showFloat sa v) = some v := by
  cases v with
  | fin neg mag =>
    cases neg
    · exact (evalFloat_mag mag h).1
    · exact (evalFloat_mag mag h).2
  | zero neg =>
    cases neg
    · cases sa <;> decide
    · rcases hs with rfl | hs
      · decide
      · exact absurd rfl hs.1
  | inf neg =>
    rcases hs with rfl | hs
    · cases neg <;> decide
    · exact absurd rfl (hs.2.1 neg)
  | nan =>
    rcases hs with rfl | hs
    · decide
    · exact absurd rfl hs.2.2
end Proofs.EmitQuote
