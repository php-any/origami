import Model.EmitQuote
/-! UTF-8 and hex lemmas for `Model.EmitQuote`. `Model.Lex` (C01, C18) has a decoder of its own with the
same accept table. -/
namespace Proofs.EmitQuote
open Model.EmitQuote

theorem hexVal_hexDigit (n : Nat) (h : n < 16) : hexVal (hexDigit n) = some n := by
  unfold hexDigit hexVal
  by_cases h10 : n < 10
  · rw [if_pos h10, if_pos (by omega)]; congr 1; omega
  · rw [if_neg h10, if_neg (by omega), if_pos (by omega)]; congr 1; omega

theorem hexDigit_ge (n : Nat) : 48 ≤ hexDigit n := by
  unfold hexDigit; split <;> omega

theorem ten_ne_hexDigit (n : Nat) : ¬ (10 = hexDigit n) := by have := hexDigit_ge n; omega
theorem hexDigit_ne_ten (n : Nat) : ¬ (hexDigit n = 10) := by have := hexDigit_ge n; omega

theorem hexN_digit (acc n : Nat) (h : n < 16) (r : Bytes) :
    hexN acc (hexDigit n :: r) = hexN (acc * 16 + n) r := by
  simp only [hexN, hexVal_hexDigit n h]

/-- the `k` lowest hex digits of `c`, most significant first: `hex4 c` is `hexK 4 c`, `hex8 c` is `hexK 8 c` -/
def hexK : Nat → Nat → Bytes
  | 0, _ => []
  | k + 1, c => hexK k (c / 16) ++ [hexDigit (c % 16)]

theorem hexN_hexK (k : Nat) : ∀ (c : Nat) (r : Bytes), hexN 0 (hexK k c ++ r) = hexN (c % 16 ^ k) r := by
  induction k with
  | zero => intro c r; rw [hexK, List.nil_append, Nat.pow_zero, Nat.mod_one]
  | succ k ih =>
    intro c r
    -- one digit at a time: `c % (16 * 16 ^ k) = c % 16 + 16 * (c / 16 % 16 ^ k)`
    rw [hexK, List.append_assoc, ih, List.singleton_append, hexN_digit _ _ (Nat.mod_lt _ (by decide)),
      Nat.pow_succ', Nat.mod_mul]
    congr 1; omega

theorem hexN_hexK_nil (k c : Nat) (h : c < 16 ^ k) : hexN 0 (hexK k c) = some c := by
  have := hexN_hexK k c []
  rwa [List.append_nil, Nat.mod_eq_of_lt h] at this

theorem hexN_hex2 (b : Nat) (h : b < 256) : hexN 0 (hex2 b) = some b := by
  rw [← hexN_hexK_nil 2 b h]; simp [hex2, hexK, Nat.mod_eq_of_lt (show b / 16 < 16 by omega)]

theorem hexN_hex4 (c : Nat) (h : c < 65536) : hexN 0 (hex4 c) = some c := by
  rw [← hexN_hexK_nil 4 c h]; simp [hex4, hexK, Nat.div_div_eq_div_mul]

theorem hexN_hex8 (c : Nat) (h : c < 4294967296) : hexN 0 (hex8 c) = some c := by
  rw [← hexN_hexK_nil 8 c h]; simp [hex8, hex4, hexK, Nat.div_div_eq_div_mul]

theorem decodeRune_cons (b : Nat) (r : Bytes) : decodeRune (b :: r) = decodeCons b r := rfl

theorem decode_ascii_iff (b0 : Nat) (r : Bytes) : decodeRune (b0 :: r) = .ascii ↔ b0 < 0x80 := by
  rw [decodeRune_cons]
  fun_cases decodeCons b0 r with
  | case1 _ h => exact iff_of_true rfl h
  | _ => exact iff_of_false (fun h => nomatch h) ‹¬b0 < 128›

/-- the accept range of the second byte without the case distinction, as `omega` can use it -/
theorem second3_bounds {b0 b1 : Nat} (h : second3 b0 b1) :
    0x80 ≤ b1 ∧ b1 ≤ 0xBF ∧ (b0 = 0xE0 → 0xA0 ≤ b1) ∧ (b0 = 0xED → b1 ≤ 0x9F) := by
  unfold second3 at h
  split at h <;> split at h <;> omega

theorem second4_bounds {b0 b1 : Nat} (h : second4 b0 b1) :
    0x80 ≤ b1 ∧ b1 ≤ 0xBF ∧ (b0 = 0xF0 → 0x90 ≤ b1) ∧ (b0 = 0xF4 → b1 ≤ 0x8F) := by
  unfold second4 at h
  split at h <;> split at h <;> omega

/-- the bytes `decodeRune` accepts as one multi-byte rune: the encoding of a valid code point, none ASCII, decoded alike
whatever follows -/
structure Rune (e : Bytes) (cp : Nat) : Prop where
  enc : encodeRune cp = e
  valid : validCp cp
  high : ∀ b ∈ e, 0x80 ≤ b
  stable : ∀ t, decodeRune (e ++ t) = .rune cp e.length

theorem decode_rune {b0 : Nat} {rest : Bytes} {cp w : Nat} (h : decodeRune (b0 :: rest) = .rune cp w) :
    ∃ e t, rest = e ++ t ∧ w = e.length + 1 ∧ Rune (b0 :: e) cp := by
  rw [decodeRune_cons] at h
  revert h
  fun_cases decodeCons b0 rest with
  | case2 hlo h2 b1 tail hc =>  -- two bytes
    intro h
    obtain ⟨rfl, rfl⟩ := Dec.rune.inj h
    have hb1 : 0x80 ≤ b1 ∧ b1 ≤ 0xBF := hc
    -- each byte as its lower bound plus a digit: the decoder's `b - lo` is then the digit itself, and
    -- no truncated subtraction is left for `omega` to split on (so in the two wider branches)
    obtain ⟨x0, rfl⟩ := Nat.exists_eq_add_of_le (Nat.le_trans (by decide : 0xC0 ≤ 0xC2) h2.1)
    obtain ⟨x1, rfl⟩ := Nat.exists_eq_add_of_le hb1.1
    rw [Nat.add_sub_cancel_left, Nat.add_sub_cancel_left]
    refine ⟨[_], tail, rfl, rfl, ?_, ?_, ?_, fun t => ?_⟩
    · unfold encodeRune
      rw [if_neg (by omega), if_pos (by omega)]
      simp only [List.cons.injEq, and_true]
      refine ⟨by omega, by omega⟩
    · unfold validCp; omega
    · simp only [List.mem_cons, List.mem_nil_iff, or_false]
      omega
    · simp only [List.cons_append, List.nil_append, decodeRune_cons, decodeCons, if_neg hlo, if_pos h2, if_pos hc,
        Nat.add_sub_cancel_left, List.length_cons, List.length_nil]
  | case5 hlo h2 h3 b1 b2 tail hc =>  -- three bytes
    intro h
    obtain ⟨rfl, rfl⟩ := Dec.rune.inj h
    have hs := second3_bounds hc.1
    have hc2 : 0x80 ≤ b2 ∧ b2 ≤ 0xBF := hc.2
    obtain ⟨x0, rfl⟩ := Nat.exists_eq_add_of_le h3.1
    obtain ⟨x1, rfl⟩ := Nat.exists_eq_add_of_le hs.1
    obtain ⟨x2, rfl⟩ := Nat.exists_eq_add_of_le hc2.1
    rw [Nat.add_sub_cancel_left, Nat.add_sub_cancel_left, Nat.add_sub_cancel_left]
    refine ⟨[_, _], tail, rfl, rfl, ?_, ?_, ?_, fun t => ?_⟩
    · unfold encodeRune
      rw [if_neg (by omega), if_neg (by omega), if_pos (by omega)]
      simp only [List.cons.injEq, and_true]
      refine ⟨by omega, by omega, by omega⟩
    · unfold validCp; omega
    · simp only [List.mem_cons, List.mem_nil_iff, or_false]
      omega
    · simp only [List.cons_append, List.nil_append, decodeRune_cons, decodeCons, if_neg hlo, if_neg h2, if_pos h3,
        if_pos hc, Nat.add_sub_cancel_left, List.length_cons, List.length_nil]
  | case8 hlo h2 h3 h4 b1 b2 b3 tail hc =>  -- four bytes
    intro h
    obtain ⟨rfl, rfl⟩ := Dec.rune.inj h
    have hs := second4_bounds hc.1
    have hc2 : 0x80 ≤ b2 ∧ b2 ≤ 0xBF := hc.2.1
    have hc3 : 0x80 ≤ b3 ∧ b3 ≤ 0xBF := hc.2.2
    obtain ⟨x0, rfl⟩ := Nat.exists_eq_add_of_le h4.1
    obtain ⟨x1, rfl⟩ := Nat.exists_eq_add_of_le hs.1
    obtain ⟨x2, rfl⟩ := Nat.exists_eq_add_of_le hc2.1
    obtain ⟨x3, rfl⟩ := Nat.exists_eq_add_of_le hc3.1
    rw [Nat.add_sub_cancel_left, Nat.add_sub_cancel_left, Nat.add_sub_cancel_left, Nat.add_sub_cancel_left]
    refine ⟨[_, _, _], tail, rfl, rfl, ?_, ?_, ?_, fun t => ?_⟩
    · unfold encodeRune
      rw [if_neg (by omega), if_neg (by omega), if_neg (by omega)]
      simp only [List.cons.injEq, and_true]
      refine ⟨by omega, by omega, by omega, by omega⟩
    · unfold validCp; right; omega
    · simp only [List.mem_cons, List.mem_nil_iff, or_false]
      omega
    · simp only [List.cons_append, List.nil_append, decodeRune_cons, decodeCons, if_neg hlo, if_neg h2, if_neg h3,
        if_pos h4, if_pos hc, Nat.add_sub_cancel_left, List.length_cons, List.length_nil]
  | _ => exact fun h => nomatch h  -- the leaves that answer `.ascii` or `.bad`

end Proofs.EmitQuote
