import Model.EmitType
/-! A union type is printed as `a|b|…` (`joinBar`) and read again by `data.NewBaseType`, which splits only when the first
`|` is at an index above 1 (`splits`): the printed union is split iff its first member has more than one character
(`splits_join`). -/
namespace Proofs.EmitType
open Model.EmitType

theorem indexBar_prefix (p rest : List Char) (h : barFree p) :
    indexBar (p ++ '|' :: rest) = some p.length := by
  induction p with
  | nil => simp [indexBar]
  | cons c cs ih =>
    have hc : c ≠ '|' := h c (by simp)
    have hcs : barFree cs := fun d hd => h d (by simp [hd])
    simp [indexBar, hc, ih hcs]

theorem splits_join (p q : List Char) (r : List (List Char)) (h : barFree p) :
    splits (joinBar (p :: q :: r)) = decide (p.length > 1) := by
  unfold splits
  rw [joinBar, indexBar_prefix p _ h]
  by_cases hp : p.length > 1
  · simp [hp]; omega
  · simp [hp]

end Proofs.EmitType
