import Model.Exc
import Model.Cli
import Spec.Cli
/-! C05: from the end of a run of `Model.Exc` to the process (`Model.Cli`), and what the output steps leave on standard output. -/
namespace Proofs.Exc
open Model.Exc
open Model.Cli (Step step flushed)

/-- how `Program.GetValue` / the VM handler turn the end of a run into the end of the process -/
def endOf : Final → Model.Cli.End
  | .ok => .normal
  | .returned _ => .normal
  | .uncaught _ => .uncaught
  | .stray => .uncaught
  | .goPanic => .goPanic

theorem flushed_foldl (steps : List Step) (out : List Nat) (bufs : List (List Nat)) :
    flushed (steps.foldl step ⟨out, bufs⟩) = Spec.Cli.visible steps out bufs := by
  -- in every case of `visible` one `step` of the fold computes to the arguments of the recursive call
  fun_induction Spec.Cli.visible steps out bufs with
  | case1 => rfl
  | case2 m r out ih => exact ih
  | case3 m r out b bs ih => exact ih
  | case4 r out bufs ih => exact ih
  | case5 r out bufs ih => exact ih

theorem bufs_of_direct (steps : List Step) (out : List Nat) (hdir : Spec.Cli.Direct steps) :
    (steps.foldl step ⟨out, []⟩).bufs = [] :=
  List.foldlRecOn (motive := fun s => s.bufs = []) steps step rfl fun s h st hs => by
    obtain ⟨m, rfl⟩ := hdir st hs
    simp [step, h]

end Proofs.Exc
