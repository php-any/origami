import Proofs.Lemmas.ExcTrace
import Model.ExcShape
import Proofs.Lemmas.HierIs
/-! C05: the model (repaired code) refines the PHP-level specification; `catchTypeMatches` decides the declared
subtype relation (through C08's `isThrown_spec` / `isClassValue_spec`), and `sel` picks the clause of `FirstMatch` /
`NoMatch` (`sel_of_firstMatch`, `sel_of_noMatch`). -/
namespace Proofs.Exc
open Model.Exc
open Model.Hier (Name Cls Graph getClass isClassValue R throwableName exceptionName errorName)
open Spec.Hier (IsA NoCycle csucc)
open Spec.Exc (Rules TypeOk raise pick iterate afterCatch resume handlers returned ThrowableRooted ClauseOk FirstMatch NoMatch)

/-- the `.internal` arm shared by `classIs` and `singleMatches` -/
theorem internal_iff (ty : Name) :
    (ty == throwableName || ty == exceptionName || ty == errorName) = true ↔
      (ty = throwableName ∨ ty = exceptionName ∨ ty = errorName) := by
  simp [Bool.or_eq_true, or_assoc]

/-- the `.obj` arm shared by `classIs` and `singleMatches` -/
theorem obj_iff {G : Graph} {n ty : Name} {d : Cls → R}
    (hd : ∀ c, getClass G n = some c → Proofs.Hier.Decides (d c) (IsA G c ty)) :
    (match getClass G n with | some c => d c == .yes | none => false) = true ↔ ∃ c, getClass G n = some c ∧ IsA G c ty := by
  cases hc : getClass G n with
  | none => simp
  | some c =>
    simp only [Option.some.injEq, exists_eq_left']
    exact Proofs.Hier.yes_iff_of_decides (hd c hc)

theorem classIs_iff (G : Graph) (hn : NoCycle (csucc G)) (ty : Name) (x : Thrown) :
    classIs G ty x = true ↔ TypeOk G x ty := by
  cases x with
  | internal => exact internal_iff ty
  | obj n s => exact obj_iff fun c _ => Proofs.Hier.isClassValue_spec G hn ty c

theorem singleMatches_iff (G : Graph) (hn : NoCycle (csucc G)) (hroot : ThrowableRooted G) (ty : Name) (x : Thrown) :
    singleMatches G ty x = true ↔ TypeOk G x ty := by
  cases x with
  | internal => exact internal_iff ty
  | obj n s => exact obj_iff fun c hc => Proofs.Hier.isThrown_spec G hn ty c (hroot n c hc)

theorem clauseMatches_iff (G : Graph) (hn : NoCycle (csucc G)) (hroot : ThrowableRooted G) (tys : List Name) (x : Thrown) :
    clauseMatches G tys x = true ↔ ClauseOk G x tys := by
  unfold clauseMatches ClauseOk
  split
  · rename_i ty
    rw [singleMatches_iff G hn hroot]
    simp
  · rw [List.any_eq_true]
    exact exists_congr fun ty => and_congr_right fun _ => classIs_iff G hn ty x

theorem clauseMatches_eq_any (G : Graph) (hn : NoCycle (csucc G)) (hroot : ThrowableRooted G) (R : Rules)
    (hR : R.Decides G) (tys : List Name) (x : Thrown) : clauseMatches G tys x = tys.any (R.sub x) := by
  rw [Bool.eq_iff_iff, clauseMatches_iff G hn hroot, List.any_eq_true]
  exact exists_congr fun ty => and_congr_right fun _ => (hR.sub x ty).symm

theorem loopN_eq_iterate {f g : List Ev → Res} (h : ∀ t, f t = g t) (k : Nat) (tr : List Ev) :
    loopN f k tr = iterate g k tr := by
  induction k generalizing tr with
  | zero => rfl
  | succ k ih =>
    rw [loopN_succ, iterate, h tr]
    rcases hg : g tr with ⟨o, tr'⟩
    cases o <;> simp [ih]

theorem callResult_eq (r : Res) : callResult r = returned r := by
  rcases r with ⟨o, tr⟩; cases o <;> rfl

/-- decidable sufficient condition for `ThrowableRooted` on a concrete class table -/
def rootedB (G : Graph) : Bool :=
  G.classes.all (fun c =>
    (isClassValue G exceptionName c != .yes || isClassValue G throwableName c == .yes) &&
    (isClassValue G errorName c != .yes || isClassValue G throwableName c == .yes))

theorem throwableRooted_of_rootedB (G : Graph) (hn : NoCycle (csucc G)) (h : rootedB G = true) : ThrowableRooted G := by
  intro n c hc
  have hc' := List.all_eq_true.1 h c (List.mem_of_find?_eq_some hc)
  have key : ∀ t, (isClassValue G t c == .yes) = true ↔ IsA G c t :=
    fun t => Proofs.Hier.yes_iff_of_decides (Proofs.Hier.isClassValue_spec G hn t c)
  simp only [Bool.and_eq_true, Bool.or_eq_true, bne, Bool.not_eq_true', ← Bool.not_eq_true, key] at hc'
  exact ⟨fun hE => hc'.1.resolve_left (· hE), fun hE => hc'.2.resolve_left (· hE)⟩

/-- `pick` in the shape of `execC`'s answer, so that `execC_refines` is an equation -/
def picked (sub : Thrown → Name → Bool) (hs : List (List Name × Spec.Exc.Handler)) (k : Nat) (x : Thrown) (tr : List Ev) : Res :=
  match pick sub x hs k with
  | some (k', h) => h k' x tr
  | none => (.thr x, tr)

theorem picked_cons (sub : Thrown → Name → Bool) (tys : List Name) (h : Spec.Exc.Handler)
    (hs : List (List Name × Spec.Exc.Handler)) (k : Nat) (x : Thrown) (tr : List Ev) :
    picked sub ((tys, h) :: hs) k x tr = if tys.any (sub x) then h k x tr else picked sub hs (k+1) x tr := by
  unfold picked
  rw [pick]
  cases tys.any (sub x) <;> rfl

theorem catchPhase_eq (sub : Thrown → Name → Bool) (hs : List (List Name × Spec.Exc.Handler))
    {cl : Thrown → List Ev → Res} (hc : ∀ x t, cl x t = picked sub hs 0 x t) (b : Res) :
    catchPhase (fun r => protect (tryValue cl r)) (protect b) = afterCatch sub hs b := by
  rcases b with ⟨o, tr1⟩
  have key : ∀ t, protect (cl t tr1) = afterCatch sub hs (.thr t, tr1) := by
    intro t
    rw [hc, protect_eq]
    unfold picked afterCatch
    simp only [raise]
    cases pick sub t hs 0 <;> rfl
  cases o
  case normal => rfl
  case brk => rfl
  case cont => rfl
  case ret v => rfl
  case thr t => exact key t
  case panic => exact key .internal

theorem finallyPhase_resume (a i : Nat) (hasFin : Bool) (sf : List Ev → Res) (r2 : Res) :
    finallyPhase a i hasFin (fun t => protect (sf t)) r2 =
      if hasFin then resume r2.1 (sf (r2.2 ++ [.enterFinally a i])) else r2 := by
  rw [finallyPhase_eq, protect_eq]; rfl

theorem tryStmt_eq (sub : Thrown → Name → Bool) (hs : List (List Name × Spec.Exc.Handler)) (a i : Nat) (hasFin : Bool)
    {runBody sb : List Ev → Res} {cl : Thrown → List Ev → Res} {runFin sf : List Ev → Res}
    (hb : ∀ t, runBody t = sb t) (hc : ∀ x t, cl x t = picked sub hs 0 x t) (hf : ∀ t, runFin t = sf t) (tr : List Ev) :
    tryStmt a i hasFin runBody cl runFin tr =
      (let pending := afterCatch sub hs (sb (tr ++ [.enterTry a i]))
       if hasFin then resume pending.1 (sf (pending.2 ++ [.enterFinally a i])) else pending) := by
  unfold tryStmt
  have : (fun t => protect (runFin t)) = (fun t => protect (sf t)) := by funext t; rw [hf]
  simp only [this, hb, catchPhase_eq sub hs hc, finallyPhase_resume]

mutual
theorem exec_refines (G : Graph) (hn : NoCycle (csucc G)) (hroot : ThrowableRooted G) (R : Rules) (hR : R.Decides G)
    (A : Act) :
    ∀ (s : Stmt) (cur : Option Thrown) (tr : List Ev), exec G Cfg.fixed cur A s tr = Spec.Exc.exec R cur A s tr
  | .echo _ => fun _ _ => rfl
  | .throw c st => fun _ tr => by
    show (Out.thr (thrownNew G c (tag A.lvl st)), tr) = (Out.thr (R.newObj c (tag A.lvl st)), tr)
    rw [hR.newObj]
  | .rethrow => fun cur _ => by cases cur <;> rfl
  | .gopanic | .ret _ | .brk | .cont => fun _ _ => rfl
  | .loop k b => fun cur tr => loopN_eq_iterate (fun t => execB_refines G hn hroot R hR A b cur t) k tr
  | .call b => fun _ tr => by
    show callResult (execB G Cfg.fixed none A b tr) = returned (Spec.Exc.execB R none A b tr)
    rw [execB_refines G hn hroot R hR A b none tr, callResult_eq]
  | .callf k => fun _ tr => by
    show (if A.lvl = 0 then _ else callResult (A.env k tr)) = if A.lvl = 0 then _ else returned (A.env k tr)
    rw [callResult_eq]
  | .try_ i b cs hasFin fin => fun cur tr =>
    (exec_try rfl cur A i b cs hasFin fin tr).trans <| tryStmt_eq R.sub (handlers R A i cs) A.lvl i hasFin
      (fun t => execB_refines G hn hroot R hR A b cur t)
      (fun x t => execC_refines G hn hroot R hR A cs i 0 x t)
      (fun t => execB_refines G hn hroot R hR A fin cur t) tr
theorem execB_refines (G : Graph) (hn : NoCycle (csucc G)) (hroot : ThrowableRooted G) (R : Rules) (hR : R.Decides G)
    (A : Act) :
    ∀ (b : Block) (cur : Option Thrown) (tr : List Ev), execB G Cfg.fixed cur A b tr = Spec.Exc.execB R cur A b tr
  | .nil => fun _ _ => rfl
  | .cons s rest => fun cur tr => by
    rw [execB_cons, exec_refines G hn hroot R hR A s cur tr]
    show _ = if (Spec.Exc.exec R cur A s tr).1 = .normal then Spec.Exc.execB R cur A rest (Spec.Exc.exec R cur A s tr).2
      else Spec.Exc.exec R cur A s tr
    rcases Spec.Exc.exec R cur A s tr with ⟨o, tr'⟩
    cases o
    case normal => exact execB_refines G hn hroot R hR A rest cur tr'
    all_goals rfl
theorem execC_refines (G : Graph) (hn : NoCycle (csucc G)) (hroot : ThrowableRooted G) (R : Rules) (hR : R.Decides G)
    (A : Act) :
    ∀ (cs : Catches) (i k : Nat) (x : Thrown) (tr : List Ev),
      execC G Cfg.fixed A i k x cs tr = picked R.sub (handlers R A i cs) k x tr
  | .nil => fun _ _ _ _ => rfl
  | .cons tys b rest => fun i k x tr => by
    show _ = picked R.sub ((tys, _) :: handlers R A i rest) k x tr
    rw [execC_cons, picked_cons, clauseMatches_eq_any G hn hroot R hR]
    split
    · exact execB_refines G hn hroot R hR A b (some x) _
    · exact execC_refines G hn hroot R hR A rest i (k+1) x tr
end

theorem envAt_refines (G : Graph) (hn : NoCycle (csucc G)) (hroot : ThrowableRooted G) (R : Rules) (hR : R.Decides G)
    (fns : List Block) : ∀ n, envAt G Cfg.fixed fns n = Spec.Exc.envAt R fns n
  | 0 => rfl
  | n+1 => by
    funext k tr
    rw [envAt_succ, Spec.Exc.envAt, envAt_refines G hn hroot R hR fns n]
    cases fns[k]? with
    | some b => exact execB_refines G hn hroot R hR _ b none tr
    | none => rfl

theorem sel_of_firstMatch (G : Graph) (hn : NoCycle (csucc G)) (hroot : ThrowableRooted G) (x : Thrown)
    {cs : Catches} {k₀ k : Nat} {body : Block} (h : FirstMatch G x cs k₀ k body) :
    ∃ j, sel G x cs = some (j, body) ∧ k = k₀ + j := by
  induction h with
  | here hok => exact ⟨0, by rw [sel, if_pos ((clauseMatches_iff G hn hroot _ x).2 hok)], rfl⟩
  | later hno _ ih =>
    obtain ⟨j, hs, hk⟩ := ih
    exact ⟨j + 1, by rw [sel, if_neg (fun hm => hno ((clauseMatches_iff G hn hroot _ x).1 hm)), hs]; rfl,
      by rw [hk, Nat.add_assoc, Nat.add_comm 1 j]⟩

theorem sel_of_noMatch (G : Graph) (hn : NoCycle (csucc G)) (hroot : ThrowableRooted G) (x : Thrown) (cs : Catches) :
    NoMatch G x cs → sel G x cs = none := by
  fun_induction sel G x cs with
  | case1 => exact fun _ => rfl
  | case2 tys body rest h => exact fun hno => absurd ((clauseMatches_iff G hn hroot _ x).1 h) hno.1
  | case3 tys body rest h ih => exact fun hno => by rw [ih hno.2]; rfl

theorem first_or_none (G : Graph) (x : Thrown) : ∀ (cs : Catches) (k₀ : Nat),
    (∃ k body, FirstMatch G x cs k₀ k body) ∨ NoMatch G x cs
  | .nil, _ => Or.inr trivial
  | .cons tys b rest, k₀ => by
    by_cases h : ClauseOk G x tys
    · exact Or.inl ⟨k₀, b, .here h⟩
    · rcases first_or_none G x rest (k₀+1) with ⟨k, body, hf⟩ | hn
      · exact Or.inl ⟨k, body, .later h hf⟩
      · exact Or.inr ⟨h, hn⟩

end Proofs.Exc
