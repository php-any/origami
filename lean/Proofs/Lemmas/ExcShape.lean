import Model.ExcShape
import Model.ExcMemo
/-! C05: the clause list. `Model.Exc.sel` — index and body of the first clause whose test answers yes — is the form to which
the other notions of "first matching clause" are tied: here the model's scan (`execC_sel`) and the list form `selClause`
(`sel_toList`); the memo-free index `firstIdx` in the property file (`C05_dispatch_is_scan`); the specification's relation
`FirstMatch` / `NoMatch` in `ExcRefine` (`sel_of_firstMatch`, `sel_of_noMatch`), which needs `clauseMatches_iff`. A node that memoises its dispatch (namespace
`Proofs.ExcMemo`): the memo stays faithful along a history when equal keys are dispatched alike. -/
namespace Proofs.Exc
open Model.Exc
open Model.Hier (Graph)

theorem execC_sel (G : Graph) (cfg : Cfg) (A : Act) (i : Nat) (x : Thrown) (cs : Catches) :
    ∀ (k : Nat) (tr : List Ev), execC G cfg A i k x cs tr = handleWith G cfg A i k x tr (sel G x cs) := by
  fun_induction sel G x cs with
  | case1 => exact fun _ _ => rfl
  | case2 tys body rest h => exact fun k tr => by rw [execC, if_pos h]; rfl
  | case3 tys body rest h ih =>
    intro k tr
    rw [execC, if_neg h, ih]
    cases sel G x rest with
    | none => rfl
    | some p => simp only [handleWith, Option.map_some, Nat.add_assoc, Nat.add_comm 1 p.1]

/-- the one link between the statements about the scan (`sel`) and those about rewrites (`selClause`); read, not applied -/
theorem sel_toList (G : Graph) (x : Thrown) : ∀ (cs : Catches),
    (sel G x cs).map (·.2) = (selClause G x cs.toList).map (·.2) := by
  intro cs
  fun_induction sel G x cs with
  | case1 => rfl
  | case2 tys body rest h => rw [Catches.toList, selClause, List.find?_cons, h]; rfl
  | case3 tys body rest h ih =>
    rw [Catches.toList, selClause, List.find?_cons, eq_false_of_ne_true h, Option.map_map]
    exact ih

theorem toList_ofList : ∀ l : List Clause, (Catches.ofList l).toList = l
  | [] => rfl
  | (_, _) :: r => congrArg _ (toList_ofList r)

theorem toList_keepC (keep : Clause → Bool) (cs : Catches) : (keepC keep cs).toList = cs.toList.filter keep := by
  fun_induction keepC keep cs with
  | case1 => rfl
  | case2 tys body rest h ih => rw [Catches.toList, Catches.toList, List.filter_cons, if_pos h, ih]
  | case3 tys body rest h ih => rw [Catches.toList, List.filter_cons, if_neg h, ih]

theorem selClause_filter (G : Graph) (x : Thrown) (keep : Clause → Bool) (cs : List Clause) :
    selClause G x (cs.filter keep) = cs.find? (fun c => keep c && clauseMatches G c.1 x) := by
  simp [selClause, List.find?_filter]

theorem selClause_filter_iff (G : Graph) (x : Thrown) (keep : Clause → Bool) (cs : List Clause) :
    selClause G x (cs.filter keep) = selClause G x cs ↔ ∀ c, selClause G x cs = some c → keep c = true := by
  unfold selClause
  constructor
  · intro h c hc
    rw [← h] at hc
    exact (List.mem_filter.1 (List.mem_of_find?_eq_some hc)).2
  · intro h
    induction cs with
    | nil => rfl
    | cons c rest ih =>
      rw [List.find?_cons] at h ⊢
      cases hm : clauseMatches G c.1 x
      · rw [hm] at h
        rw [← ih h, List.filter_cons]
        split
        · rw [List.find?_cons, hm]
        · rfl
      · rw [hm] at h
        rw [List.filter_cons, if_pos (h c rfl), List.find?_cons, hm]

section
open Model.ExcShape

theorem Guard.holds_of_isAlways {g : Guard} (h : g.isAlways = true) (ev : String → Clause → Bool) (c : Clause) :
    g.holds ev c = true := by
  cases g with
  | always _ => rfl
  | never _ => cases h
  | other _ => cases h

theorem Guard.holds_of_isNever {g : Guard} (h : g.isNever = true) (ev : String → Clause → Bool) (c : Clause) :
    g.holds ev c = false := by
  cases g with
  | never _ => rfl
  | always _ => cases h
  | other _ => cases h

theorem built_filter (ev : String → Clause → Bool) (F : ParserFacts) (w : Write) (happ : F.appends = [w])
    (hw : w.guards.all Guard.isAlways = true) (src : List Clause) :
    built ev F src = src.filter (fun c => !F.skips.any (fun gs => gs.all (fun g => g.holds ev c))) := by
  have hwg : ∀ c, w.guards.all (fun g => g.holds ev c) = true := fun c =>
    List.all_eq_true.2 fun g hg => Guard.holds_of_isAlways (List.all_eq_true.1 hw g hg) ev c
  have hstep : step ev F = fun acc c =>
      if (!F.skips.any (fun gs => gs.all (fun g => g.holds ev c))) = true then acc ++ [c] else acc := by
    funext acc c
    simp only [step, happ, List.filter_cons, hwg c, if_true, List.filter_nil, List.map_cons, List.map_nil]
    cases F.skips.any (fun gs => gs.all (fun g => g.holds ev c)) <;> rfl
  -- the loop appends the clauses that no `continue` / `break` skips: a fold with a test is core's fold over the filtered list
  rw [built, hstep, ← List.foldl_filter (f := fun acc c => acc ++ [c]), ← List.flatMap_eq_foldl, List.flatMap_singleton']

end

end Proofs.Exc

namespace Proofs.ExcMemo
open Model.ExcMemo

section
variable {X K C : Type} [DecidableEq K]

theorem step_faithful (key : X → K) (m : C → X → Bool) (cs : List C)
    (hk : ∀ x y, key x = key y → firstIdx m cs x = firstIdx m cs y) (memo : Memo K) (hf : Faithful key m cs memo) (x : X) :
    (step key m cs memo x).1 = firstIdx m cs x ∧ Faithful key m cs (step key m cs memo x).2 := by
  unfold step
  cases hl : memo.lookup (key x) with
  | some r => exact ⟨hf x r hl, hf⟩
  | none =>
    refine ⟨rfl, ?_⟩
    intro y r hy
    rw [List.lookup_cons] at hy
    by_cases hxy : key y = key x
    · simp [hxy] at hy
      rw [← hy]; exact hk x y hxy.symm
    · have : (key y == key x) = false := by simpa using hxy
      rw [this] at hy
      exact hf y r hy

theorem runHist_faithful (key : X → K) (m : C → X → Bool) (cs : List C)
    (hk : ∀ x y, key x = key y → firstIdx m cs x = firstIdx m cs y) :
    ∀ (h : List X) (memo : Memo K), Faithful key m cs memo → runHist key m cs memo h = h.map (firstIdx m cs)
  | [], _, _ => rfl
  | x :: xs, memo, hf => by
    have hs := step_faithful key m cs hk memo hf x
    rw [runHist, List.map_cons, hs.1, runHist_faithful key m cs hk xs _ hs.2]

theorem firstIdx_single (m : C → X → Bool) (c : C) (x : X) : firstIdx m [c] x = if m c x then some 0 else none := by
  simp [firstIdx]

theorem firstIdx_congr (m : C → X → Bool) (x y : X) (h : ∀ c, m c x = m c y) : ∀ cs : List C, firstIdx m cs x = firstIdx m cs y
  | [] => rfl
  | c :: cs => by simp [firstIdx, h c, firstIdx_congr m x y h cs]

end

end Proofs.ExcMemo
