import Model.Exc
import Spec.Exc
/-! C05: what every phase of `Model.Exc` does to the trace. A phase only appends events, and it is put together from
three things — stop with an outcome, emit an event, run one computation after another (`Closed`). Every class of trace
functions with these closure properties therefore contains the evaluator (`exec_closed`, one induction over the syntax,
given a `Walk`); the classes used are "appends events satisfying `P`" (`Extends P`: no foreign events with `NoEv`, finally
exactly once with `Alt`) and "does the same from every trace" (`Uniform`: iteration independence). -/
namespace Proofs.Exc
open Model.Exc
open Spec.Exc (raise mentionsS mentionsB mentionsC goodS goodB goodC isTryEv proj Alternates)

/-! Evaluator equations. The proofs of C05 (this file, `ExcRefine`, the property file) rewrite with these and never unfold
`exec` / `execB` / `execC` / `loopN` / `envAt`; `exec_try` is where `cfg.guarded` enters. -/

section
variable {G : Model.Hier.Graph} {cfg : Cfg} (cur : Option Thrown) (A : Act) (tr : List Ev)

theorem exec_loop (k : Nat) (b : Block) :
    exec G cfg cur A (.loop k b) tr = loopN (fun t => execB G cfg cur A b t) k tr := rfl

theorem exec_call (b : Block) : exec G cfg cur A (.call b) tr = callResult (execB G cfg none A b tr) := rfl

theorem exec_callf (k : Nat) : exec G cfg cur A (.callf k) tr = callNamed A k tr := rfl

omit cur A tr in
theorem exec_try (hg : cfg.guarded = true) (cur : Option Thrown) (A : Act) (i : Nat) (b : Block) (cs : Catches)
    (hasFin : Bool) (fin : Block) (tr : List Ev) :
    exec G cfg cur A (.try_ i b cs hasFin fin) tr =
      tryStmt A.lvl i hasFin (fun t => execB G cfg cur A b t) (fun x t => execC G cfg A i 0 x cs t)
        (fun t => execB G cfg cur A fin t) tr := by
  show (if cfg.guarded = true then _ else _) = _
  exact if_pos hg

theorem execB_cons (s : Stmt) (rest : Block) :
    execB G cfg cur A (.cons s rest) tr =
      match exec G cfg cur A s tr with
      | (.normal, tr') => execB G cfg cur A rest tr'
      | r => r := rfl

theorem execB_single (s : Stmt) : execB G cfg cur A (.cons s .nil) tr = exec G cfg cur A s tr := by
  rw [execB_cons]
  split
  · rename_i h; rw [h]; rfl
  · rfl

theorem execC_cons (i k : Nat) (x : Thrown) (tys : List Model.Hier.Name) (body : Block) (rest : Catches) :
    execC G cfg A i k x (.cons tys body rest) tr =
      if clauseMatches G tys x then execB G cfg (some x) A body (tr ++ [.caught A.lvl i k x])
      else execC G cfg A i (k+1) x rest tr := rfl

theorem loopN_succ (step : List Ev → Res) (k : Nat) :
    loopN step (k+1) tr =
      match step tr with
      | (.normal, tr') => loopN step k tr'
      | (.cont, tr') => loopN step k tr'
      | (.brk, tr') => (.normal, tr')
      | r => r := rfl

omit cur A tr in
theorem envAt_succ (fns : List Block) (n k : Nat) :
    envAt G cfg fns (n+1) k =
      match fns[k]? with
      | some b => execB G cfg none ⟨n, envAt G cfg fns n⟩ b
      | none => fun tr => (.thr .internal, tr) := by
  funext tr
  show (match fns[k]? with | some b => _ | none => _) = _
  cases fns[k]? <;> rfl

end

theorem mentionsS_try (i j : Nat) (b : Block) (cs : Catches) (hasFin : Bool) (fin : Block) :
    mentionsS i (.try_ j b cs hasFin fin) = (j == i || mentionsB i b || mentionsC i cs || mentionsB i fin) := rfl

theorem mentionsB_cons (i : Nat) (s : Stmt) (r : Block) : mentionsB i (.cons s r) = (mentionsS i s || mentionsB i r) := rfl

theorem mentionsC_cons (i : Nat) (tys : List Model.Hier.Name) (b : Block) (r : Catches) :
    mentionsC i (.cons tys b r) = (mentionsB i b || mentionsC i r) := rfl

theorem goodS_try (i j : Nat) (b : Block) (cs : Catches) (hasFin : Bool) (fin : Block) :
    goodS i (.try_ j b cs hasFin fin) =
      ((if j == i then hasFin && !mentionsB i b && !mentionsC i cs && !mentionsB i fin else true)
        && goodB i b && goodC i cs && goodB i fin) := rfl

theorem goodB_cons (i : Nat) (s : Stmt) (r : Block) : goodB i (.cons s r) = (goodS i s && goodB i r) := rfl

theorem goodC_cons (i : Nat) (tys : List Model.Hier.Name) (b : Block) (r : Catches) :
    goodC i (.cons tys b r) = (goodB i b && goodC i r) := rfl

theorem protect_eq (r : Res) : protect r = (raise r.1, r.2) := by
  rcases r with ⟨o, tr⟩; cases o <;> rfl

theorem finallyPhase_eq (a i : Nat) (hasFin : Bool) (rf : List Ev → Res) (r₂ : Res) :
    finallyPhase a i hasFin rf r₂ =
      if hasFin then
        (if (rf (r₂.2 ++ [.enterFinally a i])).1 = .normal then r₂.1 else (rf (r₂.2 ++ [.enterFinally a i])).1,
          (rf (r₂.2 ++ [.enterFinally a i])).2)
      else r₂ := by
  unfold finallyPhase
  cases hasFin
  · rfl
  · simp only [if_true]
    generalize rf (r₂.2 ++ [.enterFinally a i]) = r₃
    rcases r₃ with ⟨o, t⟩
    cases o <;> rfl

theorem finallyPhase_normal {a i : Nat} {runFin : List Ev → Res} {r₂ : Res} {tr₃ : List Ev}
    (h : runFin (r₂.2 ++ [.enterFinally a i]) = (.normal, tr₃)) : finallyPhase a i true runFin r₂ = (r₂.1, tr₃) := by
  rw [finallyPhase_eq, h]; rfl

theorem finallyPhase_snd (a i : Nat) (hasFin : Bool) (runFin : List Ev → Res) (r2 : Res) :
    (finallyPhase a i hasFin runFin r2).2 = if hasFin then (runFin (r2.2 ++ [.enterFinally a i])).2 else r2.2 := by
  rw [finallyPhase_eq]; cases hasFin <;> rfl

structure Closed (Q : (List Ev → Res) → Prop) (ok : Ev → Prop) : Prop where
  pure : ∀ o, Q (fun tr => (o, tr))
  emit : ∀ {e}, ok e → Q (fun tr => (.normal, tr ++ [e]))
  bind : ∀ {f : List Ev → Res} {g : Out → List Ev → Res}, Q f → (∀ o, Q (g o)) → Q (fun tr => g (f tr).1 (f tr).2)

namespace Closed
variable {Q : (List Ev → Res) → Prop} {ok : Ev → Prop} (hQ : Closed Q ok)
include hQ

theorem seq {f h : List Ev → Res} (hf : Q f) (g : Out → List Ev → Res) (hg : ∀ o, Q (g o))
    (e : ∀ tr, h tr = g (f tr).1 (f tr).2) : Q h := by
  rw [funext e]; exact hQ.bind hf hg

theorem map {f : List Ev → Res} {F : Res → Res} (hf : Q f) (hF : ∀ o, Q (fun tr => F (o, tr))) :
    Q (fun t => F (f t)) :=
  hQ.bind (g := fun o tr => F (o, tr)) hf hF

theorem after {e : Ev} {f : List Ev → Res} (he : ok e) (hf : Q f) : Q (fun tr => f (tr ++ [e])) :=
  hQ.bind (g := fun _ => f) (hQ.emit he) (fun _ => hf)

theorem protect {f : List Ev → Res} (hf : Q f) : Q (fun t => protect (f t)) :=
  hQ.seq hf (fun o tr => (raise o, tr)) (fun _ => hQ.pure _) (fun _ => protect_eq _)

theorem callResult (hres : ∀ v, ok (.result v)) {f : List Ev → Res} (hf : Q f) : Q (fun t => callResult (f t)) :=
  hQ.map hf fun
    | .normal => hQ.emit (hres none)
    | .ret v => hQ.emit (hres (some v))
    | .brk | .cont | .thr _ | .panic => hQ.pure _

theorem callNamed (hres : ∀ v, ok (.result v)) (A : Act) (k : Nat) (h : Q (A.env k)) : Q (callNamed A k) := by
  unfold Model.Exc.callNamed
  split
  · exact hQ.pure _
  · exact hQ.callResult hres h

theorem loopN {step : List Ev → Res} (hs : Q step) : ∀ k, Q (loopN step k)
  | 0 => hQ.pure .normal
  | k+1 =>
    -- `loopN step (k+1)` is, by definition, this `F` after `step`
    hQ.map (F := fun r => match r with
        | (.normal, tr') => Model.Exc.loopN step k tr' | (.cont, tr') => Model.Exc.loopN step k tr'
        | (.brk, tr') => (.normal, tr') | r => r) hs
      (fun | .normal | .cont => loopN hs k | .brk | .ret _ | .thr _ | .panic => hQ.pure _)

theorem catchPhase {cl : Thrown → List Ev → Res} (hc : ∀ x, Q (cl x)) :
    ∀ o, Q (fun tr => catchPhase (fun r => Model.Exc.protect (tryValue cl r)) (o, tr))
  | .thr t => hQ.protect (hc t)
  | .normal | .brk | .cont | .ret _ | .panic => hQ.pure _

theorem finallyPhase {a i : Nat} (he : ok (.enterFinally a i)) {rf : List Ev → Res} (hf : Q rf) (o : Out) :
    ∀ hasFin, Q (fun tr => finallyPhase a i hasFin rf (o, tr))
  | false => hQ.pure o
  | true =>
    hQ.seq (hQ.after he hf) (fun o₃ tr => (if o₃ = .normal then o else o₃, tr)) (fun _ => hQ.pure _) fun tr =>
      finallyPhase_eq a i true rf (o, tr)

variable {G : Model.Hier.Graph} {cfg : Cfg} {cur : Option Thrown} {A : Act} {i k : Nat} {b : Block}

theorem tryNode (hg : cfg.guarded = true) {cs : Catches} {hasFin : Bool} {fin : Block} (ht : ok (.enterTry A.lvl i) ∧ ok (.enterFinally A.lvl i))
    (hb : Q (execB G cfg cur A b)) (hc : ∀ x, Q (execC G cfg A i 0 x cs)) (hf : Q (execB G cfg cur A fin)) :
    Q (exec G cfg cur A (.try_ i b cs hasFin fin)) := by
  rw [funext (exec_try hg cur A i b cs hasFin fin)]
  exact hQ.map (hQ.map (hQ.protect (hQ.after ht.1 hb)) (hQ.catchPhase hc))
    (fun o => hQ.finallyPhase ht.2 (hQ.protect hf) o hasFin)

theorem block {s : Stmt} {rest : Block}
    (hs : Q (exec G cfg cur A s)) (hr : Q (execB G cfg cur A rest)) : Q (execB G cfg cur A (.cons s rest)) :=
  hQ.map (F := fun r => match r with | (.normal, tr') => execB G cfg cur A rest tr' | r => r) hs
    (fun | .normal => hr | .brk | .cont | .ret _ | .thr _ | .panic => hQ.pure _)

theorem clause {x : Thrown} {tys : List Model.Hier.Name} {rest : Catches} (he : ok (.caught A.lvl i k x)) (hb : Q (execB G cfg (some x) A b))
    (hr : Q (execC G cfg A i (k+1) x rest)) : Q (execC G cfg A i k x (.cons tys b rest)) := by
  by_cases hm : clauseMatches G tys x = true
  · exact hQ.seq (hQ.after he hb) (fun o tr => (o, tr)) hQ.pure (fun tr => by rw [execC_cons, if_pos hm])
  · exact hQ.seq hr (fun o tr => (o, tr)) hQ.pure (fun tr => by rw [execC_cons, if_neg hm])

end Closed

/-- What the induction over the syntax (`exec_closed`) asks for a class `Q` of trace functions, besides `Closed Q ok`.

`tryNode` is a field, not a consequence of `Closed`, because closure alone cannot give "finally exactly once". A `try`
node is `enterTry`, body, handler, `enterFinally`, finally block; a closed class admits it when the two events are allowed
one by one (`Closed.tryNode`), and `enterTry L i` alone does not alternate. For the node numbered `i` at level `L` the
step needs a second, stronger fact about the parts — they emit no event of try `i` at `L` at all (`NoEv`) — which is not
the induction hypothesis (`Alt` of the parts) but comes from the syntax (`goodS`: the parts do not mention `i`) by the
`NoEv` instance of this same induction. So the class, the condition on the syntax and the rule for a `try` node vary
together. -/
structure Walk (Q : (List Ev → Res) → Prop) (ok : Ev → Prop) (G : Model.Hier.Graph) (cfg : Cfg) (A : Act)
    (HS : Stmt → Prop) (HB : Block → Prop) (HC : Catches → Prop) : Prop where
  env : ∀ k, Q (A.env k)
  echo : ∀ m, ok (.echo A.lvl m)
  result : ∀ v, ok (.result v)
  caught : ∀ j k x, ok (.caught A.lvl j k x)
  loop : ∀ {k b}, HS (.loop k b) → HB b
  call : ∀ {b}, HS (.call b) → HB b
  try_ : ∀ {j b cs hasFin fin}, HS (.try_ j b cs hasFin fin) → HB b ∧ HC cs ∧ HB fin
  block : ∀ {s r}, HB (.cons s r) → HS s ∧ HB r
  clause : ∀ {tys b r}, HC (.cons tys b r) → HB b ∧ HC r
  tryNode : ∀ {j b cs hasFin fin cur}, HS (.try_ j b cs hasFin fin) → Q (execB G cfg cur A b) →
    (∀ x, Q (execC G cfg A j 0 x cs)) → Q (execB G cfg cur A fin) → Q (exec G cfg cur A (.try_ j b cs hasFin fin))

section
variable {G : Model.Hier.Graph} {cfg : Cfg} {Q : (List Ev → Res) → Prop} {ok : Ev → Prop} (hQ : Closed Q ok) {A : Act}
  {HS : Stmt → Prop} {HB : Block → Prop} {HC : Catches → Prop} (hW : Walk Q ok G cfg A HS HB HC)
include hQ hW

mutual
theorem exec_closed : ∀ (s : Stmt), HS s → ∀ cur, Q (exec G cfg cur A s)
  | .echo m => fun _ _ => hQ.emit (hW.echo m)
  | .throw .. | .rethrow | .gopanic | .ret _ | .brk | .cont => fun _ _ => hQ.pure _
  | .loop k b => fun h cur => hQ.loopN (execB_closed b (hW.loop h) cur) k
  | .call b => fun h _ => hQ.callResult hW.result (execB_closed b (hW.call h) none)
  | .callf k => fun _ _ => hQ.callNamed hW.result A k (hW.env k)
  | .try_ j b cs _ fin => fun h cur =>
    hW.tryNode h (execB_closed b (hW.try_ h).1 cur) (fun x => execC_closed cs (hW.try_ h).2.1 j 0 x)
      (execB_closed fin (hW.try_ h).2.2 cur)
theorem execB_closed : ∀ (b : Block), HB b → ∀ cur, Q (execB G cfg cur A b)
  | .nil => fun _ _ => hQ.pure .normal
  | .cons s rest => fun h cur => hQ.block (exec_closed s (hW.block h).1 cur) (execB_closed rest (hW.block h).2 cur)
theorem execC_closed : ∀ (cs : Catches), HC cs → ∀ i k x, Q (execC G cfg A i k x cs)
  | .nil => fun _ _ _ x => hQ.pure (.thr x)
  | .cons _ b rest => fun h i k x =>
    hQ.clause (hW.caught i k x) (execB_closed b (hW.clause h).1 (some x)) (execC_closed rest (hW.clause h).2 i (k+1) x)
end

end

/-- `envAt` stops in two ways — level 0 answers `normal`, an undeclared function answers `thr internal` at any level — hence
`h0` for every level and outcome. `Q` depends on the level only for `envAt_noEv_above`, whose claim is about the levels up
to `L`. -/
theorem envAt_ind {G : Model.Hier.Graph} {cfg : Cfg} {fns : List Block} {Q : Nat → (List Ev → Res) → Prop}
    (h0 : ∀ n o, Q n (fun tr => (o, tr)))
    (hs : ∀ n b, b ∈ fns → (∀ k, Q n (envAt G cfg fns n k)) → Q (n+1) (execB G cfg none ⟨n, envAt G cfg fns n⟩ b)) :
    ∀ n k, Q n (envAt G cfg fns n k)
  | 0, _ => h0 0 .normal
  | n+1, k => by
    rw [envAt_succ]
    cases hb : fns[k]? with
    | none => exact h0 _ _
    | some b => exact hs n b (List.mem_of_getElem? hb) (envAt_ind h0 hs n)

def Extends (P : List Ev → Prop) (f : List Ev → Res) : Prop :=
  ∀ tr, ∃ ext, (f tr).2 = tr ++ ext ∧ P ext

theorem Extends.at_nil {P : List Ev → Prop} {f : List Ev → Res} (h : Extends P f) : P (f []).2 := by
  obtain ⟨ext, h1, h2⟩ := h []
  rwa [h1, List.nil_append]

structure Mon (P : List Ev → Prop) : Prop where
  nil : P []
  app : ∀ {a b}, P a → P b → P (a ++ b)

theorem closed_extends {P : List Ev → Prop} (hP : Mon P) : Closed (Extends P) (fun e => P [e]) where
  pure _ tr := ⟨[], (List.append_nil tr).symm, hP.nil⟩
  emit he tr := ⟨[_], rfl, he⟩
  bind {f g} hf hg tr := by
    obtain ⟨e1, h1, p1⟩ := hf tr
    obtain ⟨e2, h2, p2⟩ := hg (f tr).1 (f tr).2
    exact ⟨e1 ++ e2, by rw [h2, h1, List.append_assoc], hP.app p1 p2⟩

theorem tryStmt_shape {P : List Ev → Prop} (hP : Mon P) (a i : Nat) (hasFin : Bool)
    {runBody : List Ev → Res} {cl : Thrown → List Ev → Res} {runFin : List Ev → Res}
    (hb : Extends P runBody) (hc : ∀ x, Extends P (cl x)) (hf : Extends P runFin) (tr : List Ev) :
    ∃ e1 e2 e3, P e1 ∧ P e2 ∧ P e3 ∧
      (tryStmt a i hasFin runBody cl runFin tr).2 =
        tr ++ [.enterTry a i] ++ e1 ++ e2 ++ (if hasFin then [.enterFinally a i] ++ e3 else []) := by
  -- body and handler together are one function that appends `P`-events, so `e2` can be taken empty
  obtain ⟨e1, h1, p1⟩ := (closed_extends hP).map ((closed_extends hP).protect hb) ((closed_extends hP).catchPhase hc)
    (tr ++ [.enterTry a i])
  obtain ⟨e3, h3, p3⟩ := (closed_extends hP).protect hf (tr ++ [.enterTry a i] ++ e1 ++ [.enterFinally a i])
  refine ⟨e1, [], e3, p1, hP.nil, p3, ?_⟩
  rw [tryStmt, finallyPhase_snd, h1, h3, List.append_nil]
  cases hasFin
  · exact (List.append_nil _).symm
  · exact List.append_assoc ..

theorem proj_append (L i : Nat) (a b : List Ev) : proj L i (a ++ b) = proj L i a ++ proj L i b :=
  List.filter_append ..

def NoEv (L i : Nat) (e : List Ev) : Prop := proj L i e = []

def Alt (L i : Nat) (e : List Ev) : Prop := Alternates L i (proj L i e)

theorem mon_noEv (L i : Nat) : Mon (NoEv L i) :=
  ⟨rfl, fun {a b} ha hb => by unfold NoEv at *; rw [proj_append, ha, hb]; rfl⟩

theorem alternates_append {L i : Nat} {a b : List Ev} (ha : Alternates L i a) (hb : Alternates L i b) :
    Alternates L i (a ++ b) := by
  obtain ⟨n, rfl⟩ := ha
  obtain ⟨m, rfl⟩ := hb
  exact ⟨n + m, by rw [← List.replicate_append_replicate, List.flatten_append]⟩

theorem mon_alt (L i : Nat) : Mon (Alt L i) :=
  ⟨⟨0, rfl⟩, fun {a b} ha hb => by unfold Alt at *; rw [proj_append]; exact alternates_append ha hb⟩

theorem noEv_single {L i : Nat} {e : Ev} (h : isTryEv L i e = false) : NoEv L i [e] := by
  simp [NoEv, proj, h]

theorem alt_of_noEv {L i : Nat} {e : List Ev} (h : NoEv L i e) : Alt L i e := by
  unfold Alt; rw [h]; exact ⟨0, rfl⟩

theorem noEv_try {L i a j : Nat} (h : ¬ (a = L ∧ j = i)) : NoEv L i [.enterTry a j] ∧ NoEv L i [.enterFinally a j] := by
  have : (a == L && j == i) = false := by simpa using h
  exact ⟨noEv_single this, noEv_single this⟩

theorem closed_noEv (L i : Nat) : Closed (Extends (NoEv L i)) (fun e => NoEv L i [e]) := closed_extends (mon_noEv L i)

theorem walk_noEv {G : Model.Hier.Graph} {cfg : Cfg} (hg : cfg.guarded = true) {L i : Nat} {A : Act}
    (henv : ∀ k, Extends (NoEv L i) (A.env k)) :
    Walk (Extends (NoEv L i)) (fun e => NoEv L i [e]) G cfg A (fun s => A.lvl = L → mentionsS i s = false)
      (fun b => A.lvl = L → mentionsB i b = false) (fun cs => A.lvl = L → mentionsC i cs = false) where
  env := henv
  echo _ := noEv_single rfl
  result _ := noEv_single rfl
  caught _ _ _ := noEv_single rfl
  loop h := h
  call h := h
  try_ h := by
    simp only [mentionsS_try, Bool.or_eq_false_iff] at h
    exact ⟨fun hc => (h hc).1.1.2, fun hc => (h hc).1.2, fun hc => (h hc).2⟩
  block h := by
    simp only [mentionsB_cons, Bool.or_eq_false_iff] at h
    exact ⟨fun hc => (h hc).1, fun hc => (h hc).2⟩
  clause h := by
    simp only [mentionsC_cons, Bool.or_eq_false_iff] at h
    exact ⟨fun hc => (h hc).1, fun hc => (h hc).2⟩
  tryNode h := (closed_noEv L i).tryNode hg (noEv_try fun ⟨hl, hji⟩ => by
    have := h hl
    rw [mentionsS_try, hji, BEq.rfl] at this
    cases this)

theorem exec_noEv (G : Model.Hier.Graph) (cfg : Cfg) (hg : cfg.guarded = true) (L i : Nat) (A : Act)
    (henv : ∀ k, Extends (NoEv L i) (A.env k)) :
    ∀ (s : Stmt), (A.lvl = L → mentionsS i s = false) → ∀ cur, Extends (NoEv L i) (exec G cfg cur A s) :=
  exec_closed (closed_noEv L i) (walk_noEv hg henv)

/-! levels only go down: the callees of an activation of level `n` run at levels below `n` -/

theorem envAt_noEv_above (G : Model.Hier.Graph) (cfg : Cfg) (hg : cfg.guarded = true) (fns : List Block) (i : Nat) :
    ∀ (n L : Nat), n ≤ L → ∀ k, Extends (NoEv L i) (envAt G cfg fns n k) :=
  fun n L hl k => envAt_ind (Q := fun n f => n ≤ L → Extends (NoEv L i) f)
    (fun _ o _ => (closed_noEv L i).pure o)
    (fun n b _ ih hl => execB_closed (closed_noEv L i) (walk_noEv hg (A := ⟨n, envAt G cfg fns n⟩) fun k => ih k (by omega)) b
      (fun e => by simp at e; omega) none) n k hl

theorem envAt_noEv_unmentioned (G : Model.Hier.Graph) (cfg : Cfg) (hg : cfg.guarded = true) (fns : List Block) (i : Nat)
    (hf : ∀ b ∈ fns, mentionsB i b = false) : ∀ (n L : Nat) k, Extends (NoEv L i) (envAt G cfg fns n k) :=
  fun n L => envAt_ind (Q := fun _ f => Extends (NoEv L i) f) (fun _ o => (closed_noEv L i).pure o)
    (fun n b hb ih => execB_closed (closed_noEv L i) (walk_noEv hg (A := ⟨n, envAt G cfg fns n⟩) ih) b (fun _ => hf b hb) none) n

theorem closed_alt (L i : Nat) : Closed (Extends (Alt L i)) (fun e => Alt L i [e]) := closed_extends (mon_alt L i)

theorem try_once (G : Model.Hier.Graph) (cfg : Cfg) (hg : cfg.guarded = true) (A : Act) (i : Nat) (b : Block)
    (cs : Catches) (fin : Block) (hb : mentionsB i b = false) (hc : mentionsC i cs = false)
    (hf : mentionsB i fin = false) (henv : ∀ k, Extends (NoEv A.lvl i) (A.env k))
    (cur : Option Thrown) (tr : List Ev) :
    ∃ ext, (exec G cfg cur A (.try_ i b cs true fin) tr).2 = tr ++ ext ∧
      proj A.lvl i ext = [.enterTry A.lvl i, .enterFinally A.lvl i] := by
  obtain ⟨e1, e2, e3, p1, p2, p3, hs⟩ := tryStmt_shape (mon_noEv A.lvl i) A.lvl i true
    (execB_closed (closed_noEv _ i) (walk_noEv hg henv) b (fun _ => hb) cur)
    (fun x => execC_closed (closed_noEv _ i) (walk_noEv hg henv) cs (fun _ => hc) i 0 x)
    (execB_closed (closed_noEv _ i) (walk_noEv hg henv) fin (fun _ => hf) cur) tr
  refine ⟨[.enterTry A.lvl i] ++ e1 ++ e2 ++ ([.enterFinally A.lvl i] ++ e3), ?_, ?_⟩
  · rw [exec_try hg, hs]; simp only [if_true, List.append_assoc]
  · unfold NoEv at p1 p2 p3
    simp only [proj_append, p1, p2, p3, List.append_nil]
    simp [proj, isTryEv]

theorem walk_alt {G : Model.Hier.Graph} {cfg : Cfg} (hg : cfg.guarded = true) {L i : Nat} {A : Act}
    (henv : ∀ k, Extends (Alt L i) (A.env k)) (hlow : A.lvl = L → ∀ k, Extends (NoEv L i) (A.env k)) :
    Walk (Extends (Alt L i)) (fun e => Alt L i [e]) G cfg A (goodS i · = true) (goodB i · = true) (goodC i · = true) where
  env := henv
  echo _ := alt_of_noEv (noEv_single rfl)
  result _ := alt_of_noEv (noEv_single rfl)
  caught _ _ _ := alt_of_noEv (noEv_single rfl)
  loop h := h
  call h := h
  try_ h := by simp only [goodS_try, Bool.and_eq_true] at h; exact ⟨h.1.1.2, h.1.2, h.2⟩
  block h := by simp only [goodB_cons, Bool.and_eq_true] at h; exact h
  clause h := by simp only [goodC_cons, Bool.and_eq_true] at h; exact h
  tryNode {j b cs hasFin fin cur} h hb hc hf := by
    by_cases hji : A.lvl = L ∧ j = i
    · obtain ⟨hl, rfl⟩ := hji
      simp only [goodS_try, BEq.rfl, if_true, Bool.and_eq_true, Bool.not_eq_true'] at h
      -- `goodS` at the node numbered `i`: it has a finally block (the `rfl` makes `hasFin` `true`) and its parts do not mention `i`
      obtain ⟨⟨⟨⟨⟨⟨rfl, nb⟩, nc⟩, nf⟩, _⟩, _⟩, _⟩ := h
      intro tr
      obtain ⟨ext, h1, h2⟩ := try_once G cfg hg A j b cs fin nb nc nf (hl ▸ hlow hl) cur tr
      exact ⟨ext, h1, by unfold Alt; rw [← hl, h2]; exact ⟨1, rfl⟩⟩
    · exact (closed_alt L i).tryNode hg ⟨alt_of_noEv (noEv_try hji).1, alt_of_noEv (noEv_try hji).2⟩ hb hc hf

theorem exec_alt (G : Model.Hier.Graph) (cfg : Cfg) (hg : cfg.guarded = true) (L i : Nat) (A : Act)
    (henv : ∀ k, Extends (Alt L i) (A.env k)) (hlow : A.lvl = L → ∀ k, Extends (NoEv L i) (A.env k)) :
    ∀ (s : Stmt), goodS i s = true → ∀ cur, Extends (Alt L i) (exec G cfg cur A s) :=
  exec_closed (closed_alt L i) (walk_alt hg henv hlow)

theorem execB_alt (G : Model.Hier.Graph) (cfg : Cfg) (hg : cfg.guarded = true) (L i : Nat) (A : Act)
    (henv : ∀ k, Extends (Alt L i) (A.env k)) (hlow : A.lvl = L → ∀ k, Extends (NoEv L i) (A.env k)) :
    ∀ (b : Block), goodB i b = true → ∀ cur, Extends (Alt L i) (execB G cfg cur A b) :=
  execB_closed (closed_alt L i) (walk_alt hg henv hlow)

theorem execC_alt (G : Model.Hier.Graph) (cfg : Cfg) (hg : cfg.guarded = true) (L i : Nat) (A : Act)
    (henv : ∀ k, Extends (Alt L i) (A.env k)) (hlow : A.lvl = L → ∀ k, Extends (NoEv L i) (A.env k)) :
    ∀ (cs : Catches), goodC i cs = true → ∀ j k x, Extends (Alt L i) (execC G cfg A j k x cs) :=
  execC_closed (closed_alt L i) (walk_alt hg henv hlow)

/-- the nested activations that re-enter the same `try` statement run at other levels -/
theorem envAt_alt (G : Model.Hier.Graph) (cfg : Cfg) (hg : cfg.guarded = true) (fns : List Block) (i : Nat)
    (hf : ∀ b ∈ fns, goodB i b = true) : ∀ (n L : Nat) k, Extends (Alt L i) (envAt G cfg fns n k) :=
  fun n L => envAt_ind (Q := fun _ f => Extends (Alt L i) f) (fun _ o => (closed_alt L i).pure o)
    (fun n b hb ih => execB_alt G cfg hg L i ⟨n, envAt G cfg fns n⟩ ih
      (fun e => envAt_noEv_above G cfg hg fns i n L (by simp at e; omega)) b (hf b hb) none) n

def Uniform (f : List Ev → Res) : Prop := ∃ o ext, ∀ tr, f tr = (o, tr ++ ext)

theorem Uniform.at_nil {f : List Ev → Res} (h : Uniform f) : ∀ tr, f tr = ((f []).1, tr ++ (f []).2) := by
  obtain ⟨o, ext, h⟩ := h
  intro tr
  rw [h tr, h []]
  rfl

theorem closed_uniform : Closed Uniform (fun _ => True) where
  pure o := ⟨o, [], fun tr => by rw [List.append_nil]⟩
  emit _ := ⟨.normal, [_], fun _ => rfl⟩
  bind {f g} hf hg := by
    obtain ⟨o1, e1, h1⟩ := hf
    obtain ⟨o2, e2, h2⟩ := hg o1
    exact ⟨o2, e1 ++ e2, fun tr => by simp only [h1, h2, List.append_assoc]⟩

theorem walk_uniform {G : Model.Hier.Graph} {cfg : Cfg} (hg : cfg.guarded = true) {A : Act} (henv : ∀ k, Uniform (A.env k)) :
    Walk Uniform (fun _ => True) G cfg A (fun _ => True) (fun _ => True) (fun _ => True) where
  env := henv
  echo _ := trivial
  result _ := trivial
  caught _ _ _ := trivial
  loop := id
  call := id
  try_ _ := ⟨trivial, trivial, trivial⟩
  block _ := ⟨trivial, trivial⟩
  clause _ := ⟨trivial, trivial⟩
  tryNode _ := closed_uniform.tryNode hg ⟨trivial, trivial⟩

theorem exec_uni (G : Model.Hier.Graph) (cfg : Cfg) (hg : cfg.guarded = true) (A : Act) (henv : ∀ k, Uniform (A.env k)) :
    ∀ (s : Stmt) (cur : Option Thrown), Uniform (exec G cfg cur A s) :=
  fun s => exec_closed closed_uniform (walk_uniform hg henv) s trivial

theorem execB_uni (G : Model.Hier.Graph) (cfg : Cfg) (hg : cfg.guarded = true) (A : Act) (henv : ∀ k, Uniform (A.env k)) :
    ∀ (b : Block) (cur : Option Thrown), Uniform (execB G cfg cur A b) :=
  fun b => execB_closed closed_uniform (walk_uniform hg henv) b trivial

theorem execC_uni (G : Model.Hier.Graph) (cfg : Cfg) (hg : cfg.guarded = true) (A : Act) (henv : ∀ k, Uniform (A.env k)) :
    ∀ (cs : Catches) (j k : Nat) (x : Thrown), Uniform (execC G cfg A j k x cs) :=
  fun cs => execC_closed closed_uniform (walk_uniform hg henv) cs trivial

theorem envAt_uni (G : Model.Hier.Graph) (cfg : Cfg) (hg : cfg.guarded = true) (fns : List Block) :
    ∀ (n k : Nat), Uniform (envAt G cfg fns n k) :=
  envAt_ind (Q := fun _ => Uniform) (fun _ => closed_uniform.pure)
    (fun n b _ ih => execB_uni G cfg hg ⟨n, envAt G cfg fns n⟩ ih b none)

theorem loopN_repeat {step : List Ev → Res} {o : Out} {ext : List Ev} (h : ∀ tr, step tr = (o, tr ++ ext)) :
    ∀ k tr, loopN step k tr = repeatIter o ext k tr
  | 0, tr => rfl
  | k+1, tr => by
    cases o <;> simp only [loopN_succ, repeatIter, h tr, loopN_repeat h k]

theorem repeatIter_eq (o : Out) (ext : List Ev) :
    ∀ k tr, repeatIter o ext k tr = (loopOutcome o k, tr ++ (List.replicate (iterCount o k) ext).flatten)
  | 0, tr => by cases o <;> simp [repeatIter, loopOutcome, iterCount]
  | k+1, tr => by
    have ih := repeatIter_eq o ext k
    cases o <;> simp [repeatIter, loopOutcome, iterCount, ih, List.replicate_succ]
    all_goals (cases k <;> simp [loopOutcome])

end Proofs.Exc
