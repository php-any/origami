import Spec.Frag
/-! What `C18_fragment_line` needs of UTF-8 and of `fragLine`. -/
namespace Proofs.Frag
open Model.Frag

/-- each byte is a constant `≥ 0x80` plus some bits of the rune -/
theorem encodeRune_high {r : Nat} (h : 0x80 ≤ r) : ∀ b ∈ encodeRune r, 0x80 ≤ b := by
  have nil : ∀ b ∈ ([] : List Nat), 0x80 ≤ b := nofun
  have cons : ∀ (c : Nat) {x : Nat} {l : List Nat}, 0x80 ≤ c → (∀ b ∈ l, 0x80 ≤ b) → ∀ b ∈ (c + x) :: l, 0x80 ≤ b :=
    fun _ _ _ hc hl => List.forall_mem_cons.mpr ⟨Nat.le_trans hc (Nat.le_add_right _ _), hl⟩
  rw [encodeRune, if_neg (Nat.not_lt_of_le h)]
  split
  · exact cons 0xC0 (by decide) (cons 0x80 (by decide) nil)
  split
  · decide -- the replacement character `EF BF BD`, written for a surrogate or a value beyond U+10FFFF
  split
  · exact cons 0xE0 (by decide) (cons 0x80 (by decide) (cons 0x80 (by decide) nil))
  · exact cons 0xF0 (by decide) (cons 0x80 (by decide) (cons 0x80 (by decide) (cons 0x80 (by decide) nil)))

theorem count_nl_encodeRune (r : Nat) : (encodeRune r).count 10 = if r = 10 then 1 else 0 := by
  by_cases h : r < 0x80
  · rw [encodeRune, if_pos h, List.count_singleton]; simp only [beq_iff_eq]
  · rw [if_neg (by omega), List.count_eq_zero]
    exact fun hc => absurd (encodeRune_high (Nat.le_of_not_lt h) 10 hc) (by decide)

theorem encode_append (a b : List Nat) : encode (a ++ b) = encode a ++ encode b := by
  induction a with
  | nil => rfl
  | cons r a ih => rw [List.cons_append, encode, encode, ih, List.append_assoc]

theorem count_nl_encode (rs : List Nat) : (encode rs).count 10 = rs.count 10 := by
  induction rs with
  | nil => rfl
  | cons r rs ih => rw [encode, List.count_append, ih, count_nl_encodeRune, List.count_cons, Nat.add_comm]; simp only [beq_iff_eq]

theorem fragLine_eq (runes : List Nat) (k line : Nat) : fragLine runes k line = line + (runes.take k).count 10 := by
  fun_induction fragLine runes k line with
  | case1 => rw [List.take_nil]; rfl
  | case2 => rfl
  | case3 r rs k line ih =>
    rw [ih, List.take_succ_cons, List.count_cons, Nat.add_comm (List.count ..), ← Nat.add_assoc]
    simp only [beq_iff_eq]
    split <;> rfl

end Proofs.Frag
