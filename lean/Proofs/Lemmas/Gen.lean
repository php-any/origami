import Model.Gen
import Spec.Gen
/-! Lemmas for C19: `buildMap` binds the k-th parameter to the k-th argument; the simulation relation between
the model's live objects and the spec's creation records; every `new` is "resolve the class, then `finish`", so
one lemma (`new_sim`) covers all six kinds. The node cache is handled by an invariant over the REST of the history, `Coh`:
what a node holds is what each operation still to be executed through it would build; `SiteWF` (pairwise: one node, one
text) re-establishes it when a node is filled (`resolveAt_spec`). -/
namespace Proofs.Gen
open Model.Gen Spec.Gen

/-- No class repeats a type-parameter name: a Go map keeps the last binding of a repeated name, the specification reads the
first position. -/
def WF (decls : List Class) : Prop := ∀ c ∈ decls, c.params.Nodup

instance (decls : List Class) : Decidable (WF decls) := by unfold WF; infer_instance

theorem buildMap_isSome (ps : List Nat) (as : List Ty) (m : GMap) :
    (buildMap ps as m).isSome = decide (ps.length ≤ as.length) := by
  fun_induction buildMap ps as m with
  | case1 => simp
  | case2 => simp
  | case3 p ps t ts m ih => simp [ih]

theorem buildMap_get (ps : List Nat) (as : List Ty) (m g : GMap) (hnd : ps.Nodup)
    (h : buildMap ps as m = some g) (n : Nat) :
    g n = if n ∈ ps then as[ps.idxOf n]? else m n := by
  fun_induction buildMap ps as m with
  | case1 => cases h; rfl
  | case2 => cases h
  | case3 p ps t ts m ih =>
    have hnd' := List.nodup_cons.mp hnd
    rw [ih hnd'.2 h]
    by_cases hnp : n = p
    · subst hnp
      simp [hnd'.1, GMap.set]
    · have hpn : (p == n) = false := beq_false_of_ne (Ne.symm hnp)
      by_cases hmem : n ∈ ps <;> simp [hmem, hnp, hpn, List.idxOf_cons, GMap.set]

/-- A live object of the model corresponds to a creation record of the spec. -/
def R (decls : List Class) (o : Inst) (r : Creation) : Prop :=
  o.cls = r.cls ∧ ∃ c, decls[r.cls]? = some c ∧
    match r.args with
    | none => ∀ n, o.gmap n = none
    | some args => ∀ n, o.gmap n = argOf c.params args n

/-- The state stands for the list of creation records. -/
structure Rel (decls : List Class) (s : State) (objs : List Creation) : Prop where
  classes : s.classes = decls
  len : s.insts.length = objs.length
  rel : ∀ (i : Nat) (o : Inst) (r : Creation), s.insts[i]? = some o → objs[i]? = some r → R decls o r

theorem rel_init (decls : List Class) : Rel decls (init decls) [] :=
  ⟨rfl, rfl, fun _ _ _ _ h => nomatch h⟩

theorem Rel.cache {decls s objs} (h : Rel decls s objs) (k : Nat → Option Inst) :
    Rel decls { s with cache := k } objs :=
  ⟨h.classes, h.len, h.rel⟩

theorem Rel.snoc {decls s objs} (h : Rel decls s objs) (o : Inst) (r : Creation) (hr : R decls o r) :
    Rel decls { s with insts := s.insts ++ [o] } (objs ++ [r]) := by
  refine ⟨h.classes, by simp [h.len], fun i o' r' ho hr' => ?_⟩
  rw [List.getElem?_append] at ho hr'
  rw [← h.len] at hr'
  by_cases hi : i < s.insts.length
  · rw [if_pos hi] at ho hr'
    exact h.rel i o' r' ho hr'
  · rw [if_neg hi] at ho hr'
    cases hk : i - s.insts.length with
    | zero => rw [hk] at ho hr'; cases ho; cases hr'; exact hr
    | succ k => rw [hk] at ho; cases ho

theorem Rel.get {decls s objs} (h : Rel decls s objs) (i : Nat) :
    (s.insts[i]? = none ∧ objs[i]? = none) ∨
      ∃ o r c, s.insts[i]? = some o ∧ objs[i]? = some r ∧ R decls o r ∧
        s.classes[o.cls]? = some c ∧ decls[r.cls]? = some c := by
  cases ho : s.insts[i]? with
  | none => exact .inl ⟨rfl, by rw [List.getElem?_eq_none_iff] at ho ⊢; exact h.len ▸ ho⟩
  | some o =>
    have hi : i < objs.length := h.len ▸ (List.getElem?_eq_some_iff.mp ho).1
    have hR := h.rel i o objs[i] ho (List.getElem?_eq_getElem hi)
    obtain ⟨hcls, c, hc, _⟩ := id hR
    exact .inr ⟨o, _, c, rfl, List.getElem?_eq_getElem hi, hR, by rw [h.classes, hcls]; exact hc, hc⟩

/-- The check that `accepts` (members) and `takes` (method parameters) both make for type parameter `n`. -/
theorem R.check {decls : List Class} {o : Inst} {r : Creation} (hr : R decls o r) {c : Class}
    (hc : decls[r.cls]? = some c) (n : Nat) (v : Val) :
    check (o.gmap n) v =
      match r.args with
      | none => true
      | some args =>
        match argOf c.params args n with
        | none => true
        | some t => t.accepts v := by
  obtain ⟨rc, ra⟩ := r
  obtain ⟨_, c', hc', hm⟩ := hr
  cases hc.symm.trans hc'
  cases ra with
  | none => rw [hm n]; rfl
  | some args => rw [hm n]; dsimp only; cases argOf c.params args n <;> rfl

theorem writeOut_eq {decls s objs} (h : Rel decls s objs) (i p : Nat) (v : Val) :
    Model.Gen.writeOut s i p v = Spec.Gen.writeOut decls objs i p v := by
  unfold Model.Gen.writeOut Spec.Gen.writeOut
  rcases h.get i with ⟨ho, hr⟩ | ⟨o, r, c, ho, hr, hR, hc, hc'⟩
  · rw [ho, hr]
  · simp only [ho, hr, hc, accepts, hc', getProperty]
    cases c.props[p]? with
    | none => rfl
    | some d =>
      cases d with
      | untyped => rfl
      | conc t => rfl
      | generic n => exact congrArg (if · = true then Out.accepted else Out.rejected) (hR.check hc' n v)

theorem callOut_eq {decls s objs} (h : Rel decls s objs) (i n : Nat) (v : Val) :
    Model.Gen.callOut s i n v = outOf decls objs (.call i n v) := by
  simp only [Model.Gen.callOut, outOf]
  rcases h.get i with ⟨ho, hr⟩ | ⟨o, r, c, ho, hr, hR, hc, hc'⟩
  · rw [ho, hr]
  · simp only [ho, hr, hc, hc', takes, GMap.get, hR.check hc' n v]
    -- `null` passes on both sides, any other value meets the same check
    by_cases hv : v = Val.null
    · simp [hv]
    · simp [hv]; rfl

/-- The node an operation is executed through and the text of that node (class, written type arguments). -/
def siteKey : Op → Option (Nat × Nat × Option (List Ty))
  | .instAt s c a => some (s, c, some a)
  | .instRawAt s c => some (s, c, none)
  | .instCtorAt s c a _ _ => some (s, c, some a)
  | _ => none

def compat (a b : Op) : Bool :=
  match siteKey a, siteKey b with
  | some (s, k), some (s', k') => s != s' || k == k'
  | _, _ => true

/-- A history is a run of a program: every node has one text (`new C<args>` written once, executed
any number of times). -/
def SiteWF (h : List Op) : Prop := h.Pairwise (fun a b => compat a b = true)

instance (h : List Op) : Decidable (SiteWF h) := by unfold SiteWF; infer_instance

/-- What the nodes hold agrees with what the nodes still to be executed would compute. -/
def Coh (decls : List Class) (cache : Nat → Option Inst) (rest : List Op) : Prop :=
  ∀ o ∈ rest, ∀ s c a, siteKey o = some (s, c, a) → ∀ i, cache s = some i → build decls c a = .ok i

theorem coh_tail {decls cache o os} (h : Coh decls cache (o :: os)) : Coh decls cache os :=
  fun o' ho' => h o' (List.mem_cons_of_mem _ ho')

theorem resolveAt_spec {decls : List Class} {s : State} (hcl : s.classes = decls) {o : Op} {os : List Op}
    {site c : Nat} {a : Option (List Ty)} (hk : siteKey o = some (site, c, a))
    (hwf : SiteWF (o :: os)) (hcoh : Coh decls s.cache (o :: os)) :
    ∃ k, resolveAt s site c a = ({ s with cache := k }, build decls c a) ∧ Coh decls k os := by
  subst hcl
  -- cases: 1 the node holds `i`; it is empty and `build` gives 2 `.ok i`, 3 `.crash`, 4 `.noClass`
  fun_cases resolveAt s site c a with
  | case1 i hc => exact ⟨s.cache, by rw [hcoh o List.mem_cons_self site c a hk i hc], coh_tail hcoh⟩
  | case2 i hc hb =>
    refine ⟨_, by rw [hb], fun o' ho' s' c' a' hk' i' hi' => ?_⟩
    -- a later operation through this node has this node's text, so it would build `i` as well
    by_cases hs : s' = site
    · subst hs
      have hcomp := (List.pairwise_cons.mp hwf).1 o' ho'
      simp only [compat, hk, hk', bne_self_eq_false, Bool.false_or, beq_iff_eq, Prod.mk.injEq] at hcomp
      obtain ⟨rfl, rfl⟩ := hcomp
      rw [hb, ← Option.some.inj ((if_pos rfl).symm.trans hi')]
    · exact hcoh o' (List.mem_cons_of_mem _ ho') s' c' a' hk' i' ((if_neg hs).symm.trans hi')
  | case3 hc hb => exact ⟨s.cache, by rw [hb], coh_tail hcoh⟩
  | case4 hc hb => exact ⟨s.cache, by rw [hb], coh_tail hcoh⟩

/-- What every `new` does with the class it resolved; `w` is the constructor's store (`fun _ _ => .accepted` where there is
none). -/
def finish (w : State → Nat → Out) : State × Built → State × Out
  | (s, .noClass) => (s, .noClass)
  | (s, .crash) => (s, .crash)
  | (s, .ok o) =>
    let s' : State := { s with insts := s.insts ++ [o] }
    match w s' s.insts.length with
    | .rejected => (s, .rejected)
    | _ => (s', .created s.insts.length)

theorem step_inst (s : State) (c : Nat) (args : List Ty) :
    step s (.inst c args) = finish (fun _ _ => .accepted) (s, build s.classes c (some args)) := by
  simp only [step, build]
  cases s.classes[c]? with
  | none => rfl
  | some cl => dsimp only; cases buildMap cl.params args GMap.empty <;> rfl

theorem step_instRaw (s : State) (c : Nat) :
    step s (.instRaw c) = finish (fun _ _ => .accepted) (s, build s.classes c none) := by
  simp only [step, build]
  cases s.classes[c]? <;> rfl

theorem step_instCtor (s : State) (c : Nat) (args : List Ty) (p : Nat) (v : Val) :
    step s (.instCtor c args p v) =
      finish (fun s i => Model.Gen.writeOut s i p v) (s, build s.classes c (some args)) := by
  simp only [step, build]
  cases s.classes[c]? with
  | none => rfl
  | some cl => dsimp only; cases buildMap cl.params args GMap.empty <;> rfl

/-- Outcome and creation record the specification gives a `new` with text `(c, a)` as the `n`-th object, when it accepts the
constructor's store iff `acc`: the text of `outOf` and `creates`, so that each kind of `new` is an instance by `rfl`. -/
def specNew (decls : List Class) (n c : Nat) (a : Option (List Ty)) (acc : Bool) : Out × Option Creation :=
  match a with
  | none =>
    (match decls[c]? with
      | none => .noClass
      | some _ => if acc then .created n else .rejected,
     if (decls[c]?).isSome then (if acc then some ⟨c, none⟩ else none) else none)
  | some args =>
    (match decls[c]? with
      | none => .noClass
      | some cl =>
        if cl.params.length ≤ args.length then (if acc then .created n else .rejected) else .crash,
     if arityOk decls c args && acc then some ⟨c, some args⟩ else none)

/-- Without a constructor `acc` is `true`, and `b && true` is not `b` by computation; the other kinds are `rfl`. -/
theorem spec_inst (decls : List Class) (objs : List Creation) (c : Nat) (a : List Ty) :
    (outOf decls objs (.inst c a), creates decls (.inst c a)) = specNew decls objs.length c (some a) true :=
  congrArg (Prod.mk _) (by rw [Bool.and_true]; rfl)

/-- What `build` hands out decides what the specification says of the `new`. -/
theorem build_spec {decls : List Class} (hwf : WF decls) (n c : Nat) (a : Option (List Ty)) (acc : Bool) :
    match build decls c a with
    | .noClass => specNew decls n c a acc = (.noClass, none)
    | .crash => specNew decls n c a acc = (.crash, none)
    | .ok i => R decls i ⟨c, a⟩ ∧
        specNew decls n c a acc = (if acc then .created n else .rejected, if acc then some ⟨c, a⟩ else none) := by
  -- cases: raw `new C()`: 1 no class, 2 class `cl`; written arguments: 3 no class, 4 an argument missing, 5 the map `g`
  fun_cases build decls c a with
  | case1 hc => simp only [specNew, hc]; rfl
  | case2 cl hc => exact ⟨⟨rfl, cl, hc, fun _ => rfl⟩, by simp only [specNew, hc]; rfl⟩
  | case3 args hc => simp only [specNew, arityOk, hc]; rfl
  | case4 args cl hc hg =>
    have hl : ¬ cl.params.length ≤ args.length :=
      of_decide_eq_false ((buildMap_isSome ..).symm.trans (congrArg Option.isSome hg))
    simp only [specNew, arityOk, hc]
    rw [if_neg hl, decide_eq_false hl]; rfl
  | case5 args cl hc g hg =>
    have hl : cl.params.length ≤ args.length :=
      of_decide_eq_true ((buildMap_isSome ..).symm.trans (congrArg Option.isSome hg))
    refine ⟨⟨rfl, cl, hc, buildMap_get cl.params args GMap.empty g (hwf cl (List.mem_of_getElem? hc)) hg⟩, ?_⟩
    simp only [specNew, arityOk, hc]
    rw [if_pos hl, decide_eq_true hl]; rfl

/-- The step of `Spec.Gen.runFrom` on the object list. -/
def push (decls : List Class) (objs : List Creation) (o : Op) : List Creation :=
  match creates decls o with
  | some r => objs ++ [r]
  | none => objs

theorem writeOut_new {decls s objs} (h : Rel decls s objs) {i : Inst} {r : Creation} (hR : R decls i r)
    (p : Nat) (v : Val) :
    Model.Gen.writeOut { s with insts := s.insts ++ [i] } s.insts.length p v =
      if accepts decls r p v then Out.accepted else Out.rejected := by
  rw [writeOut_eq (h.snoc i r hR), h.len]
  simp [Spec.Gen.writeOut]

/-- One `new`, in the shape all six kinds share. `s'` is `s` after the node was consulted (`s' = s` for the
un-sited kinds). -/
theorem new_sim {decls : List Class} (hwf : WF decls) {s s' : State} {objs : List Creation}
    (h : Rel decls s' objs) {o : Op} {os : List Op} (hcoh : Coh decls s'.cache os) (c : Nat)
    (a : Option (List Ty)) (w : State → Nat → Out) (acc : Bool)
    (hstep : step s o = finish w (s', build decls c a))
    (hspec : (outOf decls objs o, creates decls o) = specNew decls objs.length c a acc)
    (hw : ∀ i, R decls i ⟨c, a⟩ →
      w { s' with insts := s'.insts ++ [i] } s'.insts.length = if acc then Out.accepted else Out.rejected) :
    (step s o).2 = outOf decls objs o ∧ Rel decls (step s o).1 (push decls objs o) ∧
      Coh decls (step s o).1.cache os := by
  rw [hstep, push]
  have hb := build_spec hwf objs.length c a acc
  rw [← hspec] at hb  -- `hb` gives outcome and creation record of `o` for each answer of `build`
  cases hbc : build decls c a with
  | noClass =>
    rw [hbc] at hb; obtain ⟨hout, hcr⟩ := Prod.mk.inj hb
    rw [hout, hcr]; exact ⟨rfl, h, hcoh⟩
  | crash =>
    rw [hbc] at hb; obtain ⟨hout, hcr⟩ := Prod.mk.inj hb
    rw [hout, hcr]; exact ⟨rfl, h, hcoh⟩
  | ok i =>
    rw [hbc] at hb; obtain ⟨hR, hb⟩ := hb; obtain ⟨hout, hcr⟩ := Prod.mk.inj hb
    rw [hout, hcr]
    simp only [finish, hw i hR]
    cases acc with
    | false => exact ⟨rfl, h, hcoh⟩
    | true => exact ⟨congrArg _ h.len, h.snoc i _ hR, hcoh⟩

theorem step_sim {decls : List Class} {s : State} {objs : List Creation} (hwf : WF decls)
    (h : Rel decls s objs) (o : Op) (os : List Op) (hs : SiteWF (o :: os))
    (hcoh : Coh decls s.cache (o :: os)) :
    (step s o).2 = outOf decls objs o ∧ Rel decls (step s o).1 (push decls objs o) ∧
      Coh decls (step s o).1.cache os := by
  cases o with
  | write i p v => exact ⟨writeOut_eq h i p v, h, coh_tail hcoh⟩
  | call i n v => exact ⟨callOut_eq h i n v, h, coh_tail hcoh⟩
  | read i p =>
    simp only [step, outOf, push, creates]
    rcases h.get i with ⟨ho, hr⟩ | ⟨o, r, c, ho, hr, _⟩
    · rw [ho, if_neg (Nat.not_lt.mpr (List.getElem?_eq_none_iff.mp hr))]; exact ⟨rfl, h, coh_tail hcoh⟩
    · rw [ho, if_pos (List.getElem?_eq_some_iff.mp hr).1]; exact ⟨rfl, h, coh_tail hcoh⟩
  | inst c a =>
    exact new_sim hwf h (coh_tail hcoh) c (some a) _ true (h.classes ▸ step_inst s c a) (spec_inst ..)
      (fun _ _ => rfl)
  | instRaw c =>
    exact new_sim hwf h (coh_tail hcoh) c none _ true (h.classes ▸ step_instRaw s c) rfl
      (fun _ _ => rfl)
  | instCtor c a p v =>
    exact new_sim hwf h (coh_tail hcoh) c (some a) _ _ (h.classes ▸ step_instCtor s c a p v)
      rfl (fun _ hR => writeOut_new h hR p v)
  -- through a node, `step` is by definition `finish` of what `resolveAt` hands out; the specification does not look
  -- at the node: its text for these operations is that of the un-sited ones, and `spec_inst` holds as it stands
  | instAt k c a =>
    obtain ⟨ch, hres, hch⟩ := resolveAt_spec h.classes rfl hs hcoh
    exact new_sim hwf (h.cache ch) hch c (some a) (fun _ _ => .accepted) true (hres ▸ rfl) (spec_inst ..)
      (fun _ _ => rfl)
  | instRawAt k c =>
    obtain ⟨ch, hres, hch⟩ := resolveAt_spec h.classes rfl hs hcoh
    exact new_sim hwf (h.cache ch) hch c none (fun _ _ => .accepted) true (hres ▸ rfl) rfl
      (fun _ _ => rfl)
  | instCtorAt k c a p v =>
    obtain ⟨ch, hres, hch⟩ := resolveAt_spec h.classes rfl hs hcoh
    exact new_sim hwf (h.cache ch) hch c (some a) (fun s i => Model.Gen.writeOut s i p v) _ (hres ▸ rfl)
      rfl (fun _ hR => writeOut_new (h.cache ch) hR p v)

theorem runFrom_sim {decls : List Class} (hwf : WF decls) (h : List Op) :
    ∀ (s : State) (objs : List Creation), Rel decls s objs → SiteWF h → Coh decls s.cache h →
      (Model.Gen.runFrom s h).2 = Spec.Gen.runFrom decls objs h ∧
      Rel decls (Model.Gen.runFrom s h).1 (objs ++ created decls h) := by
  induction h with
  | nil => intro s objs hr _ _; simp [Model.Gen.runFrom, Spec.Gen.runFrom, created, hr]
  | cons o os ih =>
    intro s objs hr hs hcoh
    obtain ⟨h1, h2, hc⟩ := step_sim hwf hr o os hs hcoh
    obtain ⟨h3, h4⟩ := ih (step s o).1 (push decls objs o) h2 (List.pairwise_cons.mp hs).2 hc
    have : push decls objs o ++ created decls os = objs ++ created decls (o :: os) := by
      unfold push created
      cases hcr : creates decls o <;> simp [hcr]
    exact ⟨congr (congrArg List.cons h1) h3, this ▸ h4⟩

theorem run_sim {decls : List Class} (hwf : WF decls) (h : List Op) (hs : SiteWF h) :
    (Model.Gen.run decls h).2 = Spec.Gen.run decls h ∧
      Rel decls (Model.Gen.run decls h).1 (created decls h) :=
  List.nil_append (created decls h) ▸
    runFrom_sim hwf h (init decls) [] (rel_init decls) hs (fun _ _ _ _ _ _ _ hi => nomatch hi)

theorem created_mid {decls : List Class} {o : Op} {r : Creation} (ho : creates decls o = some r)
    (pre post : List Op) :
    created decls (pre ++ o :: post) = created decls pre ++ r :: created decls post := by
  simp [created, List.filterMap_append, ho]

theorem created_at {decls : List Class} {o : Op} {r : Creation} (ho : creates decls o = some r)
    (pre post : List Op) : (created decls (pre ++ o :: post))[(created decls pre).length]? = some r := by
  rw [created_mid ho, List.getElem?_append_right (Nat.le_refl _), Nat.sub_self]
  rfl

theorem creates_arity {decls : List Class} {o : Op} {c : Nat} {args : List Ty}
    (ho : creates decls o = some ⟨c, some args⟩) : arityOk decls c args = true := by
  revert ho
  -- only `inst` (case1), `instCtor` (case5), `instAt` (case10), `instCtorAt` (case14), each with its test `h` passed, give a
  -- record with written arguments
  fun_cases creates decls o <;> intro ho <;> cases ho
  case case1 h | case10 h => exact h
  case case5 h | case14 h => exact (Bool.and_eq_true _ _ ▸ h).1

end Proofs.Gen
