import Model.GenFacts
/-!
The invariants behind the generic theorems of the tie (`Model.GenFacts`). A: `TInv` (every class object memoises in a
table of its own) and the key invariant of a memoised `Clone`; C: `Clean` (a node read back holds nothing or its own
class), with `nodeRuns_bad` for a node that forgets; D: the loop of `resolveClass` with the identity index map is
`buildMap`; F: the two binding loops in closed form. The theorems on lookups and sites (E) need no lemma and stand in
the property file, as do the negation witnesses.
-/
namespace Proofs.GenFacts
open Model.Gen Model.GenFacts

/-- When `Clone` gives every class object a table of its own, object `i` memoises in table `i`, and what a
table holds is what `getProperty` computes from that object's own map. -/
structure TInv (c : Class) (h : Heap) (gs : List GMap) : Prop where
  next : h.next = gs.length
  objs : h.objs = gs.mapIdx fun i g => ⟨g, i⟩
  sound : ∀ k p t, h.cells k p = some t → ∃ g, gs[k]? = some g ∧ getProperty c g p = some t

theorem tinv_init (c : Class) : TInv c tinit [GMap.empty] :=
  ⟨rfl, rfl, fun _ _ _ h => nomatch h⟩

theorem tinv_clone {c : Class} {h : Heap} {gs : List GMap} (memo : Bool) (inv : TInv c h gs) (g : GMap) :
    TInv c (tstep false memo c h (.clone g)).1 (gs ++ [g]) := by
  simp only [tstep, Bool.false_eq_true, if_false]
  refine ⟨by simp [inv.next], by simp [inv.objs, inv.next, List.mapIdx_append], fun k p t hc => ?_⟩
  obtain ⟨g', hg, hp⟩ := inv.sound k p t hc
  exact ⟨g', by rw [List.getElem?_append_left (List.getElem?_eq_some_iff.mp hg).1]; exact hg, hp⟩

theorem tstep_lookup {c : Class} {h : Heap} {gs : List GMap} (memo : Bool) (inv : TInv c h gs) (i p : Nat) :
    TInv c (tstep false memo c h (.lookup i p)).1 gs ∧
      (tstep false memo c h (.lookup i p)).2 = (gs[i]?).map (fun g => getProperty c g p) := by
  have ho : h.objs[i]? = (gs[i]?).map (fun g => ⟨g, i⟩) := by rw [inv.objs, List.getElem?_mapIdx]
  simp only [tstep, ho]
  cases hg : gs[i]? with
  | none => exact ⟨inv, rfl⟩
  | some g =>
    cases memo with
    | false => exact ⟨inv, rfl⟩
    | true =>
      simp only [Option.map_some, if_true]
      cases hc : h.cells i p with
      | some t =>
        obtain ⟨g', hg', hp⟩ := inv.sound i p t hc
        cases hg.symm.trans hg'
        exact ⟨inv, by rw [hp]⟩
      | none =>
        cases hp : getProperty c g p with
        | none => exact ⟨inv, rfl⟩
        | some t =>
          refine ⟨⟨inv.next, inv.objs, fun k q t' hc' => ?_⟩, rfl⟩
          by_cases he : k = i ∧ q = p
          · cases (if_pos he).symm.trans hc'
            exact ⟨g, he.1 ▸ hg, he.2 ▸ hp⟩
          · exact inv.sound k q t' ((if_neg he).symm.trans hc')

theorem trun_sim {c : Class} (memo : Bool) (ops : List TOp) : ∀ {h : Heap} {gs : List GMap}, TInv c h gs →
    (trun false memo c h ops).2 = tspec c gs ops := by
  induction ops with
  | nil => intro h gs _; rfl
  | cons o os ih =>
    intro h gs inv
    cases o with
    | clone g => exact congrArg (none :: ·) (ih (tinv_clone memo inv g))
    | lookup i p =>
      obtain ⟨inv', ha⟩ := tstep_lookup memo inv i p
      exact congr (congrArg List.cons ha) (ih inv')

/-- A memo whose key separates argument lists is invisible: every request gets its own arguments. Invariant along the
requests: every entry of the table is filed under the key of its own arguments. -/
theorem cloneRun_of_injective_key {K : Type} [DecidableEq K] (key : List Ty → K) (hinj : ∀ a b, key a = key b → a = b)
    (reqs : List (List Ty)) : ∀ (tbl : List (K × List Ty)), (∀ e ∈ tbl, e.1 = key e.2) →
      cloneRun key tbl reqs = reqs := by
  induction reqs with
  | nil => intro _ _; rfl
  | cons a as ih =>
    intro tbl htbl
    simp only [cloneRun, cloneVia]
    cases hf : tbl.find? (fun e => e.1 = key a) with
    | some e =>
      have hk : e.1 = key a := by simpa using List.find?_some hf
      simp only [ih tbl htbl, hinj _ _ ((htbl e (List.mem_of_find?_eq_some hf)).symm.trans hk)]
    | none => exact congrArg (a :: ·) (ih _ (List.forall_mem_cons.mpr ⟨rfl, htbl⟩))

/-- What a node may hold when its resolver reads it back: nothing, or the class its own text denotes. -/
def Clean {α : Type} (r : Resolver) (spec : α) (cache : Option α) : Prop :=
  r.cacheRead = true → cache = none ∨ cache = some spec

theorem execNode_ok {α : Type} (r : Resolver) (hr : r.ok = true) (raw spec : α) (cache : Option α)
    (hc : Clean r spec cache) :
    (execNode r raw spec cache).1 = spec ∧ Clean r spec (execNode r raw spec cache).2 := by
  unfold Clean at hc ⊢
  unfold execNode
  unfold Resolver.ok at hr
  cases hcr : r.cacheRead
  · simp
  -- a resolver that reads the node back stores what it returns or nothing (`hr`), so a clean node hands out
  -- `spec` and stays clean
  · rcases hc hcr with hc | hc <;> subst hc <;> cases hst : r.stored <;> simp_all

theorem nodeRuns_ok {α : Type} (r : Resolver) (hr : r.ok = true) (raw spec : α) (n : Nat) :
    ∀ (cache : Option α), Clean r spec cache → ∀ x ∈ nodeRuns r raw spec n cache, x = spec := by
  induction n with
  | zero => intro _ _ x hx; simp [nodeRuns] at hx
  | succ n ih =>
    intro cache hc x hx
    obtain ⟨h1, h2⟩ := execNode_ok r hr raw spec cache hc
    rcases List.mem_cons.mp hx with rfl | hx
    · exact h1
    · exact ih _ h2 x hx

/-- An ill-formed resolver reads back what a callee left in the node: the second execution gets the registered
class. -/
theorem nodeRuns_bad {α : Type} (r : Resolver) (hr : r.ok = false) (raw spec : α) :
    nodeRuns r raw spec 2 none = [spec, raw] := by
  unfold Resolver.ok at hr
  cases hcr : r.cacheRead <;> cases hst : r.stored <;> simp_all [nodeRuns, execNode]

theorem applyChain_nil {N : Type} (sem : NameStep → N → N) (a : N) : applyChain sem [] a = a := rfl

theorem buildMapIx_id (args : List Ty) (ps : List Nat) (i : Nat) (m : GMap) :
    buildMapIx (fun k => k) args ps i m = buildMap ps (args.drop i) m := by
  fun_induction buildMapIx (fun k => k) args ps i m with
  | case1 => simp [buildMap]
  | case2 p ps i m h => rw [List.drop_eq_nil_iff.mpr (List.getElem?_eq_none_iff.mp h)]; rfl
  | case3 p ps i m t h ih =>
    obtain ⟨hlt, rfl⟩ := List.getElem?_eq_some_iff.mp h
    rw [List.drop_eq_getElem_cons hlt]
    exact ih

theorem bindEach_refused (args : List Arg) : (bindEach args).1 = args.any argRefused := by
  fun_induction bindEach args with
  | case1 => rfl
  | case2 a as h => simp [h]
  | case3 a as h ih => simp [h, ih]

theorem bindEach_bound (args : List Arg) (h : (bindEach args).1 = false) :
    (bindEach args).2 = args.map (fun _ => true) := by
  fun_induction bindEach args with
  | case1 => rfl
  | case2 a as ha => cases h
  | case3 a as ha ih => simp [ih h]

theorem bindLastGo_eq (ctl : Bool) (args : List Arg) :
    bindLastGo ctl args = (match args.getLast? with | none => ctl | some a => argRefused a) := by
  fun_induction bindLastGo ctl args with
  | case1 => rfl
  | case2 ctl a as ih =>
    rw [ih]
    cases as with
    | nil => rfl
    | cons b bs =>
      rw [List.getLast?_cons_cons]
      cases h : (b :: bs).getLast? with
      | none => simp at h
      | some x => rfl

/-- a position the single-variable loop forgets: refused, not last, everything after it fine -/
def forgotten : List Arg := [(some .int, .string), (some .string, .string)]

end Proofs.GenFacts
