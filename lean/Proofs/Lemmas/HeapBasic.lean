import Model.Heap
import Spec.Val
import Proofs.Lemmas.WSum
import Proofs.Lemmas.StableSort
/-!
C06, the slot list of one array. Forgetting identities (`eraseL`) commutes with every list-level
operation (`storeAct`, `unsetKey`, `applyMeth`); a store sets one slot or appends one and sorting
permutes, the two shapes that counting identities needs. The lemmas on where the slot values of a
result come from (`Act.slots`, `ValsFrom`, `*_vals`, `mem_aidsL`, `innerAids_sub`) stand for themselves: no proof uses
them, the simulation counts identities (`vcnt`).
-/
namespace Proofs.Heap
open Model.Heap Spec.Val

theorem eraseL_map (l : List Slot) : eraseL l = l.map (fun x => (x.2.1, eraseVal x.2.2)) := by
  induction l with
  | nil => rfl
  | cons h t ih => obtain ⟨c, k, v⟩ := h; simp [eraseL, ih]

@[simp] theorem eraseL_length (l : List Slot) : (eraseL l).length = l.length := by
  simp [eraseL_map]

@[simp] theorem tkeys_eraseL (l : List Slot) : tkeys (eraseL l) = keys l := by
  simp [tkeys, keys, eraseL_map, List.map_map, Function.comp_def]

theorem eraseL_append (a b : List Slot) : eraseL (a ++ b) = eraseL a ++ eraseL b := by
  simp [eraseL_map]

theorem eraseL_getElem? (l : List Slot) (j : Nat) :
    (eraseL l)[j]? = (l[j]?).map (fun x => (x.2.1, eraseVal x.2.2)) := by
  simp [eraseL_map]

theorem eraseL_set (l : List Slot) (j : Nat) (x : Slot) :
    eraseL (l.set j x) = (eraseL l).set j (x.2.1, eraseVal x.2.2) := by
  simp [eraseL_map, List.map_set]

theorem eraseL_eraseIdx (l : List Slot) (j : Nat) : eraseL (l.eraseIdx j) = (eraseL l).eraseIdx j := by
  simp only [eraseL_map, map_eraseIdx]

theorem eraseL_dropLast (l : List Slot) : eraseL l.dropLast = (eraseL l).dropLast := by
  simp [eraseL_map]

theorem eraseL_tail (l : List Slot) : eraseL l.tail = (eraseL l).tail := by
  simp [eraseL_map]

theorem erase_storeSlot (l : List Slot) (j cid : Nat) (v : Val) :
    eraseL (storeSlot l j cid v) = setVal (eraseL l) j (eraseVal v) := by
  unfold storeSlot setVal
  rw [eraseL_getElem?]
  cases h : l[j]? with
  | none => simp
  | some x => obtain ⟨c, k, w⟩ := x; simp [eraseL_set]

def Act.slots (l : List Slot) : Act → List Slot
  | .list l' => l'
  | .cell _ _ => l

/-- the arms are those of `storeAct`: `[] =`; an int key found, at `i = length` (append), beyond it (appended under the name `i`), below it over a named
slot (overwritten by position); a name found, new -/
theorem storeAct_fixed (l : List Slot) (k : Option IKey) (cid : Nat) (v : Val) :
    ∃ l', storeAct .fixed l k cid v = .list l' ∧ eraseL l' = store (eraseL l) k (eraseVal v) ∧
      ((∃ j key, l' = l.set j (cid, key, v)) ∨ ∃ key, l' = l ++ [(cid, key, v)]) := by
  have hit : ∀ j, ∃ l', hitAct .fixed l j cid v = .list l' ∧ eraseL l' = setVal (eraseL l) j (eraseVal v) ∧
      ((∃ j key, l' = l.set j (cid, key, v)) ∨ ∃ key, l' = l ++ [(cid, key, v)]) := fun j => by
    refine ⟨_, rfl, erase_storeSlot l j cid v, .inl ⟨j, ?_⟩⟩
    unfold storeSlot
    cases hl : l[j]? with
    | none => exact ⟨.pos, (List.set_eq_of_length_le (by simpa using hl)).symm⟩
    | some sl => exact ⟨sl.2.1, rfl⟩
  have app : ∀ key, eraseL (l ++ [(cid, key, v)]) = eraseL l ++ [(key, eraseVal v)] := fun key => by
    simp [eraseL_append, eraseL]
  unfold storeAct store
  simp only [tkeys_eraseL, eraseL_length]
  rcases k with _ | i | s
  · exact ⟨_, rfl, app _, .inr ⟨_, rfl⟩⟩
  · simp only [setIntKey]
    cases Keys.findInt i (keys l) with
    | some j => exact hit j
    | none =>
      by_cases h1 : i = l.length
      · simp only [if_pos h1]; exact ⟨_, rfl, app _, .inr ⟨_, rfl⟩⟩
      · by_cases h2 : l.length < i
        · simp only [if_neg h1, if_pos h2]; exact ⟨_, rfl, app _, .inr ⟨_, rfl⟩⟩
        · simp only [if_neg h1, if_neg h2]; exact ⟨_, rfl, eraseL_set .., .inl ⟨_, _, rfl⟩⟩
  · simp only [setNamedKey]
    cases Keys.findKey (.str s) (keys l) with
    | some j => exact hit j
    | none => exact ⟨_, rfl, app _, .inr ⟨_, rfl⟩⟩

theorem erase_normFrom (j cid0 : Nat) (l : List Slot) :
    eraseL (Model.Heap.normFrom j cid0 l) = Spec.Val.normFrom j (eraseL l) := by
  induction l generalizing j with
  | nil => rfl
  | cons h t ih =>
    obtain ⟨c, k, v⟩ := h
    by_cases hk : k = .pos <;> simp [Model.Heap.normFrom, Spec.Val.normFrom, eraseL, hk, ih]

theorem erase_unsetKey (l : List Slot) (k : IKey) (cid0 : Nat) :
    eraseL (unsetKey l k cid0).1 = unsetK (eraseL l) k := by
  cases k with
  | int i =>
    simp only [unsetKey, unsetK]
    rw [← erase_normFrom 0 cid0 l, tkeys_eraseL]
    cases Keys.findKey (.int i) (keys (Model.Heap.normFrom 0 cid0 l)) with
    | none => rfl
    | some j => simp [eraseL_eraseIdx]
  | str s =>
    simp only [unsetKey, unsetK, tkeys_eraseL]
    cases Keys.findKey (.str s) (keys l) with
    | none => rfl
    | some j => simp [eraseL_eraseIdx]

theorem rank_erase (v : Val) : (eraseVal v).rank = v.rank := by
  cases v with
  | sc s => cases s <;> simp [eraseVal, Val.rank, Tree.rank]
  | arr a kids => simp [eraseVal, Val.rank, Tree.rank]

theorem erase_insSlot (x : Slot) (l : List Slot) :
    eraseL (insSlot x l) = insEntry (x.2.1, eraseVal x.2.2) (eraseL l) := by
  -- both insertions are merges of a singleton, and erasing keeps the rank they compare; no sortedness is
  -- needed anywhere in C06 (model and reference semantics share the sort), only this and `sortSlots_perm`
  rw [StableSort.eq_merge (f := insSlot) (fun _ => rfl) (fun _ _ _ => rfl),
    StableSort.eq_merge (f := insEntry) (fun _ => rfl) (fun _ _ _ => rfl), eraseL_map, eraseL_map, List.map_merge]
  · rfl
  · exact fun a _ b _ => by rw [rank_erase, rank_erase]

theorem erase_sortSlots (l : List Slot) : eraseL (sortSlots l) = sortEntries (eraseL l) := by
  unfold sortSlots sortEntries
  suffices h : ∀ acc : List Slot, eraseL (l.foldl (fun acc x => insSlot x acc) acc) =
      (eraseL l).foldl (fun acc x => insEntry x acc) (eraseL acc) from h []
  induction l with
  | nil => intro acc; rfl
  | cons x t ih =>
    intro acc
    obtain ⟨c, k, v⟩ := x
    simp only [List.foldl, eraseL]
    rw [ih, erase_insSlot]

theorem erase_applyMeth (l : List Slot) (m : Meth) (cid : Nat) :
    eraseL (Model.Heap.applyMeth l m cid) = Spec.Val.applyMeth (eraseL l) m := by
  cases m with
  | push n => simp [Model.Heap.applyMeth, Spec.Val.applyMeth, eraseL_append, eraseL, eraseVal]
  | pop => simp [Model.Heap.applyMeth, Spec.Val.applyMeth, eraseL_dropLast]
  | shift => simp [Model.Heap.applyMeth, Spec.Val.applyMeth, eraseL_tail]
  | unshift n => simp [Model.Heap.applyMeth, Spec.Val.applyMeth, eraseL, eraseVal]
  | sort => simp [Model.Heap.applyMeth, Spec.Val.applyMeth, erase_sortSlots]

def ValsFrom (l' l : List Slot) (x : Val) : Prop :=
  ∀ sl ∈ l', (∃ sl0 ∈ l, sl.2.2 = sl0.2.2) ∨ sl.2.2 = x

theorem storeAct_fixed_shape (l l' : List Slot) (k : Option IKey) (c : Nat) (x : Val)
    (h : storeAct .fixed l k c x = .list l') :
    (∃ j key, l' = l.set j (c, key, x)) ∨ ∃ key, l' = l ++ [(c, key, x)] := by
  obtain ⟨l'', h1, _, hs⟩ := storeAct_fixed l k c x
  cases h1.symm.trans h
  exact hs

theorem valsFrom_storeAct (l l' : List Slot) (k : Option IKey) (c : Nat) (x : Val)
    (h : storeAct .fixed l k c x = .list l') : ValsFrom l' l x := by
  intro sl hs
  rcases storeAct_fixed_shape l l' k c x h with ⟨j, key, rfl⟩ | ⟨key, rfl⟩
  · rcases List.mem_or_eq_of_mem_set hs with hs | hs
    · exact Or.inl ⟨sl, hs, rfl⟩
    · exact Or.inr (by rw [hs])
  · rcases List.mem_append.mp hs with hs | hs
    · exact Or.inl ⟨sl, hs, rfl⟩
    · exact Or.inr (by rw [List.mem_singleton.mp hs])

theorem valsFrom_of_sub (l' l : List Slot) (x : Val) (h : ∀ sl ∈ l', ∃ sl0 ∈ l, sl.2.2 = sl0.2.2) :
    ValsFrom l' l x := fun sl hs => Or.inl (h sl hs)

theorem normFrom_vals (j cid0 : Nat) (l : List Slot) :
    ∀ sl ∈ Model.Heap.normFrom j cid0 l, ∃ sl0 ∈ l, sl.2.2 = sl0.2.2 := by
  induction l generalizing j with
  | nil => intro sl h; simp [Model.Heap.normFrom] at h
  | cons hd t ih =>
    obtain ⟨c, k, v⟩ := hd
    intro sl h
    simp only [Model.Heap.normFrom, List.mem_cons] at h
    rcases h with h | h
    · refine ⟨(c, k, v), by simp, ?_⟩
      split at h <;> simp [h]
    · obtain ⟨sl0, h0, e⟩ := ih (j + 1) sl h
      exact ⟨sl0, List.mem_cons_of_mem _ h0, e⟩

theorem unsetKey_vals (l : List Slot) (k : IKey) (cid0 : Nat) :
    ∀ sl ∈ (unsetKey l k cid0).1, ∃ sl0 ∈ l, sl.2.2 = sl0.2.2 := by
  intro sl h
  cases k with
  | int i =>
    simp only [unsetKey] at h
    split at h
    · exact normFrom_vals 0 cid0 l sl (List.mem_of_mem_eraseIdx h)
    · exact normFrom_vals 0 cid0 l sl h
  | str s =>
    simp only [unsetKey] at h
    split at h
    · exact ⟨sl, List.mem_of_mem_eraseIdx h, rfl⟩
    · exact ⟨sl, h, rfl⟩

theorem sortSlots_perm (l : List Slot) : (sortSlots l).Perm l := by
  rw [sortSlots, List.foldl_eq_foldr_reverse]
  exact (StableSort.perm (f := insSlot) (fun _ => rfl) (fun _ _ _ => rfl) _).trans l.reverse_perm

theorem applyMeth_vals (l : List Slot) (m : Meth) (cid : Nat) :
    ∀ sl ∈ Model.Heap.applyMeth l m cid, (∃ sl0 ∈ l, sl.2.2 = sl0.2.2) ∨ ∃ n, sl.2.2 = .sc (.int n) := by
  intro sl h
  cases m with
  | push n =>
    simp only [Model.Heap.applyMeth, List.mem_append, List.mem_singleton] at h
    rcases h with h | h
    · exact Or.inl ⟨sl, h, rfl⟩
    · exact Or.inr ⟨n, by rw [h]⟩
  | pop => exact Or.inl ⟨sl, List.dropLast_subset _ h, rfl⟩
  | shift => exact Or.inl ⟨sl, List.mem_of_mem_tail h, rfl⟩
  | unshift n =>
    simp only [Model.Heap.applyMeth, List.mem_cons] at h
    rcases h with h | h
    · exact Or.inr ⟨n, by rw [h]⟩
    · exact Or.inl ⟨sl, h, rfl⟩
  | sort => exact Or.inl ⟨sl, (sortSlots_perm l).mem_iff.mp h, rfl⟩

theorem mem_aidsL (i : Nat) (l : List Slot) : i ∈ aidsL l ↔ ∃ sl ∈ l, i ∈ sl.2.2.aids := by
  induction l with
  | nil => simp [aidsL]
  | cons h t ih =>
    obtain ⟨c, k, v⟩ := h
    simp [aidsL, ih]

def innerAids : Val → List Nat
  | .sc _ => []
  | .arr _ kids => aidsL kids

theorem innerAids_sub (v : Val) : ∀ i ∈ innerAids v, i ∈ v.aids := by
  cases v with
  | sc s => simp [innerAids]
  | arr a kids => intro i h; simp [innerAids] at h; simp [Val.aids, h]

end Proofs.Heap
