import Proofs.Lemmas.HeapBasic
/-!
`vcnt a v` = how many times the array object `a` occurs in the (unfolded) value `v`.
The invariant of the simulation says every identity occurs at most once in the whole
state; "who else sees an in-place mutation of `a`" is then arithmetic: the places whose
count is 0 are left alone (`updArr_cnt0`), and of the slots of one array only the one
that accounts for the single occurrence changes (`updArrL_single`).
-/
namespace Proofs.Heap
open Model.Heap

mutual
def vcnt (a : Nat) : Val → Nat
  | .sc _ => 0
  | .arr b kids => (if b = a then 1 else 0) + cntL a kids
def cntL (a : Nat) : List Slot → Nat
  | [] => 0
  | (_, _, v) :: r => vcnt a v + cntL a r
end

theorem cntL_eq_wsum (a : Nat) (l : List Slot) : cntL a l = wsum (fun sl => vcnt a sl.2.2) l := by
  induction l with
  | nil => simp [cntL, wsum]
  | cons h t ih => obtain ⟨c, k, v⟩ := h; simp [cntL, wsum, ih]

theorem cntL_append (a : Nat) (l1 l2 : List Slot) : cntL a (l1 ++ l2) = cntL a l1 + cntL a l2 := by
  simp only [cntL_eq_wsum, wsum_append]

theorem cntL_ge_get (a : Nat) (l : List Slot) (j : Nat) (sl : Slot) (h : l[j]? = some sl) :
    vcnt a sl.2.2 ≤ cntL a l := by
  rw [cntL_eq_wsum]; exact wsum_ge_get (fun sl => vcnt a sl.2.2) l j sl h

theorem cntL_set (a : Nat) (l : List Slot) (j : Nat) (old x : Slot) (h : l[j]? = some old) :
    cntL a (l.set j x) + vcnt a old.2.2 = cntL a l + vcnt a x.2.2 := by
  simp only [cntL_eq_wsum]; exact wsum_set (fun sl => vcnt a sl.2.2) l j old x h

theorem cntL_set_le (a : Nat) (l : List Slot) (j : Nat) (x : Slot) :
    cntL a (l.set j x) ≤ cntL a l + vcnt a x.2.2 := by
  simp only [cntL_eq_wsum]
  exact wsum_set_le_of _ l j x _ (fun _ _ => Nat.le_add_left _ _)

theorem cntL_eraseIdx_le (a : Nat) (l : List Slot) (j : Nat) : cntL a (l.eraseIdx j) ≤ cntL a l := by
  simp only [cntL_eq_wsum]; exact wsum_sublist_le _ (List.eraseIdx_sublist l j)

mutual
theorem vcnt_eq_count (a : Nat) : (v : Val) → vcnt a v = v.aids.count a
  | .sc s => rfl
  | .arr b kids => by
      simp only [vcnt, Val.aids, List.count_cons, cntL_eq_count a kids, beq_iff_eq]; omega
theorem cntL_eq_count (a : Nat) : (l : List Slot) → cntL a l = (aidsL l).count a
  | [] => rfl
  | (c, k, v) :: r => by
      simp only [cntL, aidsL, List.count_append, vcnt_eq_count a v, cntL_eq_count a r]
end

theorem cntL_pos_iff_mem (a : Nat) : (l : List Slot) → (0 < cntL a l ↔ a ∈ aidsL l) :=
  fun l => by rw [cntL_eq_count]; exact List.count_pos_iff

theorem cnt_pos_iff_mem (a : Nat) (v : Val) : 0 < vcnt a v ↔ a ∈ v.aids := by
  rw [vcnt_eq_count]; exact List.count_pos_iff

mutual
theorem Val.updArr_cnt0 (a : Nat) (f : List Slot → List Slot) : (v : Val) → vcnt a v = 0 → v.updArr a f = v
  | .sc s, _ => by simp [Val.updArr]
  | .arr b kids, h => by
      simp only [vcnt] at h
      have hb : ¬ b = a := fun e => by simp [e] at h
      have hk : cntL a kids = 0 := by omega
      simp [Val.updArr, hb, updArrL_cnt0 a f kids hk]
theorem updArrL_cnt0 (a : Nat) (f : List Slot → List Slot) : (l : List Slot) → cntL a l = 0 → updArrL a f l = l
  | [], _ => by simp [updArrL]
  | (c, k, v) :: r, h => by
      simp only [cntL] at h
      have h1 : vcnt a v = 0 := by omega
      have h2 : cntL a r = 0 := by omega
      simp [updArrL, Val.updArr_cnt0 a f v h1, updArrL_cnt0 a f r h2]
end

theorem updArrL_eq_map (a : Nat) (f : List Slot → List Slot) (l : List Slot) :
    updArrL a f l = l.map (fun sl => (sl.1, sl.2.1, sl.2.2.updArr a f)) := by
  induction l with
  | nil => rfl
  | cons h t ih => obtain ⟨c, k, v⟩ := h; simp [updArrL, ih]

theorem updArrL_single (a : Nat) (f : List Slot → List Slot) (l : List Slot) (j c : Nat) (kk : Key) (child : Val)
    (h : l[j]? = some (c, kk, child)) (hc : cntL a l = vcnt a child) :
    updArrL a f l = l.set j (c, kk, child.updArr a f) := by
  rw [updArrL_eq_map]
  exact map_eq_set_of_wsum (fun sl => vcnt a sl.2.2) _ (fun sl h0 => by rw [Val.updArr_cnt0 a f _ h0]) l j _ h
    (by rw [← cntL_eq_wsum, hc]; exact Nat.le_refl _)

theorem cntL_snoc (i : Nat) (l : List Slot) (c : Nat) (k : Key) (v : Val) :
    cntL i (l ++ [(c, k, v)]) = cntL i l + vcnt i v := by
  simp [cntL_append, cntL]

theorem cnt_storeAct (i : Nat) (l l' : List Slot) (k : Option IKey) (c : Nat) (v : Val)
    (h : storeAct .fixed l k c v = .list l') : cntL i l' ≤ cntL i l + vcnt i v := by
  rcases storeAct_fixed_shape l l' k c v h with ⟨j, key, rfl⟩ | ⟨key, rfl⟩
  · exact cntL_set_le i l j _
  · rw [cntL_snoc]; exact Nat.le_refl _

theorem cnt_normFrom (i j cid0 : Nat) (l : List Slot) : cntL i (normFrom j cid0 l) = cntL i l := by
  induction l generalizing j with
  | nil => rfl
  | cons h t ih =>
    obtain ⟨c, k, v⟩ := h
    by_cases hk : k = .pos <;> simp [normFrom, cntL, hk, ih]

theorem cnt_unsetKey (i : Nat) (l : List Slot) (k : IKey) (cid0 : Nat) :
    cntL i (unsetKey l k cid0).1 ≤ cntL i l := by
  cases k with
  | int n =>
    simp only [unsetKey]
    split
    · have := cntL_eraseIdx_le i (normFrom 0 cid0 l) ‹_›
      rw [cnt_normFrom] at this; exact this
    · rw [cnt_normFrom]; omega
  | str s =>
    simp only [unsetKey]
    split
    · exact cntL_eraseIdx_le i l _
    · omega

theorem cnt_applyMeth (i : Nat) (l : List Slot) (m : Meth) (cid : Nat) :
    cntL i (applyMeth l m cid) ≤ cntL i l := by
  cases m with
  | push n => simp only [applyMeth, cntL_snoc, vcnt]; omega
  | pop => simp only [applyMeth, cntL_eq_wsum]; exact wsum_sublist_le _ (List.dropLast_sublist l)
  | shift => simp only [applyMeth, cntL_eq_wsum]; exact wsum_sublist_le _ (List.tail_sublist l)
  | unshift n => simp only [applyMeth, cntL, vcnt]; omega
  | sort => simp only [applyMeth, cntL_eq_wsum, wsum_perm _ (sortSlots_perm l)]; omega

end Proofs.Heap
