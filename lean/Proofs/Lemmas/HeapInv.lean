import Proofs.Lemmas.HeapPath
import Proofs.Lemmas.HeapNames
/-!
A *holder* is a place that owns a value directly: a variable cell or an object property.
The invariant says: every array identity occurs **at most once in the whole state** — no two
holders, and no two places inside one value, reach the same array object (every copy point
copies recursively) — and the allocator is ahead of every identity in use.  An in-place
mutation of an array object therefore changes one holder only (`updArr_eq_setHolder`).
-/
namespace Proofs.Heap
open Model.Heap

/-- a holder. `v c`: variable cell `c` (not a variable name: two `&`-bound names have one cell); `p h q`: property `q` of
object `h` -/
inductive Pos
  | v (c : Nat)
  | p (h p : Nat)
deriving DecidableEq, Repr

def holder? (s : St) : Pos → Option Val
  | .v c => s.vcells[c]?
  | .p h p => s.propVal? h p

def setHolder (s : St) : Pos → Val → St
  | .v c, w => { s with vcells := s.vcells.set c w }
  | .p h p, w => s.setProp h p w

theorem propVal?_some {s : St} {h p : Nat} {w : Val} (hw : s.propVal? h p = some w) :
    ∃ ps, s.objs[h]? = some ps ∧ ps[p]? = some w := by
  unfold St.propVal? at hw
  cases hps : s.objs[h]? with
  | none => simp [hps] at hw
  | some ps => exact ⟨ps, rfl, by simpa [hps] using hw⟩

def cntVs (a : Nat) (l : List Val) : Nat := wsum (vcnt a) l
def cntOs (a : Nat) (os : List (List Val)) : Nat := wsum (cntVs a) os
def scnt (s : St) (a : Nat) : Nat := cntVs a s.vcells + cntOs a s.objs

/-- `wf`: every name points at an existing variable cell, so that a write to the cell of a name
(`setHolder`, `St.setVar`: a `List.set`) takes effect; `uniq`: an array identity occurs at most once in the whole state;
`bound`: identities in use are below `next` -/
structure Inv (s : St) : Prop where
  wf : ∀ (x c : Nat), s.names[x]? = some c → c < s.vcells.length
  uniq : ∀ a, scnt s a ≤ 1
  bound : ∀ a, 0 < scnt s a → a < s.next

theorem scnt_next (s : St) (n a : Nat) : scnt { s with next := n } a = scnt s a := rfl

theorem scnt_holder_le (s : St) (P : Pos) (w : Val) (a : Nat) (h : holder? s P = some w) :
    vcnt a w ≤ scnt s a := by
  cases P with
  | v c =>
    have := wsum_ge_get (vcnt a) s.vcells c w h
    simp only [scnt, cntVs]; omega
  | p hh p =>
    obtain ⟨ps, hps, h⟩ := propVal?_some h
    have h1 := wsum_ge_get (vcnt a) ps p w h
    have h2 := wsum_ge_get (cntVs a) s.objs hh ps hps
    simp only [scnt, cntOs, cntVs] at *; omega

theorem propVal?_setProp (s : St) (h p : Nat) (w : Val) (h' p' : Nat) (old : Val)
    (hold : s.propVal? h p = some old) :
    (s.setProp h p w).propVal? h' p' = if h' = h ∧ p' = p then some w else s.propVal? h' p' := by
  obtain ⟨ps, hps, hold⟩ := propVal?_some hold
  simp only [St.setProp, hps]
  have hlt : h < s.objs.length := by
    have := List.getElem?_eq_some_iff.mp hps; exact this.1
  have hpl : p < ps.length := by
    have := List.getElem?_eq_some_iff.mp hold; exact this.1
  simp only [St.propVal?]
  by_cases hh : h' = h
  · subst hh
    simp only [List.getElem?_set, hlt, if_true, true_and]
    by_cases hp : p' = p
    · subst hp; simp [hpl]
    · simp [hp, hps, Ne.symm hp]
  · have : ¬ (h' = h ∧ p' = p) := fun c => hh c.1
    simp [this, Ne.symm hh]

theorem holder?_setHolder (s : St) (P Q : Pos) (w old : Val) (hold : holder? s P = some old) :
    holder? (setHolder s P w) Q = if Q = P then some w else holder? s Q := by
  cases P with
  | v c =>
    have hlt : c < s.vcells.length := (List.getElem?_eq_some_iff.mp hold).1
    cases Q with
    | v c' =>
      simp only [holder?, setHolder, List.getElem?_set]
      by_cases hc : c = c'
      · subst hc; simp [hlt]
      · have : ¬ (Pos.v c' = Pos.v c) := fun e => hc (by injection e with e; exact e.symm)
        simp [hc, this]
    | p h p => simp [holder?, setHolder, St.propVal?]
  | p h p =>
    cases Q with
    | v c' =>
      simp only [holder?, setHolder, St.setProp]
      cases s.objs[h]? <;> simp
    | p h' p' =>
      simp only [holder?, setHolder]
      rw [propVal?_setProp s h p w h' p' old hold]
      by_cases e : h' = h ∧ p' = p
      · obtain ⟨e1, e2⟩ := e; subst e1; subst e2; simp
      · have : ¬ (Pos.p h' p' = Pos.p h p) := fun c => e (by injection c with c1 c2; exact ⟨c1, c2⟩)
        simp [e, this]

theorem holder?_next (s : St) (n : Nat) (P : Pos) : holder? { s with next := n } P = holder? s P := by
  cases P <;> rfl

theorem scnt_setHolder (s : St) (P : Pos) (old nv : Val) (a : Nat) (hold : holder? s P = some old) :
    scnt (setHolder s P nv) a + vcnt a old = scnt s a + vcnt a nv := by
  cases P with
  | v c =>
    have := wsum_set (vcnt a) s.vcells c old nv hold
    simp only [scnt, setHolder, cntVs]; omega
  | p h p =>
    obtain ⟨ps, hps, hold⟩ := propVal?_some hold
    have h1 := wsum_set (vcnt a) ps p old nv hold
    have h2 := wsum_set (cntVs a) s.objs h ps (ps.set p nv) hps
    simp only [scnt, setHolder, St.setProp, hps, cntOs, cntVs] at *; omega

theorem updArr_eq_setHolder {s : St} (P : Pos) (a : Nat) (w : Val) (hu : scnt s a ≤ 1)
    (hP : holder? s P = some w) (hw : 1 ≤ vcnt a w) (f : List Slot → List Slot) :
    s.updArr a f = setHolder s P (w.updArr a f) := by
  -- the one occurrence is inside `w`: every other list of values has count 0 and is left alone,
  -- the list(s) leading to `w` carry the whole count at the position of `w`
  have hV : ∀ l : List Val, cntVs a l = 0 → l.map (Val.updArr a f) = l :=
    map_eq_self_of_wsum _ _ (Val.updArr_cnt0 a f)
  have hu' : cntVs a s.vcells + cntOs a s.objs ≤ 1 := hu
  cases P with
  | v c =>
    have h1 : vcnt a w ≤ cntVs a s.vcells := wsum_ge_get (vcnt a) s.vcells c w hP
    have e1 := map_eq_set_of_wsum (vcnt a) _ (Val.updArr_cnt0 a f) s.vcells c w hP
      (by show cntVs a s.vcells ≤ _; omega)
    have e2 := map_eq_self_of_wsum (cntVs a) _ hV s.objs (by show cntOs a s.objs = 0; omega)
    simp only [St.updArr, setHolder, e1, e2]
  | p h p =>
    obtain ⟨ps, hps, hP⟩ := propVal?_some hP
    have h1 : vcnt a w ≤ cntVs a ps := wsum_ge_get (vcnt a) ps p w hP
    have h2 : cntVs a ps ≤ cntOs a s.objs := wsum_ge_get (cntVs a) s.objs h ps hps
    have e1 := hV s.vcells (by omega)
    have e2 := map_eq_set_of_wsum (cntVs a) (·.map (Val.updArr a f)) hV s.objs h ps hps
      (by show cntOs a s.objs ≤ _; omega)
    have e3 := map_eq_set_of_wsum (vcnt a) _ (Val.updArr_cnt0 a f) ps p w hP
      (by show cntVs a ps ≤ _; omega)
    simp only [St.updArr, setHolder, St.setProp, hps, e1, e2, e3]

theorem setHolder_setHolder (s : St) (P : Pos) (w1 w2 old : Val) (hold : holder? s P = some old) :
    setHolder (setHolder s P w1) P w2 = setHolder s P w2 := by
  cases P with
  | v c => simp [setHolder, List.set_set]
  | p h p =>
    obtain ⟨ps, hps, _⟩ := propVal?_some hold
    have hlt : h < s.objs.length := (List.getElem?_eq_some_iff.mp hps).1
    simp [setHolder, St.setProp, hlt, List.set_set]

theorem setHolder_names (s : St) (P : Pos) (w : Val) : (setHolder s P w).names = s.names := by
  cases P with
  | v c => rfl
  | p h p => exact setProp_names s h p w

theorem setHolder_vcells_length (s : St) (P : Pos) (w : Val) :
    (setHolder s P w).vcells.length = s.vcells.length := by
  cases P with
  | v c => simp [setHolder]
  | p h p => simp only [setHolder, St.setProp]; split <;> rfl

/-- `e i`: how many occurrences of identity `i` the step may add — at most one, and only of an identity that did not occur
in `s` and lies below the new allocator (a `FreshIn` range after `s.next`: `fresh_for`); `e = 0` for steps that only move
or drop values. `Inv.replace` and `inplace` take the same `e`; `Inv.appendObj` (`cntVs · ps'`) and `storeAt_copy`
(`vcnt · v'`, passed to `inplace`) fix it. -/
theorem Inv.of_counts {s s' : St} (hinv : Inv s) (e : Nat → Nat)
    (hwf : ∀ (x c : Nat), s'.names[x]? = some c → c < s'.vcells.length) (hn : s.next ≤ s'.next)
    (hk : ∀ i, scnt s' i ≤ scnt s i + e i)
    (he : ∀ i, e i ≤ 1 ∧ (0 < e i → scnt s i = 0 ∧ i < s'.next)) : Inv s' := by
  have key := counts_grow hinv.uniq (fun i hi => Nat.lt_of_lt_of_le (hinv.bound i hi) hn) hk he
  exact ⟨hwf, fun i => (key i).1, fun i => (key i).2⟩

theorem Inv.replace {s : St} (hinv : Inv s) (P : Pos) (old nv : Val) (n : Nat) (e : Nat → Nat)
    (hold : holder? s P = some old) (hn : s.next ≤ n)
    (hc : ∀ i, vcnt i nv ≤ vcnt i old + e i)
    (he : ∀ i, e i ≤ 1 ∧ (0 < e i → scnt s i = 0 ∧ i < n)) :
    Inv { (setHolder s P nv) with next := n } := by
  refine Inv.of_counts hinv e ?_ hn ?_ he
  · intro x c hx
    have hx' : (setHolder s P nv).names[x]? = some c := hx
    rw [setHolder_names] at hx'
    show c < (setHolder s P nv).vcells.length
    rw [setHolder_vcells_length]
    exact hinv.wf x c hx'
  · intro i
    have h1 := scnt_setHolder s P old nv i hold
    have h2 := scnt_holder_le s P old i hold
    have h3 := hc i
    show scnt (setHolder s P nv) i ≤ _
    omega

theorem Inv.next {s : St} (hinv : Inv s) (n : Nat) (hn : s.next ≤ n) : Inv { s with next := n } :=
  Inv.of_counts hinv (fun _ => 0) hinv.wf hn (fun _ => Nat.le_refl _) (fun _ => ⟨by omega, fun h => by omega⟩)

theorem Inv.appendObj {s : St} (hinv : Inv s) (ps' : List Val) (n' : Nat) (hn : s.next ≤ n')
    (hfresh : ∀ i, cntVs i ps' ≤ 1 ∧ (0 < cntVs i ps' → scnt s i = 0 ∧ i < n')) :
    Inv { s with objs := s.objs ++ [ps'], next := n' } := by
  refine Inv.of_counts hinv (fun i => cntVs i ps') hinv.wf hn (fun i => ?_) hfresh
  simp only [scnt, cntOs, wsum_append, wsum]
  omega

theorem Inv.fresh {s : St} (hinv : Inv s) (i : Nat) (h : s.next ≤ i) : scnt s i = 0 := by
  have := hinv.bound i
  omega

end Proofs.Heap
