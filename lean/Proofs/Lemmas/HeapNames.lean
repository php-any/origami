import Model.Heap
/-!
C06: `&` bindings are the only way two names become one (for every `Cfg`: the fixed tree, the pinned one and everything between).
-/
namespace Proofs.Heap
open Model.Heap

theorem updArr_names (s : St) (a : Nat) (f : List Slot → List Slot) : (s.updArr a f).names = s.names := rfl
theorem mutCell_names (s : St) (c : Nat) (w : Val) : (s.mutCell c w).names = s.names := rfl
theorem applyAct_names (s : St) (a : Nat) (act : Act) : (s.applyAct a act).names = s.names := by
  cases act <;> rfl
theorem setVar_names (s : St) (x : Nat) (w : Val) : (s.setVar x w).names = s.names := by
  simp only [St.setVar]; cases s.names[x]? <;> rfl
theorem setProp_names (s : St) (h p : Nat) (w : Val) : (s.setProp h p w).names = s.names := by
  simp only [St.setProp]; cases s.objs[h]? <;> rfl

theorem writeBack_names (cfg : Cfg) : (b : Place) → (s : St) → (writeBack cfg s b).names = s.names
  | .var _, s => rfl
  | .prop x p, s => by
      simp only [writeBack]
      split
      · rfl
      · split
        · simp [setProp_names]
        · rfl
  | .idx b2 k2, s => by
      simp only [writeBack]
      split
      · rw [writeBack_names cfg b2]; simp [applyAct_names]
      · rfl

theorem storeAt_names (cfg : Cfg) (s s' : St) (b : Place) (k : Option IKey) (v : Val)
    (h : storeAt cfg s b k v = some s') : s'.names = s.names := by
  simp only [storeAt] at h
  split at h
  · injection h with h; subst h; rw [writeBack_names]; simp [applyAct_names]
  · cases h

theorem setIdx_names (cfg : Cfg) : (b : Place) → (s s' : St) → (k : Option IKey) → (v : Val) →
    setIdx cfg b s k v = some s' → s'.names = s.names
  | .idx b2 k2, s, s', k, v, h => by
      simp only [setIdx] at h
      have h' := storeAt_names cfg _ s' _ k _ h
      rw [h']
      split
      · split
        · rename_i s'' hs
          have := setIdx_names cfg b2 _ s'' _ _ hs
          simpa using this
        · rfl
      · rfl
  | .var x, s, s', k, v, h => by
      simp only [setIdx] at h
      have := storeAt_names cfg _ s' _ _ _ h
      simpa using this
  | .prop x p, s, s', k, v, h => by
      simp only [setIdx] at h
      have := storeAt_names cfg _ s' _ _ _ h
      simpa using this

theorem evalRV_names (cfg : Cfg) (s s1 : St) (r : RV) (v : Val) (h : evalRV cfg s r = some (v, s1)) :
    s1.names = s.names := by
  -- every right-hand side yields the state it was given, or that state with the allocator advanced
  cases r with
  | int _ | null | str _ => cases h; rfl
  | rd p | call p =>
    obtain ⟨w, _, e⟩ := Option.map_eq_some_iff.mp h
    cases e; rfl
  | lit l =>
    obtain ⟨⟨w, n⟩, _, e⟩ := Option.map_eq_some_iff.mp h
    cases e; rfl
  | upd p u =>
    simp only [evalRV] at h
    split at h
    · obtain ⟨w, _, e⟩ := Option.map_eq_some_iff.mp h
      cases e; rfl
    · cases h

theorem step_names (cfg : Cfg) (s : St) (op : Op) (hr : op.isRef = false) : (step cfg s op).names = s.names := by
  unfold step
  fun_cases stepOpt cfg s op
  -- a statement that refuses leaves the state as it is
  all_goals try rfl
  -- arms of `stepOpt`: 1 `setVar`, 3 `setProp`, 7 `setIdx`, 9 `unset`, 10 `meth`, 11 `new`, 12 `clone`, 15 `ref`
  case case1 he _ _ _ => simp [setVar_names, evalRV_names cfg s _ _ _ he]
  case case3 he _ _ _ _ _ _ _ => simp [setProp_names, evalRV_names cfg s _ _ _ he]
  case case7 b k r v s1 he =>
    cases h : setIdx cfg b s1 k v with
    | none => rfl
    | some s' => exact (setIdx_names cfg b s1 s' k v h).trans (evalRV_names cfg s s1 r v he)
  case case9 b k =>
    simp only [unsetAt]
    split
    · simp [writeBack_names, updArr_names]
    · rfl
  case case10 b m =>
    simp only [methAt]
    split
    · simp [updArr_names]
    · rfl
  case case11 => simp [setVar_names]
  case case12 => simp [setVar_names]
  case case15 => simp [Op.isRef] at hr

theorem foldl_names (cfg : Cfg) (ops : List Op) (hr : ∀ op ∈ ops, op.isRef = false) (s : St) :
    (ops.foldl (step cfg) s).names = s.names :=
  List.foldlRecOn (motive := fun s' => s'.names = s.names) ops _ rfl
    fun s' h op ho => (step_names cfg s' op (hr op ho)).trans h

theorem step_names_length (cfg : Cfg) (s : St) (op : Op) : (step cfg s op).names.length = s.names.length := by
  cases op with
  | ref x y =>
    simp only [step, stepOpt]
    cases s.names[y]? with
    | none => rfl
    | some c => simp only; split <;> simp
  | _ => rw [step_names cfg s _ rfl]

theorem foldl_names_length (cfg : Cfg) (ops : List Op) (s : St) :
    (ops.foldl (step cfg) s).names.length = s.names.length :=
  List.foldlRecOn (motive := fun s' : St => s'.names.length = s.names.length) ops _ rfl
    fun s' h op _ => by rw [step_names_length, h]

theorem ref_names (cfg : Cfg) (s : St) (x y : Nat) (hx : x < s.names.length) (hy : y < s.names.length) :
    (step cfg s (.ref x y)).names[x]? = (step cfg s (.ref x y)).names[y]? := by
  have hys : s.names[y]? = some s.names[y] := List.getElem?_eq_getElem hy
  simp only [step, stepOpt, hys, hx, if_true, Option.getD_some, List.getElem?_set]
  by_cases e : x = y
  · subst e; simp
  · simp [e]

end Proofs.Heap
