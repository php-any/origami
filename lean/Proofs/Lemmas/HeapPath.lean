import Proofs.Lemmas.HeapCount
import Proofs.Lemmas.TreePath
/-!
`walk` is `readPlace` below the root name, root first; `setAt` replaces the value at the
end of a path (following the keys, no identities involved).  "Where the array object `a` sits" is the
relation `Sits`: `walk π w = some (.arr a kids)` read one key at a time, so that the facts about `setAt`
are inductions on it.  When `a` occurs only once in a value, the in-place mutation `updArr a f` —
"rewrite every occurrence of `a`" — is `setAt` at the path where `a` sits (`Sits.updArr`).
-/
namespace Proofs.Heap
open Model.Heap
open Spec.Val (eraseVal eraseL Tree)

def walk : List IKey → Val → Option Val
  | [], v => some v
  | k :: π, .arr _ kids =>
    (match Keys.find k (keys kids) with
     | some j => (getVal? kids j).bind (walk π)
     | none => walk π (.sc .null))
  | _ :: _, .sc _ => none

def setAt : List IKey → Val → Val → Val
  | [], nv, _ => nv
  | k :: π, nv, .arr a kids =>
    (match Keys.find k (keys kids) with
     | some j =>
       (match kids[j]? with
        | some (c, kk, child) => .arr a (kids.set j (c, kk, setAt π nv child))
        | none => .arr a kids)
     | none => .arr a kids)
  | _ :: _, _, .sc s => .sc s

theorem walk_sc (π : List IKey) (s : Scalar) (a : Nat) (kids : List Slot) :
    walk π (.sc s) ≠ some (.arr a kids) := by
  cases π with
  | nil => simp [walk]
  | cons k π => simp [walk]

theorem walk_snoc (π : List IKey) (k : IKey) (v : Val) :
    walk (π ++ [k]) v = (walk π v).bind (walk [k]) := by
  induction π generalizing v with
  | nil => simp [walk]
  | cons k' π ih =>
    cases v with
    | sc s => simp [walk]
    | arr a kids =>
      simp only [List.cons_append, walk]
      cases Keys.find k' (keys kids) with
      | none => exact ih _
      | some j =>
        dsimp only
        generalize getVal? kids j = o
        cases o with
        | none => simp
        | some c => simp [ih c]

theorem readPlace_idx (s : St) (b : Place) (k : IKey) :
    readPlace s (.idx b k) = (readPlace s b).bind (walk [k]) := by
  simp only [readPlace]
  cases readPlace s b with
  | none => rfl
  | some v =>
    cases v with
    | sc sc => simp [walk]
    | arr a kids =>
      simp only [Option.bind_some, walk]
      cases Keys.find k (keys kids) with
      | none => rfl
      | some j => cases getVal? kids j <;> simp

theorem readPlace_root_path (s : St) (b : Place) :
    readPlace s b = (readPlace s b.root).bind (walk (pathOf b)) := by
  induction b with
  | var x => simp [Place.root, pathOf, walk]
  | prop x p => simp [Place.root, pathOf, walk]
  | idx b k ih =>
    rw [readPlace_idx, ih]
    simp only [Place.root, pathOf]
    cases readPlace s b.root with
    | none => rfl
    | some w => simp [walk_snoc]

theorem getVal?_eraseL (kids : List Slot) (j : Nat) :
    ((eraseL kids)[j]?).map (·.2) = (getVal? kids j).map eraseVal := by
  simp [eraseL_getElem?, getVal?, Option.map_map, Function.comp_def]

inductive Sits (a : Nat) (kids : List Slot) : List IKey → Val → Prop
  | here : Sits a kids [] (.arr a kids)
  | under {k π r ks j c kk child} : Keys.find k (keys ks) = some j → ks[j]? = some (c, kk, child) →
      Sits a kids π child → Sits a kids (k :: π) (.arr r ks)

theorem sits_of_walk {a : Nat} {kids : List Slot} : ∀ {π : List IKey} {w : Val},
    walk π w = some (.arr a kids) → Sits a kids π w
  | [], w, h => by cases Option.some.inj h; exact .here
  | k :: π, w, h => by
    cases w with
    | sc s => exact (walk_sc _ _ _ _ h).elim
    | arr r ks =>
      simp only [walk] at h
      cases hf : Keys.find k (keys ks) with
      | none => rw [hf] at h; exact (walk_sc _ _ _ _ h).elim
      | some j =>
        rw [hf] at h
        cases hs : ks[j]? with
        | none => simp [getVal?, hs] at h
        | some sl =>
          obtain ⟨c, kk, child⟩ := sl
          simp only [getVal?, hs, Option.map_some, Option.bind_some] at h
          exact .under hf hs (sits_of_walk h)

/-- `setAt` where `a` sits: (1) `walk` reads `nv` back; (2) per identity, the occurrences of `.arr a kids` are exchanged for
those of `nv`; (3) erased, it is the spec's `modPath` with any `F` that sends the old array to `nv`; (4) if `nv` erases like
the old array, so does the whole value (what the write-back lives on) -/
theorem Sits.setAt_spec {a kids π w} (h : Sits a kids π w) (nv : Val) :
    walk π (setAt π nv w) = some nv ∧
    (∀ i, vcnt i (setAt π nv w) + vcnt i (.arr a kids) = vcnt i w + vcnt i nv) ∧
    (∀ (c : Bool) (F : Tree → Option Tree), F (eraseVal (.arr a kids)) = some (eraseVal nv) →
      modPath c π F (eraseVal w) = some (eraseVal (setAt π nv w))) ∧
    (eraseVal nv = eraseVal (.arr a kids) → eraseVal (setAt π nv w) = eraseVal w) := by
  induction h with
  | here => exact ⟨rfl, fun i => by simp only [setAt]; omega, fun c F hF => hF, fun he => he⟩
  | @under k π r ks j c kk child hf hs _ ih =>
    obtain ⟨ihW, ihC, ihM, ihE⟩ := ih
    have hlt : j < ks.length := (List.getElem?_eq_some_iff.mp hs).1
    simp only [setAt, hf, hs]
    refine ⟨?_, fun i => ?_, fun cc F hF => ?_, fun he => ?_⟩
    · have hkeys : keys (ks.set j (c, kk, setAt π nv child)) = keys ks := by
        simp only [keys, List.map_set]
        exact list_set_same _ _ _ (by simp [hs])
      simp only [walk, hkeys, hf, getVal?, List.getElem?_set, hlt, if_true, Option.map_some, Option.bind_some]
      exact ihW
    · have h2 := cntL_set i ks j (c, kk, child) (c, kk, setAt π nv child) hs
      have := ihC i
      simp only [vcnt] at this h2 ⊢
      omega
    · simp only [modPath, eraseVal]
      rw [modifyAt_found cc k _ (eraseL ks) j kk (eraseVal child) (by rw [tkeys_eraseL]; exact hf)
        (by rw [eraseL_getElem?, hs]; rfl), ihM cc F hF]
      simp only [Option.map_some, eraseL_set]
    · simp only [eraseVal, eraseL_set, ihE he]
      congr 1
      exact list_set_same _ _ _ (by simp [eraseL_getElem?, hs])

theorem Sits.cnt {a kids π w} (h : Sits a kids π w) : 1 ≤ vcnt a w := by
  have := (h.setAt_spec (.sc .null)).2.1 a
  simp only [vcnt, if_true] at this ⊢
  omega

theorem Sits.updArr {a kids π w} (h : Sits a kids π w) (f : List Slot → List Slot) (hu : vcnt a w ≤ 1) :
    w.updArr a f = setAt π (.arr a (f kids)) w := by
  induction h with
  | here => simp [Val.updArr, setAt]
  | @under k π r ks j c kk child hf hs hc ih =>
    have h1 := hc.cnt
    have h2 := cntL_ge_get a ks j _ hs
    simp only [vcnt] at hu h2
    -- the one occurrence is inside `child`: `r` is another object, the other slots hold none
    have hr : ¬ r = a := by
      intro e; simp only [e, if_true] at hu; omega
    simp only [hr, if_false] at hu
    simp only [Val.updArr, hr, if_false, setAt, hf, hs]
    rw [updArrL_single a f ks j c kk child hs (by omega), ih (by omega)]

theorem updArr_eq_setAt (a : Nat) (f : List Slot → List Slot) (π : List IKey) (w : Val) (kids : List Slot)
    (hu : vcnt a w ≤ 1) (h : walk π w = some (.arr a kids)) :
    w.updArr a f = setAt π (.arr a (f kids)) w :=
  (sits_of_walk h).updArr f hu

end Proofs.Heap
