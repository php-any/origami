import Proofs.Lemmas.HeapInv
/-!
C06: every reader of a state commutes with forgetting identities; a recursive copy (`CloneArrayValue`)
erases to the same tree and all its identities are `FreshIn` the range it allocated; a right-hand side
evaluates alike on both sides and leaves the state alone but for the allocator.
-/
namespace Proofs.Heap
open Model.Heap
open Spec.Val (abs eraseVal eraseL)

theorem abs_next (s : St) (n : Nat) : abs { s with next := n } = abs s := rfl

theorem abs_varVal? (s : St) (x : Nat) : (abs s).varVal? x = (s.varVal? x).map eraseVal := by
  simp only [Spec.Val.St.varVal?, St.varVal?, abs]
  cases s.names[x]? <;> simp

theorem abs_varObj? (s : St) (x : Nat) : (abs s).varObj? x = s.varObj? x := by
  simp only [Spec.Val.St.varObj?, St.varObj?, abs_varVal?]
  cases h : s.varVal? x with
  | none => rfl
  | some v =>
    cases v with
    | sc sc => cases sc <;> simp [eraseVal]
    | arr a k => simp [eraseVal]

theorem abs_propVal? (s : St) (h p : Nat) : (abs s).propVal? h p = (s.propVal? h p).map eraseVal := by
  simp only [Spec.Val.St.propVal?, St.propVal?, abs, List.getElem?_map]
  cases s.objs[h]? <;> simp

theorem abs_setVar (s : St) (x : Nat) (v : Val) : abs (s.setVar x v) = (abs s).setVar x (eraseVal v) := by
  simp only [Spec.Val.St.setVar, St.setVar, abs]
  cases s.names[x]? <;> simp [List.map_set]

theorem abs_setProp (s : St) (h p : Nat) (v : Val) :
    abs (s.setProp h p v) = (abs s).setProp h p (eraseVal v) := by
  simp only [Spec.Val.St.setProp, St.setProp, abs, List.getElem?_map]
  cases s.objs[h]? <;> simp [List.map_set]

theorem abs_read (s : St) : (pl : Place) → Spec.Val.read (abs s) pl = (readPlace s pl).map eraseVal
  | .var x => by simp [Spec.Val.read, readPlace, abs_varVal?]
  | .prop x p => by
      simp only [Spec.Val.read, readPlace, abs_varObj?]
      cases s.varObj? x <;> simp [abs_propVal?]
  | .idx b k => by
      simp only [Spec.Val.read, readPlace, abs_read s b]
      cases h : readPlace s b with
      | none => rfl
      | some v =>
        cases v with
        | sc sc => simp [eraseVal]
        | arr a kids =>
          simp only [Option.map_some, eraseVal, tkeys_eraseL]
          cases Keys.find k (keys kids) with
          | none => simp [eraseVal]
          | some j => simp [getVal?_eraseL]

theorem readPlace_next (s : St) (n : Nat) (pl : Place) : readPlace { s with next := n } pl = readPlace s pl := by
  induction pl with
  | var x => rfl
  | prop x p => rfl
  | idx b k ih => simp only [readPlace, ih]

theorem deepCopy_arr (a : Nat) (kids : List Slot) (n : Nat) :
    Val.deepCopy (.arr a kids) n = (.arr n (deepCopyL kids (n + 1)).1, (deepCopyL kids (n + 1)).2) := by
  simp only [Val.deepCopy]

theorem deepCopyL_cons (c : Nat) (k : Key) (v : Val) (r : List Slot) (n : Nat) :
    deepCopyL ((c, k, v) :: r) n =
      ((match v with | .sc _ => c | .arr _ _ => n, k, (v.deepCopy (n + 1)).1) ::
          (deepCopyL r (v.deepCopy (n + 1)).2).1, (deepCopyL r (v.deepCopy (n + 1)).2).2) := by
  simp only [deepCopyL]; rfl

mutual
theorem deepCopy_spec : (v : Val) → (n : Nat) →
    eraseVal (v.deepCopy n).1 = eraseVal v ∧ n ≤ (v.deepCopy n).2 ∧
      FreshIn (fun i => vcnt i (v.deepCopy n).1) n (v.deepCopy n).2
  | .sc s, n => by simp [Val.deepCopy, FreshIn, vcnt]
  | .arr a kids, n => by
      obtain ⟨h1, h2, h3⟩ := deepCopyL_spec kids (n + 1)
      rw [deepCopy_arr]
      exact ⟨by simp [eraseVal, h1], by simp only; omega, (FreshIn.single n).add h3 (by omega) h2⟩
theorem deepCopyL_spec : (l : List Slot) → (n : Nat) →
    eraseL (deepCopyL l n).1 = eraseL l ∧ n ≤ (deepCopyL l n).2 ∧
      FreshIn (fun i => cntL i (deepCopyL l n).1) n (deepCopyL l n).2
  | [], n => by simp [deepCopyL, FreshIn, cntL]
  | (c, k, v) :: r, n => by
      obtain ⟨a1, a2, a3⟩ := deepCopy_spec v (n + 1)
      obtain ⟨b1, b2, b3⟩ := deepCopyL_spec r (v.deepCopy (n + 1)).2
      rw [deepCopyL_cons]
      exact ⟨by simp [eraseL, a1, b1], by simp only; omega,
        (a3.add b3 a2 b2).mono (by omega) (Nat.le_refl _)⟩
end

theorem cloneOnStore_fixed (v : Val) (n : Nat) : cloneOnStore .fixed v n = v.deepCopy n := by
  simp [cloneOnStore, Cfg.fixed]

theorem cloneOnStore_spec (v : Val) (n : Nat) :
    eraseVal (cloneOnStore .fixed v n).1 = eraseVal v ∧ n ≤ (cloneOnStore .fixed v n).2 ∧
      FreshIn (fun i => vcnt i (cloneOnStore .fixed v n).1) n (cloneOnStore .fixed v n).2 := by
  rw [cloneOnStore_fixed]; exact deepCopy_spec v n

/-- the conclusion is the side condition of `Inv.replace`, `Inv.appendObj`, `inplace` -/
theorem fresh_for {s : St} (hinv : Inv s) (f : Nat → Nat) (n n' m : Nat) (hf : FreshIn f n n')
    (hn : s.next ≤ n) (hm : n' ≤ m) : ∀ i, f i ≤ 1 ∧ (0 < f i → scnt s i = 0 ∧ i < m) := by
  intro i
  obtain ⟨f1, f2⟩ := hf i
  refine ⟨f1, fun hp => ?_⟩
  have := f2 hp
  exact ⟨hinv.fresh i (by omega), by omega⟩

/- Nothing is claimed about the identities a literal allocates: the value of a right-hand side never enters the
state, every store copies it first (`cloneOnStore`), so only the copy's identities matter and `evalRV_cases` needs
no more than `s.next ≤ n1`. -/
mutual
theorem alloc_spec (s : St) : (l : Lit) → (nx : Nat) →
    (match Lit.alloc .fixed s l nx with
     | some (v, n) => Spec.Val.litTree (abs s) l = some (eraseVal v) ∧ nx ≤ n
     | none => Spec.Val.litTree (abs s) l = none)
  | .int n, nx => by simp [Lit.alloc, Spec.Val.litTree, eraseVal]
  | .null, nx => by simp [Lit.alloc, Spec.Val.litTree, eraseVal]
  | .str cs, nx => by simp [Lit.alloc, Spec.Val.litTree, eraseVal]
  | .rd p, nx => by
      simp only [Lit.alloc, Spec.Val.litTree, abs_read]
      cases h : readPlace s p with
      | none => simp
      | some v => simp
  | .arr items, nx => by
      have ih := allocL_spec s items (nx + 1)
      simp only [Lit.alloc, Spec.Val.litTree]
      cases h : allocL .fixed s items (nx + 1) with
      | none => simp [h] at ih; simp [ih]
      | some r =>
        obtain ⟨kids, n⟩ := r
        simp only [h] at ih
        obtain ⟨h1, h2⟩ := ih
        simp only [h1, Option.map_some, eraseVal]
        exact ⟨trivial, by omega⟩
theorem allocL_spec (s : St) : (items : List (Key × Lit)) → (nx : Nat) →
    (match allocL .fixed s items nx with
     | some (kids, n) => Spec.Val.treeL (abs s) items = some (eraseL kids) ∧ nx ≤ n
     | none => Spec.Val.treeL (abs s) items = none)
  | [], nx => by simp [allocL, Spec.Val.treeL, eraseL]
  | (k, l) :: r, nx => by
      have ih1 := alloc_spec s l (nx + 1)
      simp only [allocL, Spec.Val.treeL]
      cases h : Lit.alloc .fixed s l (nx + 1) with
      | none => simp only [h] at ih1; simp [ih1]
      | some vn =>
        obtain ⟨v, n1⟩ := vn
        simp only [h] at ih1
        obtain ⟨e1, b1⟩ := ih1
        obtain ⟨ce, cn, _⟩ := cloneOnStore_spec v n1
        simp only [show Cfg.fixed.cloneOnElemStore = true from rfl, if_true]
        have ih2 := allocL_spec s r (cloneOnStore .fixed v n1).2
        cases h2 : allocL .fixed s r (cloneOnStore .fixed v n1).2 with
        | none =>
          simp only [h2] at ih2
          simp [e1, ih2]
        | some rn =>
          obtain ⟨rest, n2⟩ := rn
          simp only [h2] at ih2
          obtain ⟨e2, b2⟩ := ih2
          exact ⟨by simp [e1, e2, eraseL, ce], by omega⟩
end

theorem evalRV_cases (s : St) (r : RV) :
    (evalRV .fixed s r = none ∧ Spec.Val.evalRV (abs s) r = none) ∨
    ∃ v n1, evalRV .fixed s r = some (v, { s with next := n1 }) ∧
      Spec.Val.evalRV (abs s) r = some (eraseVal v) ∧ s.next ≤ n1 := by
  cases r with
  | int _ | null | str _ => exact Or.inr ⟨_, s.next, rfl, rfl, Nat.le_refl _⟩
  | upd p u =>
    cases h : readPlace s p with
    | none => exact Or.inl ⟨by simp [evalRV, h], by simp [Spec.Val.evalRV, abs_read, h]⟩
    | some v =>
      cases v with
      | arr a kids => exact Or.inl ⟨by simp [evalRV, h], by simp [Spec.Val.evalRV, abs_read, h, eraseVal]⟩
      | sc sv =>
        cases hu : u.apply sv with
        | none => exact Or.inl ⟨by simp [evalRV, h, hu], by simp [Spec.Val.evalRV, abs_read, h, eraseVal, hu]⟩
        | some r =>
          exact Or.inr ⟨.sc r, s.next, by simp [evalRV, h, hu],
            by simp [Spec.Val.evalRV, abs_read, h, eraseVal, hu], Nat.le_refl _⟩
  | rd p | call p =>
    cases h : readPlace s p with
    | none => exact Or.inl ⟨by simp [evalRV, h], by simp [Spec.Val.evalRV, abs_read, h]⟩
    | some v =>
      exact Or.inr ⟨v, s.next, by simp [evalRV, h], by simp [Spec.Val.evalRV, abs_read, h], Nat.le_refl _⟩
  | lit l =>
    have := alloc_spec s l s.next
    cases h : Lit.alloc .fixed s l s.next with
    | none => simp only [h] at this; exact Or.inl ⟨by simp [evalRV, h], by simp [Spec.Val.evalRV, this]⟩
    | some vn =>
      obtain ⟨v, n⟩ := vn
      simp only [h] at this
      obtain ⟨e, b⟩ := this
      exact Or.inr ⟨v, n, by simp [evalRV, h], by simp [Spec.Val.evalRV, e], b⟩

theorem cntVs_cons (a : Nat) (v : Val) (r : List Val) : cntVs a (v :: r) = vcnt a v + cntVs a r := rfl

theorem cloneProps_spec : (ps : List Val) → (n : Nat) →
    ((cloneProps .fixed ps n).1.map eraseVal = ps.map eraseVal) ∧ n ≤ (cloneProps .fixed ps n).2 ∧
    FreshIn (fun i => cntVs i (cloneProps .fixed ps n).1) n (cloneProps .fixed ps n).2
  | [], n => by simp [cloneProps, FreshIn, cntVs, wsum]
  | v :: r, n => by
      obtain ⟨ce, cn, cf⟩ := cloneOnStore_spec v n
      obtain ⟨e, le, fr⟩ := cloneProps_spec r (cloneOnStore .fixed v n).2
      simp only [cloneProps]
      exact ⟨by simp [ce, e], by omega, cf.add fr cn le⟩

end Proofs.Heap
