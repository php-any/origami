import Proofs.Lemmas.HeapWrite
/-!
C06: the statements that write through a place of any depth —
`place[k] = v` (creating missing keys on the way), `unset(place[k])`, `place->push(…)` —
executed on a state satisfying `Inv`, keep the invariant and denote the spec's step.
-/
namespace Proofs.Heap
open Model.Heap
open Spec.Val (abs eraseVal Tree)

/-- the simulation obligation for one statement -/
def SimOpt (s : St) (op : Op) : Prop :=
  match stepOpt .fixed s op with
  | some s' => Inv s' ∧ Spec.Val.stepOpt (abs s) op = some (abs s')
  | none => Spec.Val.stepOpt (abs s) op = none

theorem read_not_arr (s : St) (b : Place) (h : ∀ a kids, readPlace s b ≠ some (.arr a kids)) :
    ∀ l, Spec.Val.read (abs s) b ≠ some (.arr l) := by
  intro l hl
  rw [abs_read] at hl
  cases hr : readPlace s b with
  | none => simp [hr] at hl
  | some u =>
    cases u with
    | sc sc => simp [hr, eraseVal] at hl
    | arr a kids => exact h a kids hr

theorem hasKey_single (o : Option Val) (k : IKey) :
    (match o with
     | some (.arr _ kids) => some (Keys.find k (keys kids)).isSome
     | _ => none) = (o.map eraseVal).bind (existsAt [k]) := by
  cases o with
  | none => rfl
  | some w => cases w <;> simp [existsAt_single, eraseVal]

theorem keyExists_idx (s : St) (b' : Place) (k' k : IKey) :
    keyExists s (.idx b' k') k =
      (match keyExists s b' k' with
       | some true => (Spec.Val.read (abs s) (.idx b' k')).bind (existsAt [k])
       | r => r) := by
  rw [abs_read]
  simp only [keyExists]
  cases keyExists s b' k' with
  | none => rfl
  | some bb =>
    cases bb with
    | false => rfl
    | true => exact hasKey_single _ k

theorem keyExists_path (s : St) : (b : Place) → (k : IKey) →
    keyExists s b k = (Spec.Val.read (abs s) b.root).bind (existsAt (pathOf b ++ [k]))
  | .var x, k => by rw [abs_read]; exact hasKey_single _ k
  | .prop x p, k => by rw [abs_read]; exact hasKey_single _ k
  | .idx b' k', k => by
      rw [keyExists_idx, keyExists_path s b' k', read_root_path (abs s) (.idx b' k')]
      simp only [Place.root, pathOf]
      cases Spec.Val.read (abs s) b'.root with
      | none => rfl
      | some T0 =>
        simp only [Option.bind_some, existsAt_snoc (pathOf b' ++ [k']) (by simp)]
        -- the same `match` on both sides, compiled to two auxiliary matchers: only `rfl` sees it
        rfl

theorem arr_or_not (o : Option Val) :
    (∃ a kids, o = some (.arr a kids)) ∨ ∀ a kids, o ≠ some (.arr a kids) := by
  cases o with
  | none => exact Or.inr (by simp)
  | some w =>
    cases w with
    | sc sc => exact Or.inr (by simp)
    | arr a kids => exact Or.inl ⟨a, kids, rfl⟩

/-- The claim for `setIdx` started with the allocator at `n1`. The third clause is what the recursion needs: the copy
of `v` is made first (identities `[n1, n)`), the missing keys are created afterwards, by a recursive call started at
`n + 1`; that call must add no occurrence of an identity below its own start, or the copy would no longer be fresh
when it is stored. -/
def SetIdxGoal (s : St) (b : Place) (k : Option IKey) (v : Val) (n1 : Nat) : Prop :=
  match setIdx .fixed b { s with next := n1 } k v with
  | some s' => Inv s' ∧ n1 ≤ s'.next ∧ (∀ i, i < n1 → scnt s' i ≤ scnt s i) ∧
      Spec.Val.onArray (abs s) true b (fun l => Spec.Val.store l k (eraseVal v)) = some (abs s')
  | none => Spec.Val.onArray (abs s) true b (fun l => Spec.Val.store l k (eraseVal v)) = none

/-- The last step of `place[k] = v`, common to all cases: `storeAt` of the copy `v'` of `v` made at `n1` on a state `s1`
that grew out of `s` without adding occurrences of identities below `n`; `hspec` is `rfl` when nothing was created. -/
theorem storeAt_copy {s s1 : St} (hinv : Inv s) (hinv1 : Inv s1) (b : Place) (k : Option IKey) (v v' : Val) (n1 n : Nat)
    (hc : cloneOnStore .fixed v n1 = (v', n)) (hn : s.next ≤ n1) (hn1 : n ≤ s1.next)
    (hfr : ∀ i, i < n → scnt s1 i ≤ scnt s i)
    (hspec : Spec.Val.onArray (abs s) true b (fun l => Spec.Val.store l k (eraseVal v)) =
      Spec.Val.onArray (abs s1) true b (fun l => Spec.Val.store l k (eraseVal v)))
    (hnone : (∀ l, Spec.Val.read (abs s1) b ≠ some (.arr l)) →
      Spec.Val.onArray (abs s1) true b (fun l => Spec.Val.store l k (eraseVal v)) = none) :
    match storeAt .fixed s1 b k v' with
    | some s' => Inv s' ∧ n1 ≤ s'.next ∧ (∀ i, i < n1 → scnt s' i ≤ scnt s i) ∧
        Spec.Val.onArray (abs s) true b (fun l => Spec.Val.store l k (eraseVal v)) = some (abs s')
    | none => Spec.Val.onArray (abs s) true b (fun l => Spec.Val.store l k (eraseVal v)) = none := by
  obtain ⟨ce, cn, cf⟩ := cloneOnStore_spec v n1
  rw [hc] at ce cn cf
  have cf : ∀ i, vcnt i v' ≤ 1 ∧ (0 < vcnt i v' → n1 ≤ i ∧ i < n) := cf
  rw [hspec]
  rcases arr_or_not (readPlace s1 b) with ⟨a, kids, hr⟩ | hno
  · obtain ⟨l', hact, herase, _⟩ := storeAct_fixed kids k s1.next v'
    obtain ⟨hInv, hRead, hCnt, hSpec, _⟩ := inplace hinv1 b a kids l' hr (s1.next + 1) (by omega) (fun i => vcnt i v')
      (fun i => cnt_storeAct i kids l' k s1.next v' hact)
      (fun i => ⟨(cf i).1, fun hp => by
        have := (cf i).2 hp
        have := hfr i (by omega)
        have := hinv.fresh i (by omega)
        omega⟩)
    obtain ⟨w1, w2, w3, w4⟩ := writeBack_ok b hInv a l' hRead
    -- the state is named through an equation: `{ … with next := _ }` elaborates to different (definitionally
    -- equal) terms at different places, and `omega` needs one syntactic form
    have hst : storeAt .fixed s1 b k v' =
        some (writeBack .fixed { (s1.updArr a (fun _ => l')) with next := s1.next + 1 } b) := by
      simp only [storeAt, hr, hact, St.applyAct]
    rw [hst]
    refine ⟨w1, ?_, fun i hi => ?_, ?_⟩
    · have : s1.next + 1 ≤ _ := w3
      omega
    · have := w4 i
      have := hCnt i
      have := hfr i
      have := cf i
      omega
    · rw [w2, ← ce]; exact hSpec true _ herase
  · have : storeAt .fixed s1 b k v' = none := by simp only [storeAt]
    rw [this]
    exact hnone (read_not_arr s1 b hno)

theorem setIdx_root (b : Place) (hb : b.isRoot = true) (s : St) (k : Option IKey) (v : Val) :
    setIdx .fixed b s k v =
      storeAt .fixed { s with next := (cloneOnStore .fixed v s.next).2 } b k (cloneOnStore .fixed v s.next).1 := by
  cases b with
  | idx b k' => simp [Place.isRoot] at hb
  | var x => simp [setIdx, Cfg.fixed]
  | prop x p => simp [setIdx, Cfg.fixed]

/-- no key on the way is missing: nothing is created, on either side -/
theorem setIdx_stay {s : St} (hinv : Inv s) (b : Place) (k : Option IKey) (v v' : Val) (n1 n : Nat)
    (hc : cloneOnStore .fixed v n1 = (v', n)) (hn : s.next ≤ n1)
    (hne : ∀ T0, Spec.Val.read (abs s) b.root = some T0 → existsAt (pathOf b) T0 ≠ some false) :
    match storeAt .fixed { s with next := n } b k v' with
    | some s' => Inv s' ∧ n1 ≤ s'.next ∧ (∀ i, i < n1 → scnt s' i ≤ scnt s i) ∧
        Spec.Val.onArray (abs s) true b (fun l => Spec.Val.store l k (eraseVal v)) = some (abs s')
    | none => Spec.Val.onArray (abs s) true b (fun l => Spec.Val.store l k (eraseVal v)) = none :=
  have cn : n1 ≤ n := by have := (cloneOnStore_spec v n1).2.1; rwa [hc] at this
  storeAt_copy hinv (Inv.next hinv _ (Nat.le_trans hn cn)) b k v v' n1 n hc hn (Nat.le_refl _)
    (fun i _ => Nat.le_refl _) rfl (onArray_none (abs s) true b _ (fun _ => hne))

theorem setIdx_idx (b2 : Place) (k2 : IKey) (s : St) (k : Option IKey) (v : Val) :
    setIdx .fixed (.idx b2 k2) s k v =
      storeAt .fixed
        (if keyExists { s with next := (cloneOnStore .fixed v s.next).2 } b2 k2 = some false then
          (setIdx .fixed b2 { s with next := (cloneOnStore .fixed v s.next).2 + 1 } (some k2)
            (.arr (cloneOnStore .fixed v s.next).2 [])).getD { s with next := (cloneOnStore .fixed v s.next).2 }
         else { s with next := (cloneOnStore .fixed v s.next).2 })
        (.idx b2 k2) k (cloneOnStore .fixed v s.next).1 := by
  simp only [setIdx, show Cfg.fixed.cloneOnElemStore = true from rfl, if_true]
  congr 1
  split
  · next h => rw [if_pos h]; cases setIdx .fixed b2 _ _ _ <;> rfl
  · next h => rw [if_neg (fun e => h e)]

theorem setIdx_sim : (b : Place) → {s : St} → Inv s → (k : Option IKey) → (v : Val) → (n1 : Nat) →
    s.next ≤ n1 → SetIdxGoal s b k v n1
  | .var x, s, hinv, k, v, n1, hn => by
      unfold SetIdxGoal; rw [setIdx_root _ rfl]
      exact setIdx_stay hinv _ k v _ n1 _ rfl hn
        (fun T0 _ => by rw [(pathOf_of_isRoot (.var x) rfl).1]; simp [existsAt])
  | .prop x p, s, hinv, k, v, n1, hn => by
      unfold SetIdxGoal; rw [setIdx_root _ rfl]
      exact setIdx_stay hinv _ k v _ n1 _ rfl hn
        (fun T0 _ => by rw [(pathOf_of_isRoot (.prop x p) rfl).1]; simp [existsAt])
  | .idx b2 k2, s, hinv, k, v, n1, hn => by
      unfold SetIdxGoal
      rw [setIdx_idx]
      cases hc : cloneOnStore .fixed v n1 with
      | mk v' n =>
      have cn : n1 ≤ n := by have := (cloneOnStore_spec v n1).2.1; rwa [hc] at this
      simp only
      by_cases hE : keyExists { s with next := n } b2 k2 = some false
      · -- a key on the way is missing: the model first stores a fresh empty array `.arr n []` at `b2[k2]`, by a
        -- recursive call with the allocator at `n + 1` (`IndexExpression.SetValue`: `inner.SetValue(ctx, emptyArr)` before the store proper)
        rw [if_pos hE]
        rw [keyExists_path] at hE
        obtain ⟨T0, hT0, hex⟩ := Option.bind_eq_some_iff.mp hE
        have ih := setIdx_sim b2 hinv (some k2) (.arr n []) (n + 1) (by omega)
        unfold SetIdxGoal at ih
        rw [show eraseVal (.arr n []) = Tree.arr [] from rfl] at ih
        have hviv := onArray_vivify (abs s) b2 k2 T0 hT0 hex (fun l => Spec.Val.store l k (eraseVal v))
        cases hrec : setIdx .fixed b2 { s with next := n + 1 } (some k2) (.arr n []) with
        | none =>
          -- the creation is refused, hence (`ih`) by the spec too, and with it the whole store (`hviv`)
          rw [hrec] at ih
          rw [ih] at hviv
          exact storeAt_copy hinv (Inv.next hinv _ (by omega)) _ k v v' n1 n hc hn (Nat.le_refl _)
            (fun i _ => Nat.le_refl _) rfl (fun _ => hviv)
        | some s1 =>
          rw [hrec] at ih
          obtain ⟨j1, j2, j3, j4⟩ := ih
          rw [j4] at hviv
          -- the created key reads `[]`, so the store proper is not refused
          exact storeAt_copy hinv j1 _ k v v' n1 n hc hn (by omega) (fun i hi => j3 i (by omega)) hviv
            (fun h => (h [] (read_vivify (abs s) (abs s1) b2 k2 T0 hT0 hex j4)).elim)
      · rw [if_neg hE]
        exact setIdx_stay hinv (.idx b2 k2) k v v' n1 n hc hn
          (fun T0 (hT0 : Spec.Val.read (abs s) b2.root = some T0) hex => hE (by
            rw [keyExists_path]
            show (Spec.Val.read (abs s) b2.root).bind _ = _
            rw [hT0]; exact hex))

theorem SimOpt.take {s s' : St} {op : Op} (h1 : stepOpt .fixed s op = some s') (hi : Inv s')
    (h2 : Spec.Val.stepOpt (abs s) op = some (abs s')) : SimOpt s op := by
  unfold SimOpt; rw [h1]; exact ⟨hi, h2⟩

theorem SimOpt.skip {s : St} {op : Op} (h1 : stepOpt .fixed s op = none)
    (h2 : Spec.Val.stepOpt (abs s) op = none) : SimOpt s op := by
  unfold SimOpt; rw [h1]; exact h2

theorem sim_unset {s : St} (hinv : Inv s) (b : Place) (k : IKey) : SimOpt s (.unset b k) := by
  rcases arr_or_not (readPlace s b) with ⟨a, kids, hr⟩ | hno
  · obtain ⟨hInv, hRead, _, hSpec, _⟩ := inplace hinv b a kids (unsetKey kids k s.next).1 hr
      (s.next + (unsetKey kids k s.next).2) (by omega) (fun _ => 0)
      (fun i => by have := cnt_unsetKey i kids k s.next; omega)
      (fun i => ⟨by omega, fun h => by omega⟩)
    obtain ⟨w1, w2, _, _⟩ := writeBack_ok b hInv a _ hRead
    exact SimOpt.take (by simp only [stepOpt, unsetAt, hr]) w1
      (by rw [w2]; exact hSpec false (fun l => Spec.Val.unsetK l k) (erase_unsetKey kids k s.next))
  · refine SimOpt.skip ?_ (onArray_none (abs s) false b _ (fun hc => by cases hc) (read_not_arr s b hno))
    simp only [stepOpt, unsetAt]

theorem sim_meth {s : St} (hinv : Inv s) (b : Place) (m : Meth) : SimOpt s (.meth b m) := by
  rcases arr_or_not (readPlace s b) with ⟨a, kids, hr⟩ | hno
  · obtain ⟨hInv, _, _, hSpec, _⟩ := inplace hinv b a kids (Model.Heap.applyMeth kids m s.next) hr
      (s.next + 1) (by omega) (fun _ => 0)
      (fun i => by have := cnt_applyMeth i kids m s.next; omega)
      (fun i => ⟨by omega, fun h => by omega⟩)
    exact SimOpt.take (by simp only [stepOpt, methAt, hr]) hInv
      (hSpec false (fun l => Spec.Val.applyMeth l m) (erase_applyMeth kids m s.next))
  · refine SimOpt.skip ?_ (onArray_none (abs s) false b _ (fun hc => by cases hc) (read_not_arr s b hno))
    simp only [stepOpt, methAt]

theorem sim_setIdx {s : St} (hinv : Inv s) (b : Place) (k : Option IKey) (r : RV) : SimOpt s (.setIdx b k r) := by
  rcases evalRV_cases s r with ⟨h1, h2⟩ | ⟨v, n1, h1, h2, hle⟩
  · exact SimOpt.skip (by simp only [stepOpt, h1]) (by simp only [Spec.Val.stepOpt, h2])
  · have := setIdx_sim b hinv k v n1 hle
    unfold SetIdxGoal at this
    cases hs : setIdx .fixed b { s with next := n1 } k v with
    | none =>
      rw [hs] at this
      exact SimOpt.skip (by simp only [stepOpt, h1, hs]) (by simp only [Spec.Val.stepOpt, h2]; exact this)
    | some s' =>
      rw [hs] at this
      exact SimOpt.take (by simp only [stepOpt, h1, hs]) this.1
        (by simp only [Spec.Val.stepOpt, h2]; exact this.2.2.2)

end Proofs.Heap
