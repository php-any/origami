import Proofs.Lemmas.HeapSim
/-!
C06, the simulation — **every** statement keeps `Inv` and denotes
the spec's step; hence every program.
-/
namespace Proofs.Heap
open Model.Heap
open Spec.Val (abs eraseVal)

theorem Inv.setVarScalar {s : St} (hinv : Inv s) (x : Nat) (sc : Scalar) : Inv (s.setVar x (.sc sc)) := by
  simp only [St.setVar]
  cases hc : s.names[x]? with
  | none => exact hinv
  | some c =>
    have hlt := hinv.wf x c hc
    have hold : holder? s (.v c) = some s.vcells[c] := List.getElem?_eq_getElem hlt
    exact Inv.replace hinv (.v c) _ (.sc sc) s.next (fun _ => 0) hold (Nat.le_refl _)
      (fun i => by simp [vcnt]) (fun i => ⟨by omega, fun h => by omega⟩)

theorem sim_setVar {s : St} (hinv : Inv s) (x : Nat) (r : RV) : SimOpt s (.setVar x r) := by
  rcases evalRV_cases s r with ⟨h1, h2⟩ | ⟨v, n1, h1, h2, hle⟩
  · exact SimOpt.skip (by simp [stepOpt, h1]) (by simp [Spec.Val.stepOpt, h2])
  · obtain ⟨ce, cn, cf⟩ := cloneOnStore_spec v n1
    have hstep : stepOpt .fixed s (.setVar x r) =
        some { (({ s with next := n1 } : St).setVar x (cloneOnStore .fixed v n1).1) with next := (cloneOnStore .fixed v n1).2 } := by
      simp [stepOpt, h1, show Cfg.fixed.copyCallResult = true from rfl]
    refine SimOpt.take hstep ?_ ?_
    · cases hc : s.names[x]? with
      | none =>
        have : ({ s with next := n1 } : St).setVar x (cloneOnStore .fixed v n1).1 = { s with next := n1 } := by
          simp [St.setVar, hc]
        rw [this]
        exact Inv.next hinv _ (by omega)
      | some c =>
        have hlt := hinv.wf x c hc
        have hold : holder? s (.v c) = some s.vcells[c] := List.getElem?_eq_getElem hlt
        -- the state the model steps to, in the form `Inv.replace` speaks of (named through an equation for the reason
        -- given in `storeAt_copy`)
        have : ({ (({ s with next := n1 } : St).setVar x (cloneOnStore .fixed v n1).1) with next := (cloneOnStore .fixed v n1).2 } : St) =
            { (setHolder s (.v c) (cloneOnStore .fixed v n1).1) with next := (cloneOnStore .fixed v n1).2 } := by
          simp [St.setVar, hc, setHolder]
        rw [this]
        exact Inv.replace hinv (.v c) _ _ _ (fun i => vcnt i (cloneOnStore .fixed v n1).1) hold (by omega)
          (fun i => by omega) (fresh_for hinv _ n1 _ _ cf hle (Nat.le_refl _))
    · simp only [Spec.Val.stepOpt, h2, Option.map_some]
      show some ((abs s).setVar x (eraseVal v)) = some (abs (({ s with next := n1 } : St).setVar x (cloneOnStore .fixed v n1).1))
      rw [abs_setVar, ce]; rfl

theorem sim_setProp {s : St} (hinv : Inv s) (x p : Nat) (r : RV) : SimOpt s (.setProp x p r) := by
  rcases evalRV_cases s r with ⟨h1, h2⟩ | ⟨v, n1, h1, h2, hle⟩
  · exact SimOpt.skip (by simp [stepOpt, h1]) (by simp [Spec.Val.stepOpt, h2])
  · obtain ⟨ce, cn, cf⟩ := cloneOnStore_spec v n1
    have hobj : ({ s with next := n1 } : St).varObj? x = s.varObj? x := rfl
    cases hh : s.varObj? x with
    | none =>
      exact SimOpt.skip (by simp [stepOpt, h1, hobj, hh]) (by simp [Spec.Val.stepOpt, h2, abs_varObj?, hh])
    | some h =>
      have hpv : ({ s with next := n1 } : St).propVal? h p = s.propVal? h p := rfl
      cases hold : s.propVal? h p with
      | none =>
        exact SimOpt.skip (by simp [stepOpt, h1, hobj, hh, hpv, hold])
          (by simp [Spec.Val.stepOpt, h2, abs_varObj?, abs_propVal?, hh, hold])
      | some old =>
        have hstep : stepOpt .fixed s (.setProp x p r) =
            some { (({ s with next := n1 } : St).setProp h p (cloneOnStore .fixed v n1).1) with next := (cloneOnStore .fixed v n1).2 } := by
          simp [stepOpt, h1, hobj, hh, hpv, hold]
        refine SimOpt.take hstep ?_ ?_
        · have : ({ (({ s with next := n1 } : St).setProp h p (cloneOnStore .fixed v n1).1) with next := (cloneOnStore .fixed v n1).2 } : St) =
              { (setHolder s (.p h p) (cloneOnStore .fixed v n1).1) with next := (cloneOnStore .fixed v n1).2 } := by
            rw [setProp_next]; rfl
          rw [this]
          exact Inv.replace hinv (.p h p) old _ _ (fun i => vcnt i (cloneOnStore .fixed v n1).1) hold (by omega)
            (fun i => by omega) (fresh_for hinv _ n1 _ _ cf hle (Nat.le_refl _))
        · simp only [Spec.Val.stepOpt, h2, abs_varObj?, hh, abs_propVal?, hold, Option.map_some]
          show some ((abs s).setProp h p (eraseVal v)) = some (abs (({ s with next := n1 } : St).setProp h p (cloneOnStore .fixed v n1).1))
          rw [abs_setProp, ce]; rfl

theorem sim_ref {s : St} (hinv : Inv s) (x y : Nat) : SimOpt s (.ref x y) := by
  have hn : (abs s).names = s.names := rfl
  cases hy : s.names[y]? with
  | none => exact SimOpt.skip (by simp only [stepOpt, hy]) (by simp only [Spec.Val.stepOpt, hn, hy])
  | some c =>
    by_cases hx : x < s.names.length
    · refine SimOpt.take (s' := { s with names := s.names.set x c }) (by simp only [stepOpt, hy, hx, if_true])
        ⟨?_, hinv.uniq, hinv.bound⟩ (by simp only [Spec.Val.stepOpt, hn, hy, hx, if_true]; rfl)
      intro x' c' h'
      simp only [List.getElem?_set] at h'
      split at h'
      · injection h' with e; subst e; exact hinv.wf y c hy
      · exact hinv.wf x' c' h'
    · exact SimOpt.skip (by simp only [stepOpt, hy, hx, if_false])
        (by simp only [Spec.Val.stepOpt, hn, hy, hx, if_false])

theorem setVar_objs (s : St) (x : Nat) (w : Val) : (s.setVar x w).objs = s.objs := by
  simp only [St.setVar]; cases s.names[x]? <;> rfl

theorem sim_new {s : St} (hinv : Inv s) (x : Nat) : SimOpt s (.new x) := by
  have hcomm : ({ (s.setVar x (.sc (.inst s.objs.length))) with objs := s.objs ++ [List.replicate np (.sc .null)] } : St) =
      ({ s with objs := s.objs ++ [List.replicate np (.sc .null)], next := s.next } : St).setVar x (.sc (.inst s.objs.length)) := by
    simp only [St.setVar]; cases s.names[x]? <;> rfl
  refine SimOpt.take (op := .new x) rfl ?_ ?_
  · rw [hcomm]
    apply Inv.setVarScalar
    apply Inv.appendObj hinv _ s.next (Nat.le_refl _)
    intro i
    have : cntVs i (List.replicate np (Val.sc Scalar.null)) = 0 := wsum_replicate _ _ _ rfl
    rw [this]
    exact ⟨by omega, fun h => by omega⟩
  · have hlen : (abs s).objs.length = s.objs.length := by simp [abs]
    simp only [Spec.Val.stepOpt]
    rw [hlen]
    congr 1
    simp only [abs, Spec.Val.St.setVar, St.setVar]
    cases s.names[x]? <;> simp [eraseVal, List.map_set]

theorem sim_clone {s : St} (hinv : Inv s) (x y : Nat) : SimOpt s (.clone x y) := by
  cases hh : s.varObj? y with
  | none => exact SimOpt.skip (by simp only [stepOpt, hh]) (by simp only [Spec.Val.stepOpt, abs_varObj?, hh])
  | some h =>
    have hobjs : (abs s).objs[h]? = (s.objs[h]?).map (·.map eraseVal) := by simp [abs]
    cases hps : s.objs[h]? with
    | none =>
      exact SimOpt.skip (by simp only [stepOpt, hh, hps])
        (by simp only [Spec.Val.stepOpt, abs_varObj?, hh, hobjs, hps, Option.map_none])
    | some ps =>
      obtain ⟨ce, cle, cfr⟩ := cloneProps_spec ps s.next
      refine SimOpt.take
        (s' := { (({ s with objs := s.objs ++ [(cloneProps .fixed ps s.next).1] } : St).setVar x
          (.sc (.inst s.objs.length))) with next := (cloneProps .fixed ps s.next).2 })
        (by simp only [stepOpt, hh, hps]) ?_ ?_
      · have hcomm : ({ (({ s with objs := s.objs ++ [(cloneProps .fixed ps s.next).1] } : St).setVar x (.sc (.inst s.objs.length))) with
            next := (cloneProps .fixed ps s.next).2 } : St) =
            ({ s with objs := s.objs ++ [(cloneProps .fixed ps s.next).1], next := (cloneProps .fixed ps s.next).2 } : St).setVar x
              (.sc (.inst s.objs.length)) := by
          simp only [St.setVar]; cases s.names[x]? <;> rfl
        rw [hcomm]
        apply Inv.setVarScalar
        exact Inv.appendObj hinv _ _ cle (fresh_for hinv _ s.next _ _ cfr (Nat.le_refl _) (Nat.le_refl _))
      · have hlen : (abs s).objs.length = s.objs.length := by simp [abs]
        simp only [Spec.Val.stepOpt, abs_varObj?, hh, hobjs, hps, Option.map_some]
        rw [hlen]
        congr 1
        simp only [abs, Spec.Val.St.setVar, St.setVar]
        cases s.names[x]? <;> simp [eraseVal, List.map_set, ce]

theorem sim_opt {s : St} (hinv : Inv s) (op : Op) : SimOpt s op := by
  cases op with
  | setVar x r => exact sim_setVar hinv x r
  | setProp x p r => exact sim_setProp hinv x p r
  | setIdx b k r => exact sim_setIdx hinv b k r
  | unset b k => exact sim_unset hinv b k
  | meth b m => exact sim_meth hinv b m
  | new x => exact sim_new hinv x
  | clone x y => exact sim_clone hinv x y
  | ref x y => exact sim_ref hinv x y

theorem step_sim {s : St} (hinv : Inv s) (op : Op) :
    Inv (step .fixed s op) ∧ abs (step .fixed s op) = Spec.Val.step (abs s) op := by
  have h := sim_opt hinv op
  unfold SimOpt at h
  unfold step Spec.Val.step
  cases hs : stepOpt .fixed s op with
  | none => simp only [hs] at h; simp [h, hinv]
  | some s' => simp only [hs] at h; simp [h.2, h.1]

theorem inv_init (nv : Nat) : Inv (init nv) := by
  have h0 : ∀ a, scnt (init nv) a = 0 := by
    intro a
    simp only [scnt, init, cntOs, wsum, cntVs]
    rw [wsum_replicate (vcnt a) nv (.sc .null) rfl]
  refine ⟨?_, fun a => by rw [h0]; omega, fun a ha => by rw [h0] at ha; omega⟩
  intro x c h
  simp only [init, List.length_replicate] at h ⊢
  obtain ⟨h1, h2⟩ := List.getElem?_eq_some_iff.mp h
  simp at h1 h2
  omega

theorem abs_init (nv : Nat) : abs (init nv) = Spec.Val.init nv := by
  simp [abs, init, Spec.Val.init, eraseVal]

theorem run_sim (nv : Nat) (ops : List Op) :
    Inv (run .fixed nv ops) ∧ abs (run .fixed nv ops) = Spec.Val.run nv ops := by
  unfold run Spec.Val.run
  refine List.foldl_rel (r := fun s t => Inv s ∧ abs s = t) ⟨inv_init nv, abs_init nv⟩ ?_
  rintro op _ s t ⟨hi, rfl⟩
  exact step_sim hi op

theorem abs_run_snoc (nv : Nat) (ops : List Op) (w : Op) :
    abs (run .fixed nv (ops ++ [w])) = Spec.Val.step (abs (run .fixed nv ops)) w := by
  rw [run, List.foldl_append]
  exact (step_sim (run_sim nv ops).1 w).2

end Proofs.Heap
