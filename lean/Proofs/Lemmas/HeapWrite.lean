import Proofs.Lemmas.HeapRead
import Proofs.Lemmas.SpecRoot
/-!
C06: an in-place mutation of the array object found at a place of **any
depth** — on a state satisfying `Inv` — changes exactly the root name of that place,
along the path; keeps the invariant; and denotes the spec's `onArray`.  The write-back
chain (`writeBack`, Go `writeBackArrayProperty`; `writeBack_ok`) re-stores what is already there.
-/
namespace Proofs.Heap
open Model.Heap
open Spec.Val (abs eraseVal eraseL Tree Entry)

theorem setProp_next (s : St) (n h p : Nat) (w : Val) :
    ({ s with next := n } : St).setProp h p w = { (s.setProp h p w) with next := n } := by
  simp only [St.setProp]
  cases s.objs[h]? <;> rfl

theorem varObj?_setProp (s : St) (h p : Nat) (w : Val) (x : Nat) : (s.setProp h p w).varObj? x = s.varObj? x := by
  simp only [St.setProp]
  cases s.objs[h]? <;> rfl

theorem abs_setHolder_same (s : St) (P : Pos) (w nv : Val) (hP : holder? s P = some w)
    (he : eraseVal nv = eraseVal w) : abs (setHolder s P nv) = abs s := by
  cases P with
  | v c =>
    simp only [holder?] at hP
    simp only [setHolder, abs, List.map_set, he]
    congr 1
    exact list_set_same _ _ _ (by simp [hP])
  | p h p =>
    obtain ⟨ps, hps, hP⟩ := propVal?_some hP
    have h1 : (ps.set p nv).map eraseVal = ps.map eraseVal := by
      rw [List.map_set, he]; exact list_set_same _ _ _ (by simp [hP])
    simp only [setHolder, St.setProp, hps, abs, List.map_set, h1]
    congr 1
    exact list_set_same _ _ _ (by simp [hps])

/-- the holder behind a root place (`$x`, `$x->p`), as a lens; the model/spec counterpart of `modify_root_form` -/
theorem root_lens (s : St) (r : Place) (hr : r.isRoot = true) (w : Val) (h : readPlace s r = some w) :
    ∃ P, holder? s P = some w ∧
      (∀ nv n, readPlace { (setHolder s P nv) with next := n } r = some nv) ∧
      ∀ (c : Bool) (H : Tree → Option Tree) (nv : Val) (n : Nat), H (eraseVal w) = some (eraseVal nv) →
        Spec.Val.modify (abs s) c r H = some (abs { (setHolder s P nv) with next := n }) := by
  cases r with
  | idx b k => simp [Place.isRoot] at hr
  | var x =>
    simp only [readPlace, St.varVal?] at h
    cases hc : s.names[x]? with
    | none => simp [hc] at h
    | some c =>
      rw [hc] at h
      have hlt : c < s.vcells.length := (List.getElem?_eq_some_iff.mp h).1
      refine ⟨.v c, h, fun nv n => by simp [readPlace, St.varVal?, setHolder, hc, hlt], fun cc H nv n hH => ?_⟩
      simp only [Spec.Val.modify, abs_varVal?, St.varVal?, hc, h, Option.map_some, hH]
      simp [setHolder, abs, Spec.Val.St.setVar, hc, List.map_set]
  | prop x p =>
    simp only [readPlace] at h
    cases hh : s.varObj? x with
    | none => simp [hh] at h
    | some hd =>
      rw [hh] at h
      refine ⟨.p hd p, h, fun nv n => ?_, fun cc H nv n hH => ?_⟩
      · have h1 : ({ (setHolder s (.p hd p) nv) with next := n } : St).varObj? x = some hd :=
          (varObj?_setProp s hd p nv x).trans hh
        simp only [readPlace, h1]
        exact (propVal?_setProp s hd p nv hd p w h).trans (by simp)
      · simp only [Spec.Val.modify, abs_varObj?, hh, abs_propVal?, h, Option.map_some, hH]
        exact congrArg some (abs_setProp s hd p nv).symm

/-- The counts (3) feed the next store on the way (`storeAt_copy`, `writeBack_ok`); (4) is for the statement
itself, (5) for the write-back chain, which re-stores what is there. -/
theorem inplace {s : St} (hinv : Inv s) (b : Place) (a : Nat) (kids kids' : List Slot)
    (hr : readPlace s b = some (.arr a kids)) (n1 : Nat) (hn : s.next ≤ n1) (e : Nat → Nat)
    (hk : ∀ i, cntL i kids' ≤ cntL i kids + e i)
    (he : ∀ i, e i ≤ 1 ∧ (0 < e i → scnt s i = 0 ∧ i < n1)) :
    Inv { (s.updArr a (fun _ => kids')) with next := n1 } ∧
    readPlace { (s.updArr a (fun _ => kids')) with next := n1 } b = some (.arr a kids') ∧
    (∀ i, scnt { (s.updArr a (fun _ => kids')) with next := n1 } i ≤ scnt s i + e i) ∧
    (∀ (c : Bool) (g : List Entry → List Entry), eraseL kids' = g (eraseL kids) →
      Spec.Val.onArray (abs s) c b g = some (abs { (s.updArr a (fun _ => kids')) with next := n1 })) ∧
    (eraseL kids' = eraseL kids → abs { (s.updArr a (fun _ => kids')) with next := n1 } = abs s) := by
  rw [readPlace_root_path] at hr
  obtain ⟨w, hw, hwalk⟩ := Option.bind_eq_some_iff.mp hr
  obtain ⟨P, hP, hread, hmod⟩ := root_lens s b.root (root_isRoot b) w hw
  have hs := sits_of_walk hwalk
  obtain ⟨hW, hC, hM, hE⟩ := hs.setAt_spec (.arr a kids')
  -- `a` occurs once in the state and sits in `w`: the mutation is a `setAt` in the holder of the root name
  have hupd : s.updArr a (fun _ => kids') = setHolder s P (setAt (pathOf b) (.arr a kids') w) := by
    have h1 := hs.cnt
    have h2 := scnt_holder_le s P w a hP
    have h3 := hinv.uniq a
    rw [updArr_eq_setHolder P a w h3 hP h1, hs.updArr _ (by omega)]
  rw [hupd]
  have hcnt : ∀ i, vcnt i (setAt (pathOf b) (.arr a kids') w) ≤ vcnt i w + e i := by
    intro i
    have h1 := hC i
    have h2 := hk i
    simp only [vcnt] at h1 ⊢
    omega
  refine ⟨Inv.replace hinv P w _ n1 e hP hn hcnt he, ?_, ?_, ?_, ?_⟩
  · rw [readPlace_root_path, hread, Option.bind_some]
    exact hW
  · intro i
    rw [scnt_next]
    have h1 := scnt_setHolder s P w (setAt (pathOf b) (.arr a kids') w) i hP
    have h2 := hcnt i
    omega
  · intro c g hg
    rw [onArray_eq, modify_root_path]
    exact hmod c _ _ n1 (hM c (onArr g) (by simp [onArr, eraseVal, hg]))
  · intro hg
    show abs (setHolder s P _) = abs s
    exact abs_setHolder_same s P w _ hP (hE (by simp [eraseVal, hg]))

/-- `indexSetValueOnContainer` on the parent with a key that is there -/
theorem writeBackAct_found (pkids : List Slot) (k2 : IKey) (j c n : Nat) (kk : Key) (old child : Val)
    (hf : Keys.find k2 (keys pkids) = some j) (hs : pkids[j]? = some (c, kk, old)) :
    writeBackAct .fixed pkids k2 n child = .list (pkids.set j (n, kk, child)) := by
  cases k2 with
  | int i =>
    simp only [Keys.find] at hf
    simp [writeBackAct, Cfg.fixed, setIntKey, hf, hitAct, storeSlot, hs]
  | str t =>
    simp only [Keys.find] at hf
    simp [writeBackAct, setNamedKey, hf, hitAct, Cfg.fixed, storeSlot, hs]

theorem readPlace_idx_arr (s : St) (b2 : Place) (k2 : IKey) (a : Nat) (kids : List Slot)
    (h : readPlace s (.idx b2 k2) = some (.arr a kids)) :
    ∃ pa pkids j c kk, readPlace s b2 = some (.arr pa pkids) ∧ Keys.find k2 (keys pkids) = some j ∧
      pkids[j]? = some (c, kk, .arr a kids) := by
  rw [readPlace_idx] at h
  obtain ⟨pv, hb, h⟩ := Option.bind_eq_some_iff.mp h
  cases sits_of_walk h with
  | under hf hs hc => cases hc; exact ⟨_, _, _, _, _, hb, hf, hs⟩

theorem writeBack_ok : (b : Place) → {s : St} → Inv s → (a : Nat) → (kids : List Slot) →
    readPlace s b = some (.arr a kids) →
    Inv (writeBack .fixed s b) ∧ abs (writeBack .fixed s b) = abs s ∧ s.next ≤ (writeBack .fixed s b).next ∧
      ∀ i, scnt (writeBack .fixed s b) i ≤ scnt s i
  | .var x, s, hinv, a, kids, hr => by simp [writeBack, hinv]
  | .prop x p, s, hinv, a, kids, hr => by simp [writeBack, Cfg.fixed, hinv]
  | .idx b2 k2, s, hinv, a, kids, hr => by
      obtain ⟨pa, pkids, j, c, kk, hb, hf, hs⟩ := readPlace_idx_arr s b2 k2 a kids hr
      have hact := writeBackAct_found pkids k2 j c s.next kk (.arr a kids) (.arr a kids) hf hs
      have hwb : writeBack .fixed s (.idx b2 k2) =
          writeBack .fixed { (s.updArr pa (fun _ => pkids.set j (s.next, kk, .arr a kids))) with next := s.next + 1 } b2 := by
        simp only [writeBack, hb, hr, hact, St.applyAct]
      -- slot `j` gets the cell id `s.next` and the value it held: an `inplace` that adds no identity
      -- (`e = 0`) and keeps what the parent denotes
      have hcn : ∀ i, cntL i (pkids.set j (s.next, kk, .arr a kids)) ≤ cntL i pkids + 0 := by
        intro i
        have := cntL_set i pkids j (c, kk, .arr a kids) (s.next, kk, .arr a kids) hs
        simp only at this; omega
      have her : eraseL (pkids.set j (s.next, kk, .arr a kids)) = eraseL pkids := by
        rw [eraseL_set]
        exact list_set_same _ _ _ (by simp [eraseL_getElem?, hs])
      obtain ⟨hInv, hRead, hCnt, _, hSame⟩ := inplace hinv b2 pa pkids _ hb (s.next + 1) (by omega) (fun _ => 0) hcn
        (fun i => ⟨by omega, fun h => by omega⟩)
      obtain ⟨w1, w2, w3, w4⟩ := writeBack_ok b2 hInv pa _ hRead
      rw [hwb]
      refine ⟨w1, by rw [w2, hSame her], ?_, ?_⟩
      · have : s.next + 1 ≤ _ := w3
        omega
      · intro i; have := w4 i; have := hCnt i; omega

end Proofs.Heap
