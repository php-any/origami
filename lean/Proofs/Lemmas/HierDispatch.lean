import Proofs.Lemmas.HierWalk
/-! C08: lookups up the extends chain find the most-derived / nearest declaration. `Finds` is for a lookup what `Decides` is for a
subtype test: the walk answered, and its answer is what the hierarchy says. One induction over `walkUp` with the visit that tags a
declaration with its class shows every outcome sound; the meanings of the outcomes exclude each other on the specification side,
so every iff is read off. In `Proofs.HierShape`: every well-shaped `Model.HierShape.Chain` record (leaves at the first hit, no
extra condition in the hit test, advances to the parent of the class it examined, reports that class) is interpreted as one of
the two lookups. -/
namespace Proofs.Hier
open Model.Hier Spec.Hier Model.HierShape

variable {α : Type}

/-- the visit of a lookup -/
abbrev tagged (g : Cls → Option α) (c : Cls) : Option (Option (Cls × α)) := some ((g c).map (fun r => (c, r)))

theorem mostDerived_self {G : Graph} {g : Cls → Option α} {c : Cls} {r : α} (h : g c = some r) : MostDerived G g c c r :=
  ⟨[], AncVia.self c, h, fun _ hx => nomatch hx⟩

theorem mostDerived_up {G : Graph} {g : Cls → Option α} {c c' d : Cls} {p : Name} {r : α} (hg : g c = none)
    (hp : c.ext = some p) (hc' : getClass G p = some c') : MostDerived G g c' d r → MostDerived G g c d r
  | ⟨via, hvia, hd, hnone⟩ =>
    ⟨c :: via, AncVia.up hp hc' hvia, hd, fun x hx => (List.mem_cons.1 hx).elim (fun h => h ▸ hg) (hnone x)⟩

theorem noneDeclares_up {G : Graph} {g : Cls → Option α} {c : Cls} (hg : g c = none)
    (h : ∀ p c', c.ext = some p → getClass G p = some c' → NoneDeclares G g c') : NoneDeclares G g c := by
  intro via d hvia
  cases hvia with
  | self => exact hg
  | up hp hc' hrest => exact h _ _ hp hc' _ _ hrest

theorem mostDerived_not_none {G : Graph} {g : Cls → Option α} {c d : Cls} {r : α}
    (h : MostDerived G g c d r) (hn : NoneDeclares G g c) : False := by
  obtain ⟨via, hvia, hd, _⟩ := h
  rw [hn via d hvia] at hd; cases hd

theorem mostDerived_unique {G : Graph} {g : Cls → Option α} {c d d' : Cls} {x x' : α}
    (h : MostDerived G g c d x) (h' : MostDerived G g c d' x') : d = d' ∧ x = x' := by
  obtain ⟨via, hv, hd, hn⟩ := h
  obtain ⟨via', hv', hd', hn'⟩ := h'
  induction hv generalizing via' with
  | self c =>
    cases hv' with
    | self => exact ⟨rfl, Option.some.inj (hd.symm.trans hd')⟩
    | up => exact nomatch hd.symm.trans (hn' _ (List.mem_cons_self ..))
  | @up c c₁ _ p _ hp hc _ ih =>
    cases hv' with
    | self => exact nomatch hd'.symm.trans (hn _ (List.mem_cons_self ..))
    | up hp' hc' hrest' =>
      cases hp.symm.trans hp'
      cases hc.symm.trans hc'
      exact ih hd (fun e he => hn e (List.mem_cons_of_mem _ he)) _ hrest' (fun e he => hn' e (List.mem_cons_of_mem _ he))

def Finds (G : Graph) (g : Cls → Option α) (c : Cls) (w : Walk (Cls × α)) : Prop :=
  (∃ d x, w = .found (d, x) ∧ MostDerived G g c d x) ∨ ((w = .absent ∨ ∃ n, w = .missing n) ∧ NoneDeclares G g c)

theorem finds_iffs {G : Graph} {g : Cls → Option α} {c : Cls} {w : Walk (Cls × α)} (h : Finds G g c w) :
    (∀ d x, w = .found (d, x) ↔ MostDerived G g c d x) ∧ ((w = .absent ∨ ∃ n, w = .missing n) ↔ NoneDeclares G g c) := by
  rcases h with ⟨d, x, rfl, hm⟩ | ⟨hw, hnd⟩
  · refine ⟨fun d' x' => ⟨fun e => ?_, fun hm' => ?_⟩, fun e => ?_, fun hnd => (mostDerived_not_none hm hnd).elim⟩
    · cases e; exact hm
    · obtain ⟨rfl, rfl⟩ := mostDerived_unique hm hm'; rfl
    · rcases e with e | ⟨n, e⟩ <;> cases e
  · refine ⟨fun d x => ⟨fun e => ?_, fun hm => (mostDerived_not_none hm hnd).elim⟩, fun _ => hnd, fun _ => hw⟩
    rcases hw with rfl | ⟨n, rfl⟩ <;> cases e

theorem finds_up {G : Graph} {g : Cls → Option α} {c c' : Cls} {p : Name} {w : Walk (Cls × α)} (hg : g c = none)
    (hp : c.ext = some p) (hc' : getClass G p = some c') : Finds G g c' w → Finds G g c w
  | .inl ⟨d, x, hw, hm⟩ => .inl ⟨d, x, hw, mostDerived_up hg hp hc' hm⟩
  | .inr ⟨hw, hnd⟩ => .inr ⟨hw, noneDeclares_up hg fun _ _ hp' hc'' => by
      cases hp.symm.trans hp'; cases hc'.symm.trans hc''; exact hnd⟩

theorem walkTag_no_fuel (G : Graph) (hn : NoCycle (csucc G)) (g : Cls → Option α) (ext : Option Name) :
    walkUp G (tagged g) (classFuel G) ext ≠ .fuel :=
  walkUp_no_fuel G hn _ (fun _ => Option.some_ne_none _) ext

/-- The cases are those of `walkUp`: no parent, no fuel, parent not loaded, the visit out of fuel (a tagging visit never is),
hit, pass. -/
theorem walkTag_finds (G : Graph) (g : Cls → Option α) (f : Nat) (ext : Option Name) : ∀ c, g c = none → c.ext = ext →
    walkUp G (tagged g) f ext = .fuel ∨ Finds G g c (walkUp G (tagged g) f ext) := by
  fun_induction walkUp G (tagged g) f ext with
  | case1 => exact fun c hg hp => .inr (.inr ⟨.inl rfl, noneDeclares_up hg fun _ _ hp' => nomatch hp.symm.trans hp'⟩)
  | case2 => exact fun _ _ _ => .inl rfl
  | case3 f p hc' =>
    exact fun c hg hp => .inr (.inr ⟨.inr ⟨p, rfl⟩, noneDeclares_up hg fun _ _ hp' hc'' => by
      cases hp.symm.trans hp'; exact nomatch hc'.symm.trans hc''⟩)
  | case4 f p c' hc' hv => exact nomatch hv
  | case5 f p c' hc' r hv =>
    obtain ⟨x, hx, rfl⟩ : ∃ x, g c' = some x ∧ (c', x) = r := by simpa [tagged] using hv
    exact fun c hg hp => .inr (.inl ⟨c', x, rfl, mostDerived_up hg hp hc' (mostDerived_self hx)⟩)
  | case6 f p c' hc' hv ih =>
    have hg' : g c' = none := by simpa [tagged] using hv
    exact fun c hg hp => (ih c' hg' rfl).imp id (finds_up hg hp hc')

/-- the walk that starts AT a declared class (`parent::` hands it the parent's name) -/
theorem walkTag_finds_at (G : Graph) (hn : NoCycle (csucc G)) (g : Cls → Option α) (p : Cls) (hp : Declared G p) :
    Finds G g p (walkUp G (tagged g) (classFuel G) (some p.name)) := by
  have hf := walkTag_no_fuel G hn g (some p.name)
  unfold classFuel at hf ⊢
  rw [walkUp, hp] at hf ⊢
  cases hg : g p with
  | some r => exact .inl ⟨p, r, by simp [tagged, hg], mostDerived_self hg⟩
  | none =>
    simp only [tagged, hg, Option.map_none] at hf ⊢
    exact (walkTag_finds G g _ _ p hg rfl).resolve_left hf

theorem visitBoth_eq (m : Name) : visitBoth m = tagged (declAny m) := by
  funext c
  show visitBoth m c = some ((declAny m c).map fun r => (c, r))
  unfold visitBoth declAny
  cases findM c.meths m with
  | some x => rfl
  | none => cases findM c.smeths m <;> rfl

theorem lookupFrom_eq_lookupG (G : Graph) (pick : Cls → List Meth) (c : Cls) (m : Name) :
    lookupFrom G pick c m = lookupG G (fun k => findM (pick k) m) c := by
  unfold lookupFrom lookupG
  dsimp only
  cases findM (pick c) m <;> rfl

theorem lookupG_finds (G : Graph) (hn : NoCycle (csucc G)) (g : Cls → Option α) (c : Cls) : Finds G g c (lookupG G g c) := by
  unfold lookupG
  cases hg : g c with
  | some x => exact .inl ⟨c, x, rfl, mostDerived_self hg⟩
  | none => exact (walkTag_finds G g _ _ c hg rfl).resolve_left (walkTag_no_fuel G hn g c.ext)

theorem lookupFrom_finds (G : Graph) (hn : NoCycle (csucc G)) (pick : Cls → List Meth) (c : Cls) (m : Name) :
    Finds G (fun k => findM (pick k) m) c (lookupFrom G pick c m) :=
  lookupFrom_eq_lookupG G pick c m ▸ lookupG_finds G hn _ c


theorem lookupFrom_iff (G : Graph) (hn : NoCycle (csucc G)) (pick : Cls → List Meth) (c d : Cls) (m : Name) (x : Meth) :
    lookupFrom G pick c m = .found (d, x) ↔ MostDerived G (fun k => findM (pick k) m) c d x :=
  (finds_iffs (lookupFrom_finds G hn pick c m)).1 d x

theorem lookupFrom_no_missing (G : Graph) (hwf : WF G) (pick : Cls → List Meth) (c : Cls) (hc : Declared G c)
    (m : Name) (n : Name) : lookupFrom G pick c m ≠ .missing n := by
  rw [lookupFrom_eq_lookupG]
  unfold lookupG
  split
  · nofun
  · exact walkUp_no_missing G hwf _ c hc _ n

theorem likeMeths_spec (G : Graph) (hn : NoCycle (csucc G)) (c : Cls) : ∀ targets : List Meth,
    ∃ b, likeMeths G c targets = some b ∧ (b = true ↔ LikeSpec G c targets)
  | [] => ⟨true, rfl, by simp [LikeSpec]⟩
  | tm :: r => by
    obtain ⟨b, hb, hp⟩ := likeMeths_spec G hn c r
    have hcons : LikeSpec G c (tm :: r) ↔
        (∃ d x, MostDerived G (declInst tm.name) c d x ∧ x.arity = tm.arity) ∧ LikeSpec G c r := List.forall_mem_cons
    have hf : Finds G (declInst tm.name) c _ := lookupFrom_finds G hn (·.meths) c tm.name
    simp only [hcons, ← (finds_iffs hf).1, ← hp]
    rw [likeMeths]
    rcases hf with ⟨d, x, hl, -⟩ | ⟨hl | ⟨n, hl⟩, -⟩ <;> rw [hl]
    · by_cases har : x.arity = tm.arity
      · exact ⟨b, by simp [har, hb], by simp [har, and_assoc]⟩
      · exact ⟨false, by simp [har], by simp [har, and_assoc]⟩
    · exact ⟨false, rfl, by simp⟩
    · exact ⟨false, rfl, by simp⟩

end Proofs.Hier

namespace Proofs.HierShape
open Model.Hier Model.HierShape Proofs.Hier

variable {α : Type}

/-- `Chain.okCore`, field by field -/
structure COK (S : Chain) : Prop where
  advance : S.advance = .parentOfVisited
  extra : S.extra = []
  onHit : S.onHit = .leave
  found : S.foundOK = true

theorem cok_of_okCore {S : Chain} (h : S.okCore = true) : COK S := by
  simp only [Chain.okCore, Bool.and_eq_true, beq_iff_eq, List.isEmpty_iff] at h
  obtain ⟨⟨⟨h1, h2⟩, h3⟩, h4⟩ := h
  exact ⟨h1, h2, h3, h4⟩

theorem reported_ok {S : Chain} (h : COK S) (stale c : Cls) : S.reported stale c = c := by
  have := h.found
  unfold Chain.foundOK at this
  unfold Chain.reported
  cases hf : S.found with
  | current => rfl
  | unrecorded => rfl
  | start s => rw [hf] at this; simp only at this; simp [this]
  | stale s => rw [hf] at this; cases this

theorem examine_ok {S : Chain} (h : COK S) (decl : Cls → Option α) (keep : α → Bool) (stale c : Cls) :
    examine S decl keep stale c = (decl c).map (fun x => (c, x)) := by
  unfold examine Chain.filters
  cases decl c with
  | none => rfl
  | some x =>
    simp only [h.extra, List.isEmpty_nil, Bool.not_true, Bool.false_and, Bool.false_eq_true, if_false, Option.map_some,
      reported_ok h]

theorem next_ok {S : Chain} (h : COK S) (c : Cls) : S.next c = c.ext := by
  unfold Chain.next; rw [h.advance]

theorem runC_eq_walkUp {S : Chain} (h : COK S) (G : Graph) (decl : Cls → Option α) (keep : α → Bool) (stale : Cls) :
    ∀ f e, runC S G decl keep stale f none e = walkUp G (tagged decl) f e
  | 0, none => rfl
  | _+1, none => rfl
  | 0, some _ => rfl
  | f+1, some e => by
    rw [runC, walkUp]
    cases getClass G e with
    | none => rfl
    | some c =>
      simp only [tagged, examine_ok h, next_ok h, h.onHit]
      cases decl c with
      | none => exact runC_eq_walkUp h G decl keep stale f c.ext
      | some x => rfl

theorem lookupS_base {S : Chain} (h : COK S) (hb : S.«from» = .base) (G : Graph) (decl : Cls → Option α) (keep : α → Bool)
    (stale b : Cls) : lookupS S G decl keep stale b = lookupG G decl b := by
  unfold lookupS lookupG
  rw [hb]
  simp only [examine_ok h, next_ok h, h.onHit]
  cases decl b with
  | none => exact runC_eq_walkUp h G decl keep stale _ _
  | some x => rfl

theorem lookupS_above {S : Chain} (h : COK S) (hb : S.«from» ≠ .base) (G : Graph) (decl : Cls → Option α) (keep : α → Bool)
    (stale b : Cls) :
    lookupS S G decl keep stale b = walkUp G (tagged decl) (classFuel G) b.ext := by
  unfold lookupS
  cases hf : S.«from» with
  | base => exact absurd hf hb
  | _ => exact runC_eq_walkUp h G decl keep stale _ _

end Proofs.HierShape
