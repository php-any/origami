import Model.Hier
import Spec.Hier
/-! C08: a computation that descends along `succ` edges of an acyclic graph and, short of its last step, stays in `dom` makes at
most `|dom| + 1` steps (`descent_bounded`, by pigeonhole on the chain of names it passes): where `classFuel` and `depthFuel`
come from. -/
namespace Proofs.Hier
open Model.Hier Spec.Hier

theorem getClass_name {G : Graph} {n : Name} {c : Cls} (h : getClass G n = some c) : c.name = n := by
  unfold getClass at h
  simpa using List.find?_some h

theorem getClass_mem {G : Graph} {n : Name} {c : Cls} (h : getClass G n = some c) : c ∈ G.classes := by
  unfold getClass at h
  exact List.mem_of_find?_eq_some h

theorem getIface_name {G : Graph} {n : Name} {c : Ifc} (h : getIface G n = some c) : c.name = n := by
  unfold getIface at h
  simpa using List.find?_some h

theorem getIface_mem {G : Graph} {n : Name} {c : Ifc} (h : getIface G n = some c) : c ∈ G.ifaces := by
  unfold getIface at h
  exact List.mem_of_find?_eq_some h

theorem getClass_declared {G : Graph} {n : Name} {c : Cls} (h : getClass G n = some c) : Declared G c := by
  unfold Declared; rw [getClass_name h]; exact h

theorem getIface_self {G : Graph} {n : Name} {c : Ifc} (h : getIface G n = some c) : getIface G c.name = some c := by
  rw [getIface_name h]; exact h

theorem findM_name {l : List Meth} {m : Name} {x : Meth} (h : findM l m = some x) : x.name = m := by
  unfold findM at h
  simpa using List.find?_some h

/-- a list of names, each a `succ`-successor of the one before (not `Model.HierShape.Chain`, the fact record of an
extends-chain loop, which is what `Chain` means in `HierDispatch` and the property file) -/
inductive Chain (succ : Name → List Name) : List Name → Prop
  | single (a : Name) : Chain succ [a]
  | cons {a b : Name} {l : List Name} : b ∈ succ a → Chain succ (b :: l) → Chain succ (a :: b :: l)

theorem chain_tc {succ : Name → List Name} : ∀ (l : List Name) (a : Name), Chain succ (a :: l) → ∀ b ∈ l, TC succ a b := by
  intro l
  induction l with
  | nil => intro a _ b hb; simp at hb
  | cons x l ih =>
    intro a h b hb
    cases h with
    | cons hx hrest =>
      rcases List.mem_cons.1 hb with rfl | hb
      · exact TC.one hx
      · exact TC.more hx (ih x hrest b hb)

theorem chain_nodup {succ : Name → List Name} (hn : NoCycle succ) : ∀ (l : List Name), Chain succ l → l.Nodup := by
  intro l
  induction l with
  | nil => intro _; exact List.nodup_nil
  | cons a l ih =>
    intro h
    have htail : l.Nodup := by
      cases h with
      | single => exact List.nodup_nil
      | cons _ hrest => exact ih hrest
    refine List.nodup_cons.2 ⟨?_, htail⟩
    intro ha
    exact hn a (chain_tc l a h a ha)

theorem nodup_subset_length : ∀ (l L : List Name), l.Nodup → (∀ x ∈ l, x ∈ L) → l.length ≤ L.length :=
  fun _ _ hnd hsub => hnd.length_le_of_subset hsub

theorem chain_bound {succ : Name → List Name} (hn : NoCycle succ) (dom : List Name) (l : List Name)
    (h : Chain succ l) (hd : ∀ x ∈ l.dropLast, x ∈ dom) : l.length ≤ dom.length + 1 := by
  have hnd : l.dropLast.Nodup := (chain_nodup hn l h).sublist (List.dropLast_sublist l)
  have := nodup_subset_length l.dropLast dom hnd hd
  rw [List.length_dropLast] at this
  omega

theorem descent_chain {σ : Type} {succ : Name → List Name} (key : σ → Name) (Out : Nat → σ → Prop) (dom : List Name)
    (step : ∀ f x, Out (f+1) x → key x ∈ dom ∧ ∃ y, key y ∈ succ (key x) ∧ Out f y) :
    ∀ f x, Out f x → ∃ l, l.length = f ∧ Chain succ (key x :: l) ∧ ∀ z ∈ (key x :: l).dropLast, z ∈ dom
  | 0, x, _ => ⟨[], rfl, Chain.single _, by simp⟩
  | f+1, x, h => by
    obtain ⟨hx, y, hy, hout⟩ := step f x h
    obtain ⟨l, hl, hch, hd⟩ := descent_chain key Out dom step f y hout
    refine ⟨key y :: l, by simp [hl], Chain.cons hy hch, fun z hz => ?_⟩
    rw [List.dropLast_cons_cons] at hz
    exact (List.mem_cons.1 hz).elim (fun e => e ▸ hx) (hd z)

/-- `Out f x` = "started at `x` with fuel `f` it runs out", `key` the name a state stands at -/
theorem descent_bounded {σ : Type} {succ : Name → List Name} (hn : NoCycle succ) (key : σ → Name) (Out : Nat → σ → Prop)
    (dom : List Name) (step : ∀ f x, Out (f+1) x → key x ∈ dom ∧ ∃ y, key y ∈ succ (key x) ∧ Out f y) (x : σ) :
    ¬ Out (dom.length + 1) x := by
  intro h
  obtain ⟨l, hl, hch, hd⟩ := descent_chain key Out dom step _ x h
  have := chain_bound hn dom _ hch hd
  simp only [List.length_cons, hl] at this
  omega

theorem chain_length_le {succ : Name → List Name} (hn : NoCycle succ) (dom : List Name) (l : List Name) (z : Name)
    (h : Chain succ (l ++ [z])) (hd : ∀ x ∈ l, x ∈ dom) : l.length ≤ dom.length := by
  simpa using chain_bound hn dom _ h (by simpa using hd)

theorem chain_snoc {succ : Name → List Name} : ∀ (l : List Name) (y z : Name),
    Chain succ (l ++ [y]) → z ∈ succ y → Chain succ (l ++ [y] ++ [z]) := by
  intro l
  induction l with
  | nil => intro y z _ hz; exact Chain.cons hz (Chain.single z)
  | cons a l ih =>
    intro y z h hz
    cases l with
    | nil =>
      cases h with
      | cons hy _ => exact Chain.cons hy (Chain.cons hz (Chain.single z))
    | cons b l =>
      cases h with
      | cons hb hrest => exact Chain.cons hb (ih y z hrest hz)

theorem tc_rank {succ : Name → List Name} (rank : Name → Nat) (h : ∀ a b, b ∈ succ a → rank b < rank a) :
    ∀ a b, TC succ a b → rank b < rank a := by
  intro a b ht
  induction ht with
  | one hb => exact h _ _ hb
  | more hb _ ih => have := h _ _ hb; omega

theorem noCycle_of_rank {succ : Name → List Name} (rank : Name → Nat) (h : ∀ a b, b ∈ succ a → rank b < rank a) :
    NoCycle succ := by
  intro a ht
  have := tc_rank rank h a a ht
  omega

/-- every parent has a smaller number than its child (a numbering in declaration order) -/
def rankOK (G : Graph) : Bool :=
  G.classes.all (fun c => match c.ext with | some p => decide (p < c.name) | none => true) &&
  G.ifaces.all (fun d => d.ext.all (fun j => decide (j < d.name)))

theorem acyclic_of_rankOK (G : Graph) (h : rankOK G = true) : Acyclic G := by
  simp only [rankOK, Bool.and_eq_true, List.all_eq_true] at h
  refine ⟨noCycle_of_rank id fun a b hb => ?_, noCycle_of_rank id fun a b hb => ?_⟩
  · cases hc : getClass G a with
    | none => simp [csucc, hc] at hb
    | some c =>
      have hext : c.ext = some b := by simpa [csucc, hc] using hb
      have := h.1 c (getClass_mem hc)
      rw [hext] at this
      simpa [getClass_name hc] using this
  · cases hd : getIface G a with
    | none => simp [isucc, hd] at hb
    | some d =>
      have := h.2 d (getIface_mem hd) b (by simpa [isucc, hd] using hb)
      simpa [getIface_name hd] using this

def wfB (G : Graph) : Bool :=
  G.classes.all (fun c => (match c.ext with | some p => (getClass G p).isSome | none => true) &&
                          c.impl.all (fun i => (getIface G i).isSome)) &&
  G.ifaces.all (fun d => d.ext.all (fun j => (getIface G j).isSome))

theorem wf_of_wfB (G : Graph) (h : wfB G = true) : WF G := by
  unfold wfB at h
  simp only [Bool.and_eq_true, List.all_eq_true] at h
  refine ⟨fun c hc => ⟨fun p hp => ?_, fun i hi => (h.1 c hc).2 i hi⟩, fun d hd j hj => h.2 d hd j hj⟩
  have := (h.1 c hc).1
  rw [hp] at this
  exact this

end Proofs.Hier
