import Proofs.Lemmas.HierWalk
import Model.HierNames
/-! C08: each of the four subtype tests of the implementation decides `IsA`; the name-based special case of
`catchTypeMatches` (`Model.Hier.isThrownP`) and the kinds of comparison the translator records (`Model.Hier.NameKind`). -/
namespace Proofs.Hier
open Model.Hier Spec.Hier

/-- the test answered (no fuel problem, no error) and its answer is `P` -/
def Decides (r : R) (P : Prop) : Prop := (r = .yes ∧ P) ∨ (r = .no ∧ ¬ P)

theorem decides_no {r : R} {P : Prop} (h : Decides r P) (hp : ¬ P) : r = .no :=
  h.elim (fun h => absurd h.2 hp) (·.1)

theorem decides_yes {r : R} {P : Prop} (h : Decides r P) (hp : P) : r = .yes :=
  h.elim (·.1) (fun h => absurd hp h.2)

theorem decides_iffs {r : R} {P : Prop} (h : Decides r P) : (r = .yes ↔ P) ∧ (r = .no ↔ ¬ P) := by
  rcases h with ⟨h1, h2⟩ | ⟨h1, h2⟩ <;> rw [h1] <;> simp [h2]

theorem yes_iff_of_decides {r : R} {P : Prop} (h : Decides r P) : (r == R.yes) = true ↔ P :=
  beq_iff_eq.trans (decides_iffs h).1

/-- `hit` answers on every implements list, and `true` iff one of its names reaches `t` -/
def HitDecides (G : Graph) (t : Name) (hit : List Name → Option Bool) : Prop :=
  ∀ impl, ∃ b, hit impl = some b ∧ (b = true ↔ ∃ i ∈ impl, IReach G i t)

theorem implHit_decides (G : Graph) (t : Name) : HitDecides G t (implHit G t) := by
  intro impl
  unfold implHit
  apply anyM_spec (P := fun s => IReach G s t)
  intro s _
  split
  · rename_i h; exact ⟨true, rfl, by simp [h, IReach.refl]⟩
  · exact interfaceExtends_spec G s t

theorem visitIs_decides (G : Graph) (t : Name) (hit : List Name → Option Bool) (hh : HitDecides G t hit) :
    VisitDecides (visitIs hit t) () (HitSpec G t) := by
  intro c
  unfold visitIs HitSpec
  split
  · rename_i h; exact Or.inl ⟨rfl, Or.inl h⟩
  · rename_i hne
    obtain ⟨b, hb, hp⟩ := hh c.impl
    rw [hb]
    cases b with
    | true => exact Or.inl ⟨rfl, Or.inr (hp.1 rfl)⟩
    | false => exact Or.inr ⟨rfl, fun h => h.elim hne (fun h => Bool.noConfusion (hp.2 h))⟩

theorem extendISClass_spec (G : Graph) (hn : NoCycle (csucc G)) (t : Name) (c : Cls) (hh : ¬ HitSpec G t c) :
    Decides (extendISClass G t c.ext) (IsA G c t) := by
  unfold extendISClass
  rcases walk_decides G hn t _ () (visitIs_decides G t _ (implHit_decides G t)) c hh with
    ⟨hw, ha⟩ | ⟨hw | ⟨n, hw⟩, ha⟩ <;> rw [hw]
  · exact Or.inl ⟨rfl, ha⟩
  · exact Or.inr ⟨rfl, ha⟩
  · exact Or.inr ⟨rfl, ha⟩

theorem isClassValue_spec (G : Graph) (hn : NoCycle (csucc G)) (t : Name) (c : Cls) :
    Decides (isClassValue G t c) (IsA G c t) := by
  unfold isClassValue
  rcases visitIs_decides G t _ (implHit_decides G t) c with ⟨hv, hh⟩ | ⟨hv, hh⟩ <;> rw [hv]
  · exact Or.inl ⟨rfl, isA_of_hit hh⟩
  · exact extendISClass_spec G hn t c hh

theorem isThisValue_spec (G : Graph) (hn : NoCycle (csucc G)) (t : Name) (c : Cls) :
    Decides (isThisValue G t c) (IsA G c t) := by
  unfold isThisValue
  split
  · rename_i h; exact Or.inl ⟨rfl, h ▸ IsA.self c⟩
  · rename_i hne
    split
    · rename_i hc
      exact Or.inl ⟨rfl, IsA.impl (by simpa using hc) (IReach.refl t)⟩
    · obtain ⟨b, hb, hp⟩ := anyM_spec (fun s => interfaceExtends G s t) (fun s => IReach G s t) c.impl
        (fun s _ => interfaceExtends_spec G s t)
      rw [hb]
      cases b with
      | true =>
        obtain ⟨i, hi, hr⟩ := hp.1 rfl
        exact Or.inl ⟨rfl, IsA.impl hi hr⟩
      | false => exact extendISClass_spec G hn t c fun h => h.elim hne (fun h => Bool.noConfusion (hp.2 h))

theorem isThrownP_spec (p : Name → Bool) (hp : ∀ t, p t = true → t = throwableName)
    (G : Graph) (hn : NoCycle (csucc G)) (t : Name) (c : Cls) (hok : ThrowableOK G c) :
    Decides (isThrownP p G t c) (IsA G c t) := by
  unfold isThrownP
  rcases isClassValue_spec G hn t c with ⟨h1, h2⟩ | ⟨h1, h2⟩ <;> rw [h1]
  · exact Or.inl ⟨rfl, h2⟩
  · cases hpt : p t with
    | false => exact Or.inr ⟨by simp, h2⟩
    | true =>
      cases hp t hpt
      -- not a `Throwable`, so by `ThrowableOK` neither an `Exception` nor an `Error`: the fallback says `no` too
      have e := decides_no (isClassValue_spec G hn exceptionName c) (fun e2 => h2 (hok.1 e2))
      have f := decides_no (isClassValue_spec G hn errorName c) (fun f2 => h2 (hok.2 f2))
      simp only [if_true, e, f]
      exact Or.inr ⟨rfl, h2⟩

theorem isThrownP_eq (G : Graph) (t : Name) (c : Cls) :
    isThrown G t c = isThrownP (fun t => decide (t = throwableName)) G t c := by
  unfold isThrown isThrownP
  by_cases h : t = throwableName <;> cases isClassValue G t c <;> simp [h] <;>
    (cases isClassValue G exceptionName c <;> rfl)

theorem isThrown_spec (G : Graph) (hn : NoCycle (csucc G)) (t : Name) (c : Cls) (hok : ThrowableOK G c) :
    Decides (isThrown G t c) (IsA G c t) :=
  isThrownP_eq G t c ▸ isThrownP_spec _ (fun _ h => of_decide_eq_true h) G hn t c hok

theorem implHitOp_decides (G : Graph) (hn : NoCycle (isucc G))
    (hwf : ∀ d ∈ G.ifaces, ∀ j ∈ d.ext, (getIface G j).isSome) (t : Name) : HitDecides G t (implHitOp G t) := by
  intro impl
  unfold implHitOp
  apply anyM_spec (P := fun s => IReach G s t)
  intro s _
  by_cases hst : s = t
  · exact ⟨true, by simp [hst], by simp [hst, IReach.refl]⟩
  · rw [if_neg hst]
    cases hi : getIface G s with
    | none => exact ⟨false, rfl, by simp [ireach_iff (s := s), hst, isucc_none hi]⟩
    | some i =>
      have hself := getIface_self hi
      cases hb : dfs G t (depthFuel G) i with
      | none => exact absurd hb (dfs_no_fuel G hn t i hself)
      | some b => exact ⟨b, hb, getIface_name hi ▸ dfs_spec G hwf t _ i b hself hb⟩

theorem ireach_declared (G : Graph) (hwf : ∀ d ∈ G.ifaces, ∀ j ∈ d.ext, (getIface G j).isSome) :
    ∀ i t, IReach G i t → (getIface G i).isSome → (getIface G t).isSome := by
  intro i t h
  induction h with
  | refl => exact id
  | step hd hj _ ih => intro _; exact ih (hwf _ (getIface_mem hd) _ hj)

theorem isA_declared (G : Graph) (hwf : WF G) : ∀ c t, IsA G c t → Declared G c →
    (getClass G t).isSome ∨ (getIface G t).isSome := by
  intro c t h
  induction h with
  | self c => intro hd; left; unfold Declared at hd; rw [hd]; rfl
  | impl hi hr => intro hd; exact Or.inr (ireach_declared G hwf.2 _ _ hr ((hwf.1 _ (getClass_mem hd)).2 _ hi))
  | ext _ hd' _ ih => intro _; exact ih (getClass_declared hd')

theorem instanceofOp_spec (G : Graph) (hwf : WF G) (hac : Acyclic G) (t : Name) (c : Cls) (hc : Declared G c) :
    Decides (instanceofOp G t c) (IsA G c t) := by
  unfold instanceofOp
  split
  · rename_i hund
    refine Or.inr ⟨rfl, fun h => ?_⟩
    have := isA_declared G hwf c t h hc
    simp only [Bool.and_eq_true, Option.isNone_iff_eq_none] at hund
    rw [hund.1, hund.2] at this
    simp at this
  · unfold checkClassIs
    have hv := visitIs_decides G t _ (implHitOp_decides G hac.2 hwf.2 t)
    rcases hv c with ⟨hvc, hhit⟩ | ⟨hvc, hhit⟩ <;> rw [hvc]
    · exact Or.inl ⟨rfl, isA_of_hit hhit⟩
    · rcases walk_decides G hac.1 t _ () hv c hhit with ⟨hw, ha⟩ | ⟨hw | ⟨n, hw⟩, ha⟩
      · simp only [hw]; exact Or.inl ⟨rfl, ha⟩
      · simp only [hw]; exact Or.inr ⟨rfl, ha⟩
      · exact absurd hw (walkUp_no_missing G hwf _ c hc _ n)

theorem decides_of_kind (G : Graph) (hac : Acyclic G) (k : Kind) (c : Cls) (t : Name) (hok : KindOK G c k) :
    Decides (isInstanceOf G k c t) (IsA G c t) := by
  cases k with
  | op => exact instanceofOp_spec G hok.1 hac t c hok.2
  | param => exact isClassValue_spec G hac.1 t c
  | this => exact isThisValue_spec G hac.1 t c
  | thrown => exact isThrown_spec G hac.1 t c hok

def nmExc : Cls := ⟨exceptionName, none, [throwableName], [], []⟩
def nmErr : Cls := ⟨errorName, none, [throwableName], [], []⟩
/-- the std hierarchy alone: `Exception` and `Error`, each implementing the interface `Throwable` -/
def nmG : Graph := { classes := [nmExc, nmErr], ifaces := [⟨throwableName, [], []⟩] }

theorem nmG_acyclic : Acyclic nmG := acyclic_of_rankOK nmG (by decide)

theorem not_iReach_leaf (G : Graph) (i t : Name) (d : Ifc) (hg : getIface G i = some d) (hd : d.ext = [])
    (hne : t ≠ i) : ¬ IReach G i t := by
  rw [ireach_iff, isucc_some hg, hd]
  simp [Ne.symm hne]

theorem not_isA_leaf (G : Graph) (c : Cls) (t : Name) (hext : c.ext = none) (hname : t ≠ c.name)
    (himpl : ∀ i ∈ c.impl, ¬ IReach G i t) : ¬ IsA G c t := by
  intro h
  cases h with
  | self => exact hname rfl
  | impl hi hr => exact himpl _ hi hr
  | ext he _ _ => rw [hext] at he; cases he

theorem nm_throwableOK (c : Cls) (hc : throwableName ∈ c.impl) : ThrowableOK nmG c :=
  ⟨fun _ => IsA.impl hc (IReach.refl _), fun _ => IsA.impl hc (IReach.refl _)⟩

/-- **if the test holds for ANY name other than the root interface's, catch is wrong**: on the std hierarchy alone
there is an object that is not a `t` and is caught by `catch (t)` -/
theorem isThrownP_loose (p : Name → Bool) (t : Name) (hpt : p t = true) (hne : t ≠ throwableName) :
    ∃ c, c ∈ nmG.classes ∧ ThrowableOK nmG c ∧ ¬ IsA nmG c t ∧ isThrownP p nmG t c = .yes := by
  have hn := nmG_acyclic.1
  -- neither class has a parent, and the one interface they implement has none and is not `t`
  have leaf : ∀ k : Cls, k.ext = none → k.impl = [throwableName] → t ≠ k.name → ¬ IsA nmG k t := fun k he hi hk =>
    not_isA_leaf nmG k t he hk (fun i hm => by
      rw [hi] at hm
      cases List.mem_singleton.1 hm
      exact not_iReach_leaf nmG _ _ ⟨throwableName, [], []⟩ rfl rfl hne)
  by_cases h1 : t = exceptionName
  · have hnot := leaf nmErr rfl rfl (h1 ▸ by decide)
    refine ⟨nmErr, by simp [nmG], nm_throwableOK nmErr (by simp [nmErr]), hnot, ?_⟩
    unfold isThrownP
    rw [decides_no (isClassValue_spec nmG hn t nmErr) hnot, hpt]
    decide
  · have hnot := leaf nmExc rfl rfl h1
    refine ⟨nmExc, by simp [nmG], nm_throwableOK nmExc (by simp [nmExc]), hnot, ?_⟩
    unfold isThrownP
    rw [decides_no (isClassValue_spec nmG hn t nmExc) hnot, hpt]
    have : isClassValue nmG exceptionName nmExc = .yes := by decide
    simp [this]

theorem stripLead_eq (n s : List Char) (h : stripLead n = s) : n = s ∨ n = '\\' :: s := by
  cases n with
  | nil => left; simpa [stripLead] using h
  | cons ch r =>
    by_cases hc : ch = '\\'
    · simp only [stripLead, if_pos hc] at h
      right; rw [hc, h]
    · simp only [stripLead, if_neg hc] at h
      left; exact h

theorem holds_exact (k : NameKind) (hk : k.exact = true) (s n : List Char) (h : k.holds s n = some true) :
    n = s ∨ n = '\\' :: s := by
  cases k <;> simp [NameKind.exact] at hk
  · simp [NameKind.holds] at h
    exact Or.inl h
  · simp [NameKind.holds] at h
    exact stripLead_eq n s h

end Proofs.Hier
