import Proofs.Lemmas.HierWalk
/-! C08: what a well-shaped subtype decider (name test, a direct test and an interface walk over the WHOLE implements list,
then the parent chain examined by a well-shaped decider) does at one class: it hits exactly on `HitSpec` — whatever interface
walk it calls, as long as that walk decides reachability —, and its climb over the parent chain is `walkUp` with that visit. -/
namespace Proofs.HierShape
open Model.Hier Spec.Hier Model.HierShape Proofs.Hier

/-- `Decider.ok`, clause by clause -/
structure DOK (D : Decider) : Prop where
  nameTest : D.nameTest = true
  direct : ∃ L ∈ D.impls, L.direct = true
  walks : ∃ L ∈ D.impls, L.walk ≠ "" ∧ L.argsOK = true
  all : ∀ L ∈ D.impls, L.onMiss = .next ∧ (L.walk = "" ∨ L.argsOK = true)
  chain : (∀ s, D.chain ≠ .other s) ∧ D.chain ≠ .none

theorem dok_of_ok {D : Decider} (h : D.ok = true) : DOK D := by
  simp only [Decider.ok, Bool.and_eq_true, List.any_eq_true, List.all_eq_true, Bool.or_eq_true, beq_iff_eq,
    ImplLoop.walks, bne_iff_ne, ne_eq] at h
  obtain ⟨⟨⟨⟨h1, h2⟩, h3⟩, h4⟩, h5⟩ := h
  refine ⟨h1, h2, ?_, h4, ?_⟩
  · obtain ⟨L, hL, a, b⟩ := h3; exact ⟨L, hL, a, b⟩
  · cases hc : D.chain <;> rw [hc] at h5 <;> simp at h5 ⊢

/-- complete only for names other than the target: the target itself is what the direct test is for (`checkClassIs` loads the
interface before it walks, so an undeclared name that IS the target is only found by the direct test) -/
def WalkDecides (G : Graph) (t : Name) (w : Name → Name → Option Bool) : Prop :=
  ∀ s, ∃ b, w s t = some b ∧ (b = true → IReach G s t) ∧ (s ≠ t → IReach G s t → b = true)

/-- what a loop that comes back dry has ruled out for the implemented name `s` -/
def Missed (G : Graph) (t : Name) (L : ImplLoop) (s : Name) : Prop :=
  ¬ (L.direct = true ∧ t = s) ∧ (L.walk ≠ "" → ¬ (s ≠ t ∧ IReach G s t))

theorem scanLoop_spec (G : Graph) (t : Name) (walk : String → Name → Name → Option Bool) (L : ImplLoop)
    (hL : L.onMiss = .next ∧ (L.walk = "" ∨ L.argsOK = true)) (hw : L.walk ≠ "" → WalkDecides G t (walk L.walk)) :
    ∀ impl, (scanLoop L walk t impl = .hit ∧ ∃ s ∈ impl, IReach G s t) ∨
      (scanLoop L walk t impl = .dry ∧ ∀ s ∈ impl, Missed G t L s)
  | [] => Or.inr ⟨rfl, nofun⟩
  | s :: r => by
    have pass : Missed G t L s → (scanLoop L walk t r = .hit ∧ ∃ x ∈ s :: r, IReach G x t) ∨
        (scanLoop L walk t r = .dry ∧ ∀ x ∈ s :: r, Missed G t L x) := fun hm =>
      (scanLoop_spec G t walk L hL hw r).imp (fun ⟨h1, x, hx, hr⟩ => ⟨h1, x, List.mem_cons_of_mem _ hx, hr⟩)
        (fun ⟨h1, h2⟩ => ⟨h1, List.forall_mem_cons.2 ⟨hm, h2⟩⟩)
    rw [scanLoop, hL.1]
    by_cases hd : L.direct = true ∧ t = s
    · rw [if_pos (by simpa using hd)]
      exact Or.inl ⟨rfl, s, List.mem_cons_self .., hd.2 ▸ IReach.refl _⟩
    · rw [if_neg (by simpa using hd)]
      by_cases hwe : L.walk = ""
      · rw [if_pos (by simpa using hwe)]
        exact pass ⟨hd, fun h => absurd hwe h⟩
      · rw [if_neg (by simpa using hwe), if_pos (hL.2.resolve_left hwe)]
        obtain ⟨b, hb, hsound, hcomplete⟩ := hw hwe s
        rw [hb]
        cases b with
        | true => exact Or.inl ⟨rfl, s, List.mem_cons_self .., hsound rfl⟩
        | false => exact pass ⟨hd, fun _ hh => Bool.noConfusion (hcomplete hh.1 hh.2)⟩

theorem scanAll_spec (G : Graph) (t : Name) (walk : String → Name → Name → Option Bool) (impl : List Name) :
    ∀ (Ls : List ImplLoop), (∀ L ∈ Ls, L.onMiss = .next ∧ (L.walk = "" ∨ L.argsOK = true)) →
      (∀ L ∈ Ls, L.walk ≠ "" → WalkDecides G t (walk L.walk)) →
      (scanAll walk t impl Ls = .hit ∧ ∃ s ∈ impl, IReach G s t) ∨
      (scanAll walk t impl Ls = .dry ∧ ∀ L ∈ Ls, ∀ s ∈ impl, Missed G t L s)
  | [], _, _ => Or.inr ⟨rfl, nofun⟩
  | L :: r, hall, hw => by
    rw [scanAll]
    rcases scanLoop_spec G t walk L (hall L (List.mem_cons_self ..)) (hw L (List.mem_cons_self ..)) impl with
      ⟨h1, h2⟩ | ⟨h1, h2⟩ <;> rw [h1]
    · exact Or.inl ⟨rfl, h2⟩
    · exact (scanAll_spec G t walk impl r (fun X hX => hall X (List.mem_cons_of_mem _ hX))
        (fun X hX => hw X (List.mem_cons_of_mem _ hX))).imp id (fun ⟨g1, g2⟩ => ⟨g1, List.forall_mem_cons.2 ⟨h2, g2⟩⟩)

theorem visitD_spec {D : Decider} (h : DOK D) (G : Graph) (t : Name) (walk : String → Name → Name → Option Bool)
    (hw : ∀ L ∈ D.impls, L.walk ≠ "" → WalkDecides G t (walk L.walk)) (c : Cls) :
    (visitD D walk t c = .hit ∧ HitSpec G t c) ∨ (visitD D walk t c = .dry ∧ ¬ HitSpec G t c) := by
  unfold visitD
  rw [h.nameTest]
  by_cases hn : t = c.name
  · rw [if_pos (by simpa using hn)]
    exact Or.inl ⟨rfl, Or.inl hn⟩
  · rw [if_neg (by simpa using hn)]
    rcases scanAll_spec G t walk c.impl D.impls h.all hw with ⟨h1, s, hs, hr⟩ | ⟨h1, h2⟩
    · exact Or.inl ⟨h1, Or.inr ⟨s, hs, hr⟩⟩
    · refine Or.inr ⟨h1, ?_⟩
      rintro (he | ⟨s, hs, hr⟩)
      · exact hn he
      · -- the target itself is ruled out by a loop with the direct test, any other name by a loop that walks
        obtain ⟨Ld, hLd, hd⟩ := h.direct
        obtain ⟨Lw, hLw, hwn, _⟩ := h.walks
        by_cases hst : s = t
        · exact (h2 Ld hLd s hs).1 ⟨hd, hst.symm⟩
        · exact (h2 Lw hLw s hs).2 hwn ⟨hst, hr⟩

/-- one class of the parent chain as a `walkUp` visit -/
def visitOf (D : Decider) (walk : String → Name → Name → Option Bool) (t : Name) (c : Cls) : Option (Option R) :=
  match visitD D walk t c with
  | .hit => some (some .yes)
  | .halt => some (some .no)
  | .fuel => none
  | .dry => some none

theorem climbD_eq_walkUp (D : Decider) (walk : String → Name → Name → Option Bool) (G : Graph) (t : Name) (miss : R) :
    ∀ f e, climbD D walk G t miss f e =
      match walkUp G (visitOf D walk t) f e with
      | .found r => r
      | .fuel => .fuel
      | .missing _ => miss
      | .absent => .no
  | 0, none => rfl
  | _+1, none => rfl
  | 0, some _ => rfl
  | f+1, some e => by
    rw [climbD, walkUp]
    cases getClass G e with
    | none => rfl
    | some c =>
      simp only [visitOf]
      cases visitD D walk t c with
      | dry => exact climbD_eq_walkUp D walk G t miss f c.ext
      | _ => rfl

theorem visitOf_decides {D : Decider} (h : DOK D) (G : Graph) (t : Name) (walk : String → Name → Name → Option Bool)
    (hw : ∀ L ∈ D.impls, L.walk ≠ "" → WalkDecides G t (walk L.walk)) :
    VisitDecides (visitOf D walk t) .yes (HitSpec G t) := by
  intro c
  unfold visitOf
  rcases visitD_spec h G t walk hw c with ⟨hv, hh⟩ | ⟨hv, hh⟩ <;> rw [hv]
  · exact Or.inl ⟨rfl, hh⟩
  · exact Or.inr ⟨rfl, hh⟩

end Proofs.HierShape
