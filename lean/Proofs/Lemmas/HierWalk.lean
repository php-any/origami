import Proofs.Lemmas.HierBfs
/-! C08: `anyM`, the extends-chain walk `walkUp` (fuel sufficiency by counting, what its outcome means for a subtype test),
and the recursive `checkInterfaceIs` (`dfs`). -/
namespace Proofs.Hier
open Model.Hier Spec.Hier

theorem anyM_none {α : Type} (f : α → Option Bool) : ∀ l, anyM f l = none → ∃ x ∈ l, f x = none
  | a :: r, h => by
    rw [anyM] at h
    split at h
    · rename_i ha; exact ⟨a, List.mem_cons_self .., ha⟩
    · cases h
    · obtain ⟨x, hx, hfx⟩ := anyM_none f r h; exact ⟨x, List.mem_cons_of_mem _ hx, hfx⟩

theorem anyM_some {α : Type} (f : α → Option Bool) (P : α → Prop) :
    ∀ (l : List α) (b : Bool), (∀ x ∈ l, ∀ b, f x = some b → (b = true ↔ P x)) → anyM f l = some b →
      (b = true ↔ ∃ x ∈ l, P x)
  | [], b, _, h => by cases h; simp
  | a :: r, b, hf, h => by
    rw [anyM] at h
    split at h
    · cases h
    · rename_i ha; cases h
      simpa using Or.inl ((hf a (List.mem_cons_self ..) true ha).1 rfl)
    · rename_i ha
      have hna : ¬ P a := fun hp => Bool.noConfusion ((hf a (List.mem_cons_self ..) false ha).2 hp)
      rw [anyM_some f P r b (fun x hx => hf x (List.mem_cons_of_mem _ hx)) h]
      simp [hna]

theorem anyM_spec {α : Type} (f : α → Option Bool) (P : α → Prop) (l : List α)
    (h : ∀ x ∈ l, ∃ b, f x = some b ∧ (b = true ↔ P x)) :
    ∃ b, anyM f l = some b ∧ (b = true ↔ ∃ x ∈ l, P x) := by
  cases hr : anyM f l with
  | none =>
    obtain ⟨x, hx, hfx⟩ := anyM_none f l hr
    obtain ⟨b, hb, _⟩ := h x hx
    rw [hfx] at hb; cases hb
  | some b =>
    refine ⟨b, rfl, anyM_some f P l b (fun x hx b' hb' => ?_) hr⟩
    obtain ⟨b, hb, hp⟩ := h x hx
    rw [hb'] at hb; cases hb; exact hp

theorem walkUp_none {α : Type} (G : Graph) (visit : Cls → Option (Option α)) (f : Nat) : walkUp G visit f none = .absent := by
  cases f <;> rfl

theorem walkUp_no_fuel {α : Type} (G : Graph) (hn : NoCycle (csucc G)) (visit : Cls → Option (Option α))
    (hv : ∀ c, visit c ≠ none) (ext : Option Name) : walkUp G visit (classFuel G) ext ≠ .fuel := by
  intro h
  cases ext with
  | none => rw [walkUp_none] at h; cases h
  | some e =>
    refine descent_bounded hn id (fun f e => walkUp G visit f (some e) = .fuel) (G.classes.map (·.name)) (fun f e h => ?_) e
      (by rw [List.length_map]; exact h)
    rw [walkUp] at h
    split at h
    · cases h
    · rename_i c hc
      split at h
      · rename_i hvc; exact absurd hvc (hv c)
      · cases h
      · cases hext : c.ext with
        | none => rw [hext, walkUp_none] at h; cases h
        | some p => exact ⟨List.mem_map.2 ⟨c, getClass_mem hc, getClass_name hc⟩, p, by simp [csucc, hc, hext], hext ▸ h⟩

/-- Of the cases of `walkUp` two can answer `missing`: parent not loaded (3; excluded by the hypothesis) and pass (6; the next
parent is declared too). -/
theorem walkUp_no_missing_from {α : Type} (G : Graph) (hwf : WF G) (visit : Cls → Option (Option α)) (f : Nat)
    (ext : Option Name) (n : Name) : (∀ p, ext = some p → (getClass G p).isSome) → walkUp G visit f ext ≠ .missing n := by
  fun_induction walkUp G visit f ext with
  | case3 f e hc => intro he; have := he e rfl; rw [hc] at this; cases this
  | case6 f e c hc hv ih => exact fun _ => ih (hwf.1 c (getClass_mem hc)).1
  | _ => nofun

theorem walkUp_no_missing {α : Type} (G : Graph) (hwf : WF G) (visit : Cls → Option (Option α)) (c : Cls)
    (hc : Declared G c) (f : Nat) (n : Name) : walkUp G visit f c.ext ≠ .missing n :=
  walkUp_no_missing_from G hwf visit f c.ext n (hwf.1 c (getClass_mem hc)).1

/-- what one class contributes to "is a `t`" -/
def HitSpec (G : Graph) (t : Name) (c : Cls) : Prop := t = c.name ∨ ∃ i ∈ c.impl, IReach G i t

theorem isA_of_hit {G : Graph} {t : Name} {c : Cls} : HitSpec G t c → IsA G c t
  | .inl h => h ▸ IsA.self c
  | .inr ⟨_, hi, hr⟩ => IsA.impl hi hr

theorem isA_parent {G : Graph} {t : Name} {c : Cls} (hh : ¬ HitSpec G t c) (h : IsA G c t) :
    ∃ p c', c.ext = some p ∧ getClass G p = some c' ∧ IsA G c' t := by
  cases h with
  | self => exact absurd (Or.inl rfl) hh
  | impl hi hr => exact absurd (Or.inr ⟨_, hi, hr⟩) hh
  | ext hp hd hr => exact ⟨_, _, hp, hd, hr⟩

/-- the visit never runs out of fuel: it stops the walk with `yes` exactly at the classes with `Hit` and passes at the others -/
def VisitDecides {α : Type} (visit : Cls → Option (Option α)) (yes : α) (Hit : Cls → Prop) : Prop :=
  ∀ c, (visit c = some (some yes) ∧ Hit c) ∨ (visit c = some none ∧ ¬ Hit c)

/-- The cases are those of `walkUp`: no parent, no fuel, parent not loaded, the visit out of fuel, hit, pass. -/
theorem walkUp_isA {α : Type} {G : Graph} {t : Name} {visit : Cls → Option (Option α)} {yes : α}
    (hv : VisitDecides visit yes (HitSpec G t)) (f : Nat) (ext : Option Name) : ∀ c, ¬ HitSpec G t c → c.ext = ext →
    walkUp G visit f ext = .fuel ∨ (walkUp G visit f ext = .found yes ∧ IsA G c t) ∨
      ((walkUp G visit f ext = .absent ∨ ∃ n, walkUp G visit f ext = .missing n) ∧ ¬ IsA G c t) := by
  fun_induction walkUp G visit f ext with
  | case1 =>
    exact fun c hh hp => .inr (.inr ⟨.inl rfl, fun h => by obtain ⟨_, _, hp', _⟩ := isA_parent hh h; cases hp.symm.trans hp'⟩)
  | case2 => exact fun _ _ _ => .inl rfl
  | case3 f p hc' =>
    exact fun c hh hp => .inr (.inr ⟨.inr ⟨p, rfl⟩, fun h => by
      obtain ⟨_, _, hp', hc'', _⟩ := isA_parent hh h; cases hp.symm.trans hp'; cases hc'.symm.trans hc''⟩)
  | case4 f p c' hc' hvc => exact fun _ _ _ => .inl rfl
  | case5 f p c' hc' r hvc =>
    rcases hv c' with ⟨h1, hit⟩ | ⟨h1, _⟩
    · cases Option.some.inj (Option.some.inj (hvc.symm.trans h1))
      exact fun c _ hp => .inr (.inl ⟨rfl, IsA.ext hp hc' (isA_of_hit hit)⟩)
    · cases hvc.symm.trans h1
  | case6 f p c' hc' hvc ih =>
    rcases hv c' with ⟨h1, _⟩ | ⟨_, nohit⟩
    · cases hvc.symm.trans h1
    · intro c hh hp
      have up : IsA G c t ↔ IsA G c' t := ⟨fun h => by
        obtain ⟨_, _, hp', hc'', h'⟩ := isA_parent hh h; cases hp.symm.trans hp'; cases hc'.symm.trans hc''; exact h',
        IsA.ext hp hc'⟩
      rw [up]
      exact ih c' nohit rfl

theorem walk_decides {α : Type} (G : Graph) (hn : NoCycle (csucc G)) (t : Name) (visit : Cls → Option (Option α))
    (yes : α) (hv : VisitDecides visit yes (HitSpec G t)) (c : Cls) (hh : ¬ HitSpec G t c) :
    (walkUp G visit (classFuel G) c.ext = .found yes ∧ IsA G c t) ∨
    ((walkUp G visit (classFuel G) c.ext = .absent ∨ ∃ n, walkUp G visit (classFuel G) c.ext = .missing n) ∧ ¬ IsA G c t) :=
  (walkUp_isA hv _ _ c hh rfl).resolve_left (walkUp_no_fuel G hn visit
    (fun c h => by rcases hv c with ⟨h1, _⟩ | ⟨h1, _⟩ <;> rw [h] at h1 <;> cases h1) c.ext)

theorem dfs_no_fuel (G : Graph) (hn : NoCycle (isucc G)) (t : Name) (i : Ifc) (hi : getIface G i.name = some i) :
    dfs G t (depthFuel G) i ≠ none := by
  intro h
  refine descent_bounded hn (·.name) (fun f i => getIface G i.name = some i ∧ dfs G t f i = none) (G.ifaces.map (·.name))
    (fun f i ⟨hi, h⟩ => ?_) i ⟨hi, by rw [List.length_map]; exact h⟩
  rw [dfs] at h
  split at h
  · cases h
  · obtain ⟨p, hp, hfp⟩ := anyM_none _ _ h
    split at hfp
    · cases hfp
    · rename_i j hj
      exact ⟨List.mem_map.2 ⟨i, getIface_mem hi, rfl⟩, j, getIface_name hj ▸ isucc_some hi ▸ hp, getIface_self hj, hfp⟩

theorem dfs_spec (G : Graph) (hwf : ∀ d ∈ G.ifaces, ∀ j ∈ d.ext, (getIface G j).isSome) (t : Name) :
    ∀ f (i : Ifc) (b : Bool), getIface G i.name = some i → dfs G t f i = some b → (b = true ↔ IReach G i.name t)
  | 0, _, _, _, h => nomatch h
  | f+1, i, b, hi, h => by
    rw [dfs] at h
    rw [ireach_iff, isucc_some hi]
    split at h
    · rename_i hit; cases h; simp [hit]
    · rename_i hit
      rw [anyM_some _ (fun p => IReach G p t) _ _ ?_ h, or_iff_right hit]
      intro p hp b' hb'
      cases hj : getIface G p with
      | none => have := hwf i (getIface_mem hi) p hp; rw [hj] at this; cases this
      | some j =>
        rw [hj] at hb'
        exact getIface_name hj ▸ dfs_spec G hwf t f j b' (getIface_self hj) hb'

end Proofs.Hier
