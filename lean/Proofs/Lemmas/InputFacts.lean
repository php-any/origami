import Model.InputFacts
/-! What the tests recorded in `Model.InputFacts` buy (`consume` under a test, `wrap64` in range, `writerCovered`); and
`all_contains_of`, through which `C14_decoder_markers_known` makes its comparison in one pass. -/
namespace Proofs.InputFacts
open Model.InputFacts

theorem consume_refused (g : String) (n : Int) (len : Nat) (h : refuses g n = true) : consume g n len = .reject := by
  simp [consume, h]

theorem consume_passed (g : String) (n : Int) (len : Nat) (h : refuses g n = false) (h0 : 0 ≤ n) (hl : n ≤ len) :
    consume g n len = .ok (len - n.toNat) := by
  have h1 : ¬ (n < 0 ∨ n > (len : Int)) := by omega
  simp only [consume, h, Bool.false_eq_true, if_false, if_neg h1]

theorem wrap64_id (x : Int) (h0 : 0 ≤ x) (h1 : x < 9223372036854775808) : wrap64 x = x := by
  unfold wrap64
  omega

theorem uncovered_out_of_range :
    let s : IndexSite := ⟨"parsePhpValue", "s[end+1]", "end", 2, some 1⟩
    s.covered = false ∧ ∃ base len, base + 1 ≤ len ∧ ¬ (base + 1 < len) := by
  exact ⟨by decide, 3, 4, by omega, by omega⟩

/-- The regenerated list of markers and the list of known ones are kept in the same order, so one pass
(`List.isSublist`) decides `as.all (bs.contains ·)`; for any other order the quadratic test is still made. -/
theorem all_contains_of {α : Type} [BEq α] [LawfulBEq α] {as bs : List α}
    (h : (as.isSublist bs || as.all (bs.contains ·)) = true) : as.all (bs.contains ·) = true := by
  rcases Bool.or_eq_true _ _ ▸ h with h | h
  · exact List.all_eq_true.mpr fun _ ha => List.contains_iff_mem.mpr ((List.isSublist_iff_sublist.mp h).subset ha)
  · exact h

theorem writer_covered (writer : List (String × String)) (reader known : List String)
    (h : writerCovered writer reader known = true) :
    ∀ w ∈ writer, w.2 ∉ known → w.2 ∈ reader := by
  intro w hw hk
  simp only [writerCovered, List.all_eq_true, Bool.or_eq_true, List.contains_iff_mem] at h
  cases h w hw with
  | inl h => exact h
  | inr h => exact absurd h hk

end Proofs.InputFacts
