import Model.Inst
import Spec.Inst
/-! Helper lemmas for C07 (`new`). What a collector of missing methods promises is said once (`Collects`) and is kept by the
ways the collectors are put together; the collectors of `node/class_abstract_validate.go` are then set against the
unfolding of what is required. The hierarchy here (`Model.Inst.World`, `Anc`, `IReach`) is this unit's own, smaller model,
not `Model.Hier.Graph` / `Spec.Hier` of C08 and C05. -/
namespace Proofs.Inst
open Model.Inst Spec.Inst

theorem append_got {a b : Coll} {l : List (Name × Name)} (h : Coll.append a b = .got l) :
    ∃ la lb, a = .got la ∧ b = .got lb ∧ l = la ++ lb := by
  cases a with
  | fuel => simp [Coll.append] at h
  | err => simp [Coll.append] at h
  | got x =>
    cases b with
    | fuel => simp [Coll.append] at h
    | err => simp [Coll.append] at h
    | got y =>
      simp only [Coll.append, Coll.got.injEq] at h
      exact ⟨x, y, rfl, rfl, h.symm⟩

theorem got_nil_append (x : Coll) : Coll.append (.got []) x = x := by
  cases x <;> rfl

/-- `x` keeps the promise of a collector for the requirement `R` under the test `impl`: IF it answers a list, every required
method is implemented or listed, and every listed entry is a required method the test found missing. `fuel` / `err`
promise nothing. -/
def Collects (impl : Name → Option Bool) (R : Name → Prop) (x : Coll) : Prop :=
  ∀ l, x = .got l →
    (∀ m, R m → impl m = some true ∨ ∃ e ∈ l, e.2 = m) ∧ (∀ e ∈ l, impl e.2 = some false ∧ R e.2)

variable {impl : Name → Option Bool}

theorem Collects.nil {R : Name → Prop} (h : ∀ m, ¬ R m) : Collects impl R (.got []) := by
  rintro l ⟨⟩
  exact ⟨fun m hm => absurd hm (h m), nofun⟩

theorem Collects.append {R R₁ R₂ : Name → Prop} {a b : Coll} (ha : Collects impl R₁ a) (hb : Collects impl R₂ b)
    (hR : ∀ m, R m ↔ R₁ m ∨ R₂ m) : Collects impl R (Coll.append a b) := by
  intro l h
  obtain ⟨la, lb, rfl, rfl, rfl⟩ := append_got h
  obtain ⟨a1, a2⟩ := ha la rfl
  obtain ⟨b1, b2⟩ := hb lb rfl
  constructor
  · intro m hm
    rcases (hR m).mp hm with h' | h'
    · exact (a1 m h').imp_right fun ⟨e, he, hem⟩ => ⟨e, List.mem_append_left _ he, hem⟩
    · exact (b1 m h').imp_right fun ⟨e, he, hem⟩ => ⟨e, List.mem_append_right _ he, hem⟩
  · intro e he
    rcases List.mem_append.mp he with h' | h'
    · exact (a2 e h').imp_right fun h => (hR _).mpr (.inl h)
    · exact (b2 e h').imp_right fun h => (hR _).mpr (.inr h)

theorem collAll_cons (g : Name → Coll) (y : Name) (r : List Name) :
    collAll g (y :: r) = Coll.append (g y) (collAll g r) := by
  rw [collAll]
  cases g y <;> rfl

theorem Collects.of_collAll {g : Name → Coll} {R : Name → Name → Prop} :
    ∀ {xs : List Name}, (∀ x ∈ xs, Collects impl (R x) (g x)) → Collects impl (fun m => ∃ x ∈ xs, R x m) (collAll g xs)
  | [], _ => .nil fun _ ⟨_, hx, _⟩ => nomatch hx
  | y :: r, h => by
    rw [collAll_cons]
    exact (h y List.mem_cons_self).append (Collects.of_collAll fun x hx => h x (List.mem_cons_of_mem _ hx))
      fun m => by simp only [List.mem_cons, exists_eq_or_imp]

theorem Collects.of_ownMissing (o : Name) (ms : List Name) : Collects impl (· ∈ ms) (ownMissing impl o ms) := by
  -- the head contributes a list of its own (empty when it is implemented), the tail the rest
  -- cases: 1 no method left, 2 out of fuel at the head, 3 head implemented, 4 head missing
  fun_induction ownMissing impl o ms with
  | case1 => exact .nil fun _ h => nomatch h
  | case2 y r hi => rintro l ⟨⟩
  | case3 y r hi ih =>
    rw [← got_nil_append (ownMissing impl o r)]
    exact Collects.append (R₁ := (· = y)) (fun l hl => by cases hl; exact ⟨fun m hm => .inl (hm ▸ hi), nofun⟩) ih
      fun m => List.mem_cons
  | case4 y r hi ih =>
    exact Collects.append (R₁ := (· = y)) (fun l hl => by
      cases hl
      exact ⟨fun m hm => .inr ⟨_, List.mem_singleton_self _, hm.symm⟩,
        fun e he => by cases List.mem_singleton.mp he; exact ⟨hi, rfl⟩⟩) ih fun m => List.mem_cons

theorem ireach_iff {W : World} {i : Name} {d : AIfc} (hg : getIface W i = some d) (j : Name) :
    IReach W i j ↔ j = i ∨ ∃ k ∈ d.ext, IReach W k j := by
  constructor
  · intro h
    cases h with
    | refl => exact .inl rfl
    | step hd hk hr => cases hg.symm.trans hd; exact .inr ⟨_, hk, hr⟩
  · rintro (rfl | ⟨k, hk, hr⟩)
    · exact .refl _
    · exact .step hg hk hr

def IfcReq (W : World) (i m : Name) : Prop := ∃ j d, IReach W i j ∧ getIface W j = some d ∧ m ∈ d.meths

theorem Collects.of_ifaceMissing {W : World} (f : Nat) (i : Name) :
    Collects impl (IfcReq W i) (ifaceMissing W impl f i) := by
  fun_induction ifaceMissing W impl f i with
  | case1 => rintro l ⟨⟩
  | case2 f i hg => rintro l ⟨⟩
  | case3 f i d hg ih =>
    refine (Collects.of_ownMissing i d.meths).append (Collects.of_collAll fun k _ => ih k) fun m => ?_
    constructor
    · rintro ⟨j, e, hr, he, hm⟩
      rcases (ireach_iff hg j).mp hr with rfl | ⟨k, hk, hr'⟩
      · cases hg.symm.trans he; exact .inl hm
      · exact .inr ⟨k, hk, j, e, hr', he, hm⟩
    · rintro (hm | ⟨k, hk, j, e, hr, he, hm⟩)
      · exact ⟨i, d, .refl i, hg, hm⟩
      · exact ⟨j, e, .step hg hk hr, he, hm⟩

theorem exists_anc_iff {W : World} (c : ACls) (Q : ACls → Prop) :
    (∃ a, Anc W c a ∧ Q a) ↔ Q c ∨ ∃ p d, c.ext = some p ∧ getClass W p = some d ∧ ∃ a, Anc W d a ∧ Q a := by
  constructor
  · rintro ⟨a, ha, hq⟩
    cases ha with
    | refl => exact .inl hq
    | step hext hget hrest => exact .inr ⟨_, _, hext, hget, a, hrest, hq⟩
  · rintro (hq | ⟨p, d, hext, hget, a, ha, hq⟩)
    · exact ⟨c, .refl c, hq⟩
    · exact ⟨a, .step hext hget ha, hq⟩

/-- what class `a` itself asks of the concrete classes below it -/
def Asks (W : World) (a : ACls) (m : Name) : Prop := m ∈ a.abstr ∨ ∃ i ∈ a.impl, IfcReq W i m

def ReqFrom (W : World) (p : ACls) (m : Name) : Prop := ∃ a, Anc W p a ∧ Asks W a m

theorem requires_iff {W : World} {c : ACls} (h0 : c.abstr = []) (m : Name) : Requires W c m ↔ ReqFrom W c m := by
  constructor
  · rintro (⟨p, d, a, hext, hget, ha, hm⟩ | ⟨a, i, j, e, ha, hi, h⟩)
    · exact ⟨a, .step hext hget ha, .inl hm⟩
    · exact ⟨a, ha, .inr ⟨i, hi, j, e, h⟩⟩
  · rintro ⟨a, ha, hm | ⟨i, hi, j, e, h⟩⟩
    · cases ha with
      | refl => rw [h0] at hm; cases hm
      | step hext hget hrest => exact .inl ⟨_, _, a, hext, hget, hrest, hm⟩
    · exact .inr ⟨a, i, j, e, ha, hi, h⟩

theorem collect_eq (W : World) (c : ACls) (h0 : c.abstr = []) :
    collect W c = parentMissing W (fun m => implementsM W m (fuelC W) c) (fuelC W + 1) c := by
  simp only [collect, parentMissing, h0, ownMissing, got_nil_append]

theorem Collects.of_parentMissing {W : World} : ∀ (f : Nat) (p : ACls),
    Collects impl (ReqFrom W p) (parentMissing W impl f p)
  | 0, _ => by rintro l ⟨⟩
  | f+1, p => by
    unfold parentMissing
    -- the three parts of the list against `ReqFrom W p` unfolded once (`exists_anc_iff` on `Asks`): what `p` declares
    -- abstract, what its interfaces ask for, what is required from its parent upwards
    refine (Collects.of_ownMissing p.name p.abstr).append
      ((Collects.of_collAll fun i _ => Collects.of_ifaceMissing (fuelI W) i).append
        (R₂ := fun m => ∃ g gd, p.ext = some g ∧ getClass W g = some gd ∧ ReqFrom W gd m) ?_ fun _ => Iff.rfl)
      fun m => (exists_anc_iff p (Asks W · m)).trans or_assoc
    cases hext : p.ext with
    | none => exact .nil fun _ ⟨_, _, h, _⟩ => nomatch h
    | some g =>
      simp only []
      cases hg : getClass W g with
      | none => rintro l ⟨⟩
      | some gd =>
        intro l hl
        obtain ⟨h1, h2⟩ := Collects.of_parentMissing f gd l hl
        exact ⟨fun m ⟨_, _, he, hg', hm⟩ => by cases he; cases hg.symm.trans hg'; exact h1 m hm,
          fun e he => (h2 e he).imp_right fun h => ⟨g, gd, rfl, hg, h⟩⟩

theorem implementsM_spec {W : World} {m : Name} (f : Nat) (c : ACls) (b : Bool)
    (h : implementsM W m f c = some b) : b = true ↔ Provides W c m := by
  rw [Provides]
  -- cases: 1 out of fuel, 2 `c` has the method; otherwise 3 no parent, 4 parent undeclared, 5 on to the parent `d`
  fun_induction implementsM W m f c generalizing b with
  | case1 c => cases h
  | case2 f c hc =>
    cases h
    exact iff_of_true rfl ⟨c, .refl c, by simpa using hc⟩
  | case3 f c hc hext =>
    cases h
    rw [exists_anc_iff, or_iff_right (by simpa using hc)]
    exact iff_of_false Bool.false_ne_true fun ⟨_, _, he, _⟩ => nomatch hext.symm.trans he
  | case4 f c hc p hext hg =>
    cases h
    rw [exists_anc_iff, or_iff_right (by simpa using hc)]
    exact iff_of_false Bool.false_ne_true fun ⟨_, _, he, hg', _⟩ => by cases hext.symm.trans he; cases hg.symm.trans hg'
  | case5 f c hc p hext d hg ih =>
    rw [ih b h, exists_anc_iff c, or_iff_right (by simpa using hc)]
    exact ⟨fun hp => ⟨p, d, hext, hg, hp⟩,
      fun ⟨_, _, he, hg', hp⟩ => by cases hext.symm.trans he; cases hg.symm.trans hg'; exact hp⟩

theorem validate_spec (W : World) (c : ACls) :
    match validate W c with
    | .selfAbstract => c.abstr ≠ []
    | .ok => c.abstr = [] ∧ Complete W c
    | .missing => c.abstr = [] ∧ ¬ Complete W c
    | _ => True := by
  unfold validate
  by_cases ha : c.abstr ≠ []
  · rw [if_pos ha]
    exact ha
  · rw [if_neg ha]
    have h0 : c.abstr = [] := by simpa using ha
    have hcoll := collect_eq W c h0 ▸ Collects.of_parentMissing (impl := fun m => implementsM W m (fuelC W) c) (fuelC W + 1) c
    cases hc : collect W c with
    | fuel => trivial
    | err => trivial
    | got l =>
      obtain ⟨hall, hlist⟩ := hcoll l hc
      cases l with
      | nil =>
        exact ⟨h0, fun m hreq => (implementsM_spec _ _ _
          ((hall m ((requires_iff h0 m).mp hreq)).resolve_right fun ⟨_, hx, _⟩ => nomatch hx)).mp rfl⟩
      | cons e l =>
        obtain ⟨him, hreq⟩ := hlist e List.mem_cons_self
        exact ⟨h0, fun hcomp =>
          Bool.false_ne_true ((implementsM_spec _ _ _ him).mpr (hcomp _ ((requires_iff h0 _).mpr hreq)))⟩

theorem instChain_spec (W : World) (f : Nat) (c : ACls) :
    match instChain W f c with
    | .ok => c.isAbstract = false → validate W c = .ok
    | .noClass | .stuck => True
    | r => ∃ a, Anc W c a ∧ a.isAbstract = false ∧ validate W a = r := by
  -- cases: 1 out of fuel; `c` passes (abstract, or `validate` says `ok`): 2 no parent, 3 parent undeclared, 4 on to the
  -- parent `d`; 5 any other verdict at `c` is the answer
  fun_induction instChain W f c with
  | case1 => trivial
  | case2 f c hv hext => exact fun ha => by rwa [ha] at hv
  | case3 => trivial
  | case4 f c hv p hext d hg ih =>
    generalize instChain W f d = r at ih ⊢
    cases r with
    | ok => exact fun ha => by rwa [ha] at hv
    | noClass | stuck => trivial
    | _ => exact ih.imp fun a h => ⟨.step hext hg h.1, h.2⟩
  | case5 f c hne =>
    cases ha : c.isAbstract with
    | true => simp [ha] at hne
    | false =>
      simp only [ha, Bool.false_eq_true, if_false] at hne ⊢
      cases hv : validate W c with
      | ok => exact absurd hv hne
      | noClass | stuck => trivial
      | _ => exact ⟨c, .refl c, ha, hv⟩

end Proofs.Inst
