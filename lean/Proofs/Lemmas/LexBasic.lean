import Model.Lex
/-! Bytes, newline counts and the UTF-8 decoder of `Model.Lex`. `Model.EmitQuote` (C16) has a decoder of its
own with the same accept table; its lemmas are in `Proofs/Lemmas/EmitQuoteUtf8.lean`. -/
namespace Proofs.Lex
open Model.Lex

variable {inp : Input}

def OkAnd {α : Type} (Q : α → Prop) (x : Res α) : Prop := ∃ a, x = .ok a ∧ Q a

theorem OkAnd.ok {α : Type} {Q : α → Prop} {a : α} (h : Q a) : OkAnd Q (.ok a) := ⟨a, rfl, h⟩

theorem OkAnd.imp {α : Type} {Q Q' : α → Prop} {x : Res α} (h : ∀ a, Q a → Q' a) :
    OkAnd Q x → OkAnd Q' x
  | ⟨a, e, q⟩ => ⟨a, e, h a q⟩

theorem bAt_lt {i : Nat} (h : i < inp.size) : bAt inp i = inp[i].toNat := by
  simp [bAt, h]

theorem bAt_ge {i : Nat} (h : inp.size ≤ i) : bAt inp i = 256 := by
  have : ¬ i < inp.size := by omega
  simp [bAt, this]

theorem bAt_lt_256_iff {i : Nat} : bAt inp i < 256 ↔ i < inp.size := by
  constructor
  · intro h
    by_cases hi : i < inp.size
    · exact hi
    · rw [bAt_ge (by omega)] at h; omega
  · intro h; rw [bAt_lt h]; exact UInt8.toNat_lt _

theorem rd_ok {i : Nat} (h : i < inp.size) : rd inp i = .ok (bAt inp i) := by
  simp [rd, bAt, h]

theorem nlCount_self (inp : Input) (a : Nat) : nlCount inp a a = 0 := by simp [nlCount]

/-- the segment `[a, b)`, which the model cuts out with `drop` and `take`, is core's `Array.extract` -/
theorem nlCount_eq (inp : Input) (a b : Nat) : nlCount inp a b = (inp.extract a b).toList.count 10 := by
  rw [Array.toList_extract]; rfl

theorem slice_eq (inp : Input) (a b : Nat) : slice inp a b = (inp.extract a b).toList.map (·.toNat) := by
  rw [Array.toList_extract]; rfl

theorem nlCount_split (inp : Input) (a b c : Nat) (hab : a ≤ b) (hbc : b ≤ c) :
    nlCount inp a c = nlCount inp a b + nlCount inp b c := by
  rw [nlCount_eq, nlCount_eq, nlCount_eq, ← List.count_append, ← Array.toList_append,
    Array.extract_append_extract, Nat.min_eq_left hab, Nat.max_eq_right hbc]

theorem extract_one {pos : Nat} (h : pos < inp.size) : inp.extract pos (pos + 1) = #[inp[pos]] := by
  rw [Array.extract_succ_right (Nat.lt_succ_self _) h, Array.extract_empty_of_stop_le_start (Nat.le_refl _)]
  rfl

/-- at every position: beyond the end the segment is empty and `bAt` answers 256 -/
theorem nlCount_one (inp : Input) (pos : Nat) :
    nlCount inp pos (pos+1) = if bAt inp pos = 10 then 1 else 0 := by
  rw [nlCount_eq]
  by_cases h : pos < inp.size
  · rw [extract_one h, bAt_lt h, List.count_singleton]
    simp only [beq_iff_eq, ← UInt8.toNat_inj]; rfl
  · rw [bAt_ge (Nat.le_of_not_lt h), Array.extract_empty_of_size_le_start (Nat.le_of_not_lt h)]
    rfl

def NoNL (inp : Input) (a b : Nat) : Prop := ∀ i, a ≤ i → i < b → bAt inp i ≠ 10

theorem NoNL.append {inp : Input} {a b c : Nat} (h1 : NoNL inp a b) (h2 : NoNL inp b c) : NoNL inp a c := by
  intro i hi1 hi2
  by_cases h : i < b
  · exact h1 i hi1 h
  · exact h2 i (by omega) hi2

theorem NoNL.one {a : Nat} (h : bAt inp a ≠ 10) : NoNL inp a (a+1) := by
  intro i hi1 hi2
  have : i = a := by omega
  subst this; exact h

theorem NoNL.empty (inp : Input) (a : Nat) : NoNL inp a a := by
  intro i h1 h2; omega

theorem nlCount_zero {a b : Nat} (h : NoNL inp a b) : nlCount inp a b = 0 := by
  by_cases hab : a ≤ b
  · obtain ⟨n, rfl⟩ := Nat.exists_eq_add_of_le hab
    induction n with
    | zero => exact nlCount_self inp a
    | succ n ih =>
      rw [← Nat.add_assoc, nlCount_split inp a (a + n) _ (Nat.le_add_right a n) (Nat.le_succ _),
        ih (fun i h1 h2 => h i h1 (Nat.lt_succ_of_lt h2)) (Nat.le_add_right a n),
        nlCount_one, if_neg (h _ (Nat.le_add_right a n) (Nat.lt_succ_self _))]
  · rw [nlCount, Nat.sub_eq_zero_of_le (Nat.le_of_not_le hab)]; rfl

theorem slice_one {pos : Nat} (h : pos < inp.size) : slice inp pos (pos + 1) = [bAt inp pos] := by
  rw [slice_eq, extract_one h, bAt_lt h]; rfl

theorem nl_mem_slice {a b : Nat} : 10 ∈ slice inp a b ↔ 0 < nlCount inp a b := by
  rw [nlCount, List.count_pos_iff, slice, List.mem_map]
  exact ⟨fun ⟨_, hu, e⟩ => UInt8.toNat_inj.mp (show _ = (10 : UInt8).toNat from e) ▸ hu, fun h => ⟨10, h, rfl⟩⟩

/-- the span of a single-line token, or a part of one -/
structure Seg (inp : Input) (a b : Nat) : Prop where
  le : a ≤ b
  bound : b ≤ inp.size
  noNL : NoNL inp a b

theorem Seg.refl {a : Nat} (h : a ≤ inp.size) : Seg inp a a :=
  ⟨Nat.le_refl _, h, NoNL.empty _ _⟩

theorem Seg.trans {a b c : Nat} (h1 : Seg inp a b) (h2 : Seg inp b c) : Seg inp a c :=
  ⟨Nat.le_trans h1.le h2.le, h2.bound, h1.noNL.append h2.noNL⟩

theorem Seg.one {a : Nat} (h : a < inp.size) (hb : bAt inp a ≠ 10) : Seg inp a (a + 1) :=
  ⟨Nat.le_succ _, h, NoNL.one hb⟩

theorem Seg.cons {a b : Nat} (hb : bAt inp a ≠ 10) (h : Seg inp (a + 1) b) : Seg inp a b :=
  (Seg.one (Nat.lt_of_lt_of_le (Nat.lt_succ_self a) (Nat.le_trans h.le h.bound)) hb).trans h

theorem cont_range {b : Nat} (h : cont b = true) : 0x80 ≤ b ∧ b < 256 := by
  simp [cont] at h; omega

/-- the accept range of a second byte: a continuation byte, at least `lo` behind the lead byte `L` (no
over-long form), at most `hi` behind the lead byte `H` (no surrogate, nothing beyond U+10FFFF). Kept are
the continuation range and the lower bound, which `decode_spec` needs (the rune is ≥ 0x80); the upper
bound behind `H` is not. -/
theorem second_range {b0 b1 L lo H hi : Nat} (hlo : 0x80 ≤ lo) (hhi : hi ≤ 0xBF)
    (h : (decide ((if b0 = L then lo else 0x80) ≤ b1) && decide (b1 ≤ (if b0 = H then hi else 0xBF))) = true) :
    0x80 ≤ b1 ∧ b1 ≤ 0xBF ∧ (b0 = L → lo ≤ b1) := by
  simp only [Bool.and_eq_true, decide_eq_true_eq] at h
  exact ⟨Nat.le_trans (iteInduction (motive := (0x80 ≤ ·)) (fun _ => hlo) fun _ => Nat.le_refl _) h.1,
    Nat.le_trans h.2 (iteInduction (motive := (· ≤ 0xBF)) (fun _ => hhi) fun _ => Nat.le_refl _), fun e => (if_pos e ▸ h.1 :)⟩

theorem second3_range {b0 b1 : Nat} (h : second3 b0 b1 = true) :
    0x80 ≤ b1 ∧ b1 ≤ 0xBF ∧ (b0 = 0xE0 → 0xA0 ≤ b1) :=
  second_range (by decide) (by decide) h

theorem second4_range {b0 b1 : Nat} (h : second4 b0 b1 = true) :
    0x80 ≤ b1 ∧ b1 ≤ 0xBF ∧ (b0 = 0xF0 → 0x90 ≤ b1) :=
  second_range (by decide) (by decide) h

/-! Stated over the byte values alone: `omega` is slow on the remainders inside the decoder's context. -/

theorem rune2_ge {b0 b1 : Nat} (h0 : 0xC2 ≤ b0) (h0' : b0 < 0xE0) : 0x80 ≤ (b0 % 32) * 64 + b1 % 64 := by
  omega

theorem rune3_ge {b0 b1 b2 : Nat} (h0 : 0xE0 ≤ b0) (h0' : b0 < 0xF0) (h1 : b1 ≤ 0xBF)
    (he : b0 = 0xE0 → 0xA0 ≤ b1) : 0x80 ≤ (b0 % 16) * 4096 + (b1 % 64) * 64 + b2 % 64 := by
  omega

theorem rune4_ge {b0 b1 b2 b3 : Nat} (h0 : 0xF0 ≤ b0) (h0' : b0 < 0xF5) (h1 : b1 ≤ 0xBF)
    (he : b0 = 0xF0 → 0x90 ≤ b1) :
    0x80 ≤ (b0 % 8) * 262144 + (b1 % 64) * 4096 + (b2 % 64) * 64 + b3 % 64 := by
  omega

/-- what a decoding step `(r, n)` at `pos` guarantees -/
structure DecOK (inp : Input) (pos r n : Nat) : Prop where
  size_pos : 1 ≤ n
  nl : r = 10 → bAt inp pos = 10 ∧ n = 1
  seg : r ≠ 10 → Seg inp pos (pos + n)

theorem DecOK.hi {pos r n : Nat} (hn : 1 ≤ n) (hr : 0x80 ≤ r) (hs : Seg inp pos (pos + n)) :
    DecOK inp pos r n :=
  ⟨hn, fun e => by omega, fun _ => hs⟩

theorem decode_spec {pos r n : Nat} (h : pos < inp.size) (hd : decodeRune inp pos = (r, n)) :
    DecOK inp pos r n := by
  -- `P` keeps the decoded pair in one place, so that `iteInduction` finds its motive
  let P := fun x : Nat × Nat => DecOK inp pos x.1 x.2
  suffices key : P (decodeRune inp pos) by rwa [hd] at key
  rw [decodeRune, if_pos h]
  dsimp only
  refine iteInduction (fun _ => ⟨Nat.le_refl _, fun e => ⟨e, rfl⟩, Seg.one h⟩) fun c1 => ?_  -- b0 < 0x80: ASCII
  have h10 : bAt inp pos ≠ 10 := by omega
  have err : P (runeError, 1) := .hi (Nat.le_refl _) (by decide) (Seg.one h h10)
  have ct : ∀ {i}, cont (bAt inp i) = true → i < inp.size ∧ bAt inp i ≠ 10 := fun hc =>
    ⟨bAt_lt_256_iff.mp (cont_range hc).2, by have := (cont_range hc).1; omega⟩
  refine iteInduction (fun _ => err) fun c2 => ?_  -- b0 < 0xC2: stray continuation byte or over-long lead
  refine iteInduction (fun c3 => iteInduction (fun c => ?_) fun _ => err) fun c3 => ?_  -- b0 < 0xE0: 2 bytes
  · obtain ⟨l1, n1⟩ := ct c
    exact .hi (Nat.le_add_left 1 1) (rune2_ge (Nat.le_of_not_lt c2) c3) (Seg.cons h10 (Seg.one l1 n1))
  have h3 := Nat.le_of_not_lt c3
  refine iteInduction (fun c4 => iteInduction (fun c => ?_) fun _ => err) fun c4 => ?_  -- b0 < 0xF0: 3 bytes
  · simp only [Bool.and_eq_true] at c
    obtain ⟨r1, r2, r3⟩ := second3_range c.1
    obtain ⟨l2, n2⟩ := ct c.2
    exact .hi (Nat.le_add_left 1 2) (rune3_ge h3 c4 r2 r3) (Seg.cons h10 (Seg.cons (by omega) (Seg.one l2 n2)))
  have h4 := Nat.le_of_not_lt c4
  refine iteInduction (fun c5 => iteInduction (fun c => ?_) fun _ => err) fun _ => err  -- b0 < 0xF5: 4 bytes; else no lead byte
  simp only [Bool.and_eq_true] at c
  obtain ⟨r1, r2, r3⟩ := second4_range c.1.1
  obtain ⟨_, n2⟩ := ct c.1.2
  obtain ⟨l3, n3⟩ := ct c.2
  exact .hi (Nat.le_add_left 1 3) (rune4_ge h4 c5 r2 r3)
    (Seg.cons h10 (Seg.cons (by omega) (Seg.cons n2 (Seg.one l3 n3))))

theorem decode_size_pos {inp : Input} {pos : Nat} (h : pos < inp.size) :
    1 ≤ (decodeRune inp pos).2 ∧ pos + (decodeRune inp pos).2 ≤ inp.size := by
  have ok : DecOK inp pos (decodeRune inp pos).1 (decodeRune inp pos).2 := decode_spec h rfl
  refine ⟨ok.size_pos, ?_⟩
  by_cases e : (decodeRune inp pos).1 = 10
  · rw [(ok.nl e).2]; exact h
  · exact (ok.seg e).bound

theorem skipWhile_ge (inp : Input) (p : Nat → Bool) (f pos : Nat) : pos ≤ skipWhile inp p f pos := by
  fun_induction skipWhile inp p f pos with
  | case1 => exact Nat.le_refl _
  | case2 f pos _ ih => exact Nat.le_trans (Nat.le_succ _) ih
  | case3 => exact Nat.le_refl _

theorem skipWhile_le (inp : Input) (p : Nat → Bool) (f pos : Nat) (h : pos ≤ inp.size) :
    skipWhile inp p f pos ≤ inp.size := by
  fun_induction skipWhile inp p f pos with
  | case1 => exact h
  | case2 f pos hc ih => exact ih (of_decide_eq_true (Bool.and_eq_true_iff.mp hc).1)
  | case3 => exact h

end Proofs.Lex
