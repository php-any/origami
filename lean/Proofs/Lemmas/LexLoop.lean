import Proofs.Lemmas.LexScan
/-! The two main loops keep `Inv`. Their common body is `body`, tied to the model by two `rfl` unfoldings
(`scriptLoop_succ`, `tmplScript_succ`); what a finished loop answers obeys `RawOK`. -/
namespace Proofs.Lex
open Model.Lex

variable {cfg : Cfg} {inp : Input}

/-- the laws of one raw token: the span laws of C18 (`nonempty`, `bound`, `line`), and of the literal
what pass 1 and `C18_raw_literal` read -/
structure TokOK (cfg : Cfg) (inp : Input) (t : Tok) : Prop where
  nonempty : t.start < t.stop
  bound : t.stop ≤ inp.size
  line : t.line = nlCount inp 0 t.start
  lit_ml : 10 ∈ t.lit → t.ty ∈ ml cfg
  lit_src : t.lit = slice inp t.start t.stop ∨ t.ty = cfg.tUNKNOWN

def Chain {α : Type} (R : α → α → Prop) : List α → Prop
  | a :: b :: rest => R a b ∧ Chain R (b :: rest)
  | _ => True

theorem chain_cons {α : Type} {R : α → α → Prop} {a : α} {l : List α} (hl : Chain R l)
    (hh : ∀ b rest, l = b :: rest → R a b) : Chain R (a :: l) := by
  cases l with
  | nil => trivial
  | cons b bs => exact ⟨hh b bs rfl, hl⟩

theorem chain_tail {α : Type} {R : α → α → Prop} {a : α} {l : List α} (h : Chain R (a :: l)) : Chain R l := by
  cases l with
  | nil => trivial
  | cons b bs => exact h.2

theorem chain_reverse_append {α : Type} (R : α → α → Prop) :
    ∀ l acc : List α, Chain (fun later earlier => R earlier later) l → Chain R acc →
      (∀ a l' b acc', l = a :: l' → acc = b :: acc' → R a b) → Chain R (l.reverse ++ acc)
  | [], _, _, hacc, _ => hacc
  | a :: l, acc, h, hacc, hh => by
    rw [List.reverse_cons, List.append_assoc]
    exact chain_reverse_append R l (a :: acc) (chain_tail h) (chain_cons hacc (fun b acc' e => hh a l b acc' rfl e))
      (fun x l' y acc' ex ey => by cases ex; cases ey; exact h.1)

/-- the next token is on the same line unless this one contains a newline (or is an HTML part:
    `lastWasNewline` survives the HTML part of a template, so a newline after `<?php` may be
    swallowed without a NEWLINE token) -/
def AdjR (cfg : Cfg) (a b : Tok) : Prop := b.line = a.line ∨ 10 ∈ a.lit ∨ a.ty = cfg.tHTML

/-- what a finished main loop answers: every token obeys `TokOK`, spans are ordered, neighbours are `AdjR` -/
structure RawOK (cfg : Cfg) (inp : Input) (ts : List Tok) : Prop where
  toks : ∀ t ∈ ts, TokOK cfg inp t
  ordered : ts.Pairwise (fun a b => a.stop ≤ b.start)
  adj : Chain (AdjR cfg) ts

/-- `acc` holds the tokens newest first. `head`: the current line is the newest token's
line unless that token holds a newline or is HTML, which is what makes the next token `AdjR` to it.
`lastnl`: where a NEWLINE is suppressed (`lastNL`), `line` grows and no token is emitted, so `head` can
only hold through its second or third alternative, and `lastnl` supplies it (`inv_newline`, case `true`). -/
structure Inv (cfg : Cfg) (inp : Input) (pos line : Nat) (lastNL : Bool) (acc : List Tok) : Prop where
  pos_le : pos ≤ inp.size
  line_eq : line = nlCount inp 0 pos
  toks : ∀ t ∈ acc, TokOK cfg inp t ∧ t.stop ≤ pos
  ordered : acc.Pairwise (fun later earlier => earlier.stop ≤ later.start)
  adj : Chain (fun later earlier => AdjR cfg earlier later) acc
  head : ∀ h rest, acc = h :: rest → line = h.line ∨ 10 ∈ h.lit ∨ h.ty = cfg.tHTML
  lastnl : lastNL = true → ∃ h rest, acc = h :: rest ∧ (10 ∈ h.lit ∨ h.ty = cfg.tHTML)

theorem inv_init (cfg : Cfg) (inp : Input) : Inv cfg inp 0 0 false [] :=
  ⟨Nat.zero_le _, by simp [nlCount_self], by simp, List.Pairwise.nil, by simp [Chain], by simp, by simp⟩

theorem inv_result {pos line : Nat} {lastNL : Bool} {acc : List Tok}
    (h : Inv cfg inp pos line lastNL acc) : RawOK cfg inp acc.reverse :=
  ⟨fun t ht => (h.toks t (by simpa using ht)).1,
   by rw [List.pairwise_reverse]; exact h.ordered,
   by rw [← List.append_nil acc.reverse]; exact chain_reverse_append (AdjR cfg) acc [] h.adj trivial nofun⟩

theorem inv_skip {pos line q : Nat} {lastNL : Bool} {acc : List Tok}
    (h : Inv cfg inp pos line lastNL acc) (hs : Seg inp pos q) : Inv cfg inp q line lastNL acc := by
  refine ⟨hs.bound, ?_, fun t ht => ⟨(h.toks t ht).1, Nat.le_trans (h.toks t ht).2 hs.le⟩,
    h.ordered, h.adj, h.head, h.lastnl⟩
  rw [nlCount_split inp 0 pos q (Nat.zero_le _) hs.le, nlCount_zero hs.noNL, ← h.line_eq, Nat.add_zero]

theorem inv_tok {pos line : Nat} {lastNL : Bool} {acc : List Tok} {s : Scan}
    (h : Inv cfg inp pos line lastNL acc) (hs : StepOK cfg inp pos line s)
    (lastNL' : Bool) (hl : lastNL' = true → 10 ∈ s.lit ∨ s.ty = cfg.tHTML) :
    Inv cfg inp s.newPos s.newLine lastNL' (⟨s.ty, pos, s.newPos, line, s.lit⟩ :: acc) := by
  have tok : TokOK cfg inp ⟨s.ty, pos, s.newPos, line, s.lit⟩ :=
    ⟨hs.progress, hs.bound, h.line_eq, hs.lit_ml, hs.lit_src⟩
  refine ⟨hs.bound, ?_, ?_, ?_, ?_, ?_, ?_⟩
  · rw [hs.lines, h.line_eq, nlCount_split inp 0 pos s.newPos (by omega) (by have := hs.progress; omega)]
  · exact List.forall_mem_cons.mpr ⟨⟨tok, Nat.le_refl _⟩, fun t ht =>
      ⟨(h.toks t ht).1, Nat.le_trans (h.toks t ht).2 (Nat.le_of_lt hs.progress)⟩⟩
  · exact List.pairwise_cons.mpr ⟨fun t ht => (h.toks t ht).2, h.ordered⟩
  · exact chain_cons h.adj h.head
  · intro h' rest' he
    cases he
    simp only []
    by_cases hz : nlCount inp pos s.newPos = 0
    · left; rw [hs.lines, hz]; simp
    · right; left; exact hs.lit_nl (by omega)
  · intro hl'
    exact ⟨_, _, rfl, hl hl'⟩

theorem inv_newline {pos line : Nat} {lastNL : Bool} {acc : List Tok}
    (h : Inv cfg inp pos line lastNL acc) (hlt : pos < inp.size) (hb : bAt inp pos = 10) :
    Inv cfg inp (pos + 1) (line + 1) true
      (if lastNL then acc else ⟨cfg.tNEWLINE, pos, pos+1, line, [10]⟩ :: acc) := by
  have hnl : nlCount inp pos (pos + 1) = 1 := by rw [nlCount_one inp pos, if_pos hb]
  cases lastNL with
  | true =>
    obtain ⟨hd, rest, hacc, h10⟩ := h.lastnl rfl
    refine ⟨hlt, ?_, fun t ht => ⟨(h.toks t ht).1, Nat.le_succ_of_le (h.toks t ht).2⟩, h.ordered, h.adj, ?_,
      fun _ => ⟨hd, rest, hacc, h10⟩⟩
    · rw [nlCount_split inp 0 pos (pos + 1) (Nat.zero_le _) (Nat.le_succ _), hnl, ← h.line_eq]
    · intro h' rest' he
      rw [hacc] at he; cases he; exact Or.inr h10
  | false =>
    have st : StepOK cfg inp pos line ⟨cfg.tNEWLINE, pos + 1, line + 1, [10]⟩ := by
      have := StepOK.multiline (cfg := cfg) (line := line) (ty := cfg.tNEWLINE) (Nat.lt_succ_self pos) hlt (by simp [ml])
      rwa [hnl, slice_one hlt, hb] at this
    exact inv_tok h st true (fun _ => Or.inl (List.mem_singleton.mpr rfl))

/-- The two loops pass different but equivalent guards (`pos + 2 < size`, `pos + 3 ≤ size`). -/
theorem fwAt_ok (inp : Input) (pos : Nat) (g : Bool) (hg : g = true → pos + 2 < inp.size) :
    OkAnd (fun b => b = true → Seg inp pos (pos + 3)) (fwAt inp pos g) := by
  unfold fwAt
  cases g with
  | false => exact .ok nofun
  | true =>
    have := hg rfl
    rw [if_pos rfl, rd_ok (by omega), rd_ok (by omega), rd_ok this]
    refine .ok fun h => ?_
    simp only [Bool.and_eq_true, beq_iff_eq] at h
    exact Seg.cons (by omega) (Seg.cons (by omega) (Seg.one (a := pos + 2) this (by omega)))

/-- the body that `scriptLoop` and `tmplScript` share at an in-range position, with the rest of the loop
as continuation `k` -/
def body {α : Type} (cfg : Cfg) (inp : Input) (tmpl g : Bool) (k : Nat → Nat → Bool → List Tok → Res α)
    (pos line : Nat) (lastNL : Bool) (acc : List Tok) : Res α :=
  let c := bAt inp pos
  if c == 32 || c == 9 || c == 13 then k (pos+1) line lastNL acc
  else
    match fwAt inp pos g with
    | .crash w => .crash w
    | .ok true => k (pos+3) line lastNL acc
    | .ok false =>
      if c == 10 then
        k (pos+1) (line+1) true (if lastNL then acc else ⟨cfg.tNEWLINE, pos, pos+1, line, [10]⟩ :: acc)
      else
        match scanTok cfg inp tmpl pos line with
        | .crash w => .crash w
        | .ok s => k s.newPos s.newLine false (⟨s.ty, pos, s.newPos, line, s.lit⟩ :: acc)

theorem scriptLoop_succ (cfg : Cfg) (inp : Input) (f pos line : Nat) (lastNL : Bool) (acc : List Tok) :
    scriptLoop cfg inp (f+1) pos line lastNL acc =
      if pos < inp.size then
        body cfg inp false (decide (pos + 2 < inp.size)) (scriptLoop cfg inp f) pos line lastNL acc
      else .ok acc.reverse := rfl

theorem tmplScript_succ (cfg : Cfg) (inp : Input) (f pos line : Nat) (lastNL : Bool) (acc : List Tok) :
    tmplScript cfg inp (f+1) pos line lastNL acc =
      if pos < inp.size then
        if pos + 2 ≤ inp.size && bAt inp pos == 63 && bAt inp (pos+1) == 62 then .ok (pos+2, line, lastNL, acc)
        else body cfg inp true (decide (pos + 3 ≤ inp.size)) (tmplScript cfg inp f) pos line lastNL acc
      else .ok (pos, line, lastNL, acc) := rfl

/-- The call is the same for every continuation `k`, so this one lemma serves `scriptLoop_run` and
`tmplScript_ok`. -/
theorem body_spec (wf : WF cfg) (tmpl : Bool) {g : Bool} {pos : Nat} (line : Nat)
    (lastNL : Bool) (acc : List Tok) (hlt : pos < inp.size) (hg : g = true → pos + 2 < inp.size) :
    ∃ p l n a, pos < p ∧ (Inv cfg inp pos line lastNL acc → Inv cfg inp p l n a) ∧
      ∀ {α : Type} (k : Nat → Nat → Bool → List Tok → Res α),
        body cfg inp tmpl g k pos line lastNL acc = k p l n a := by
  unfold body
  dsimp only
  by_cases hws : (bAt inp pos == 32 || bAt inp pos == 9 || bAt inp pos == 13) = true
  · simp only [if_pos hws]
    simp only [Bool.or_eq_true, beq_iff_eq] at hws
    exact ⟨_, _, _, _, Nat.lt_succ_self _, fun h => inv_skip h (Seg.one hlt (by omega)), fun _ => rfl⟩
  obtain ⟨b, hb, hfw⟩ := fwAt_ok inp pos g hg
  simp only [if_neg hws, hb]
  cases b with
  | true => exact ⟨_, _, _, _, by omega, fun h => inv_skip h (hfw rfl), fun _ => rfl⟩
  | false =>
    by_cases h10 : (bAt inp pos == 10) = true
    · simp only [if_pos h10]
      exact ⟨_, _, _, _, Nat.lt_succ_self _, fun h => inv_newline h hlt (beq_iff_eq.mp h10), fun _ => rfl⟩
    · obtain ⟨s, hs, hok⟩ := scanTok_spec wf inp tmpl pos line hlt (fun hc => h10 (beq_iff_eq.mpr hc))
      simp only [if_neg h10, hs]
      exact ⟨_, _, _, _, hok.progress, fun h => inv_tok h hok false (fun hc => nomatch hc), fun _ => rfl⟩

/-- The same list for every fuel that reaches beyond the end of the input: the zero-fuel branch is not
taken. (`f` only drives the induction.) -/
theorem scriptLoop_run (wf : WF cfg) (inp : Input) :
    ∀ f pos line lastNL acc, inp.size < pos + f → Inv cfg inp pos line lastNL acc →
      ∃ ts, RawOK cfg inp ts ∧ ∀ g, inp.size < pos + g → scriptLoop cfg inp g pos line lastNL acc = .ok ts := by
  intro f
  induction f with
  | zero => intro pos line lastNL acc hf h; exact absurd h.pos_le (Nat.not_le_of_lt hf)
  | succ f ih =>
    intro pos line lastNL acc hf h
    by_cases hlt : pos < inp.size
    · obtain ⟨p, l, b, a, hp, hi, hk⟩ := body_spec wf false line lastNL acc hlt of_decide_eq_true
      have far : ∀ {g}, inp.size < pos + (g + 1) → inp.size < p + g := by omega
      obtain ⟨ts, ok, run⟩ := ih p l b a (far hf) (hi h)
      exact ⟨ts, ok, fun
        | 0, hg => absurd h.pos_le (Nat.not_le_of_lt hg)
        | g + 1, hg => by rw [scriptLoop_succ, if_pos hlt, hk]; exact run g (far hg)⟩
    · exact ⟨_, inv_result h, fun
        | 0, hg => absurd h.pos_le (Nat.not_le_of_lt hg)
        | g + 1, _ => by rw [scriptLoop_succ, if_neg hlt]⟩

/-- `scriptLoop_run` at the initial state (`inv_init`); `tokenizeRaw … .script` is the case `g = size + 1` -/
theorem script_run (wf : WF cfg) (inp : Input) :
    ∃ ts, RawOK cfg inp ts ∧ ∀ g, inp.size < g → scriptLoop cfg inp g 0 0 false [] = .ok ts :=
  let ⟨ts, ok, run⟩ := scriptLoop_run wf inp (inp.size + 1) 0 0 false [] (Nat.zero_add _ ▸ Nat.lt_succ_self _)
    (inv_init cfg inp)
  ⟨ts, ok, fun g hg => run g (Nat.zero_add _ ▸ hg)⟩

theorem findOpenTag_spec {f pos at_ : Nat} (h : findOpenTag inp f pos = some at_) :
    pos ≤ at_ ∧ Seg inp at_ (at_ + 5) := by
  fun_induction findOpenTag inp f pos with
  | case1 => cases h
  | case2 f pos hle hm => cases h; exact ⟨Nat.le_refl _, matchesAt_seg (by omega) (by decide) (by decide) hm⟩
  | case3 f pos _ _ ih => exact ⟨Nat.le_trans (Nat.le_succ _) (ih h).1, (ih h).2⟩
  | case4 => cases h

/-- for every fuel, zero included: the model answers `.ok` when it is cut short, and only the script
loop is shown not to be (`scriptLoop_run`) -/
theorem tmplScript_ok (wf : WF cfg) (inp : Input) :
    ∀ f pos line lastNL acc, Inv cfg inp pos line lastNL acc →
      ∃ pos' line' lastNL' acc', tmplScript cfg inp f pos line lastNL acc = .ok (pos', line', lastNL', acc') ∧
        Inv cfg inp pos' line' lastNL' acc' := by
  intro f
  induction f with
  | zero => intro pos line lastNL acc h; exact ⟨_, _, _, _, rfl, h⟩
  | succ f ih =>
    intro pos line lastNL acc h
    rw [tmplScript_succ]
    split
    · rename_i hlt
      split
      · rename_i hend
        simp only [Bool.and_eq_true, decide_eq_true_eq, beq_iff_eq] at hend
        exact ⟨_, _, _, _, rfl, inv_skip h (Seg.cons (by omega) (Seg.one hend.1.1 (by omega)))⟩
      · obtain ⟨p, l, n, a, _, hi, hk⟩ := body_spec wf true (g := decide (pos + 3 ≤ inp.size)) line lastNL acc hlt of_decide_eq_true
        rw [hk]
        exact ih _ _ _ _ (hi h)
    · exact ⟨_, _, _, _, rfl, h⟩

theorem inv_html {pos line e : Nat} {lastNL : Bool} {acc : List Tok}
    (h : Inv cfg inp pos line lastNL acc) (h1 : pos < e) (h2 : e ≤ inp.size) :
    Inv cfg inp e (line + nlCount inp pos e) lastNL (⟨cfg.tHTML, pos, e, line, slice inp pos e⟩ :: acc) :=
  inv_tok h (StepOK.multiline (line := line) h1 h2 (html_mem_ml cfg)) lastNL (fun _ => Or.inr rfl)

theorem tmplLoop_ok (wf : WF cfg) (inp : Input) :
    ∀ f pos line lastNL acc, Inv cfg inp pos line lastNL acc →
      OkAnd (RawOK cfg inp) (tmplLoop cfg inp f pos line lastNL acc) := by
  intro f
  induction f with
  | zero => intro pos line lastNL acc h; exact .ok (inv_result h)
  | succ f ih =>
    intro pos line lastNL acc h
    unfold tmplLoop
    split
    · rename_i hlt
      split
      · exact ⟨_, rfl, inv_result (inv_html h hlt (Nat.le_refl _))⟩   -- no open tag: HTML to the end
      · rename_i at_ hat
        obtain ⟨a1, a2⟩ := findOpenTag_spec hat
        simp only []
        have hmid : Inv cfg inp at_ (if at_ > pos then line + nlCount inp pos at_ else line) lastNL
            (if at_ > pos then ⟨cfg.tHTML, pos, at_, line, slice inp pos at_⟩ :: acc else acc) := by
          by_cases hgt : at_ > pos
          · simp only [hgt, if_true]
            exact inv_html h hgt (Nat.le_trans (Nat.le_add_right _ _) a2.bound)
          · have : at_ = pos := by omega
            subst this
            simp only [hgt, if_false]
            exact h
        obtain ⟨p2, l2, n2, acc2, hs, hi2⟩ := tmplScript_ok wf inp (inp.size + 1) (at_ + 5) _ lastNL _
          (inv_skip hmid a2)
        rw [hs]
        exact ih _ _ _ _ hi2
    · exact ⟨_, rfl, inv_result h⟩

theorem tokenizeRaw_ok (wf : WF cfg) (inp : Input) (mode : Mode) :
    OkAnd (RawOK cfg inp) (tokenizeRaw cfg inp mode) := by
  cases mode with
  | script =>
    obtain ⟨ts, ok, run⟩ := script_run wf inp
    exact ⟨ts, run _ (Nat.lt_succ_self _), ok⟩
  | template => exact tmplLoop_ok wf inp (inp.size + 1) 0 0 false [] (inv_init cfg inp)

theorem rawOK_of_eq (wf : WF cfg) {mode : Mode} {raw : List Tok}
    (h : tokenizeRaw cfg inp mode = .ok raw) : RawOK cfg inp raw := by
  obtain ⟨ts, h', ok⟩ := tokenizeRaw_ok wf inp mode
  cases h.symm.trans h'
  exact ok

end Proofs.Lex
