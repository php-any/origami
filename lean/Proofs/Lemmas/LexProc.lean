import Proofs.Lemmas.LexLoop
/-! `Preprocessor.Process`. Pass 1 keeps `P1Inv`: what it merges stays on one line, because the merged
tokens hold no newline and are of no multi-line type. Passes 2 and 3 only drop or retype tokens, so their
answers are sublists as far as spans and lines (`key`) go. -/
namespace Proofs.Lex
open Model.Lex

variable {cfg : Cfg} {inp : Input}

/-- the three span laws of C18 -/
structure SpanOK (inp : Input) (t : Tok) : Prop where
  nonempty : t.start < t.stop
  bound : t.stop ≤ inp.size
  line : t.line = nlCount inp 0 t.start

theorem TokOK.span {t : Tok} (h : TokOK cfg inp t) : SpanOK inp t := ⟨h.nonempty, h.bound, h.line⟩

/-- what pass 1 needs of the configuration: an identifier it merges has no newline; the token behind a
`$` or `\` token is on its line -/
structure WF2 (cfg : Cfg) : Prop where
  letter_nl : cfg.isLetter 10 = false
  digit_nl : cfg.isDigit 10 = false
  dollar_ml : cfg.tDOLLAR ∉ ml cfg
  nssep_ml : cfg.tNSSEP ∉ ml cfg

theorem allRunes_noNL {p : Nat → Bool} (hp : p 10 = false) (lit : Input) (f pos : Nat)
    (hf : lit.size < pos + f) (h : allRunes p lit f pos = true) : NoNL lit pos lit.size := by
  fun_induction allRunes p lit f pos with
  | case1 pos => exact fun i h1 h2 => absurd (Nat.lt_of_le_of_lt h1 h2) (Nat.lt_asymm hf)
  | case2 f pos hlt r n hd ih =>
    have hc := decode_spec hlt hd
    rw [Bool.and_eq_true] at h
    have hs := hc.seg fun e => by rw [e, hp] at h; exact Bool.false_ne_true h.1
    exact hs.noNL.append (ih (by have := hc.size_pos; omega) h.2)
  | case3 f pos hlt => exact fun i h1 h2 => absurd (Nat.lt_of_le_of_lt h1 h2) hlt

theorem bAt_ofList (l : List Nat) (k : Nat) (hk : k < l.length) (hb : l[k] < 256) :
    bAt ((l.map (·.toUInt8)).toArray) k = l[k] := by
  have : k < ((l.map (·.toUInt8)).toArray).size := by simpa using hk
  rw [bAt_lt this]
  simp [Nat.toUInt8, Nat.mod_eq_of_lt hb]

theorem validIdent_no_nl (wf2 : WF2 cfg) {t : Tok} : validIdentTok cfg t = true → 10 ∉ t.lit := by
  fun_cases validIdentTok cfg t with
  | case4 lit =>
    -- the one branch that can answer `true`: every rune passes the identifier test, which `\n` fails
    intro h hc
    obtain ⟨k, hk, hget⟩ := List.getElem_of_mem hc
    have hp : (fun r => !(!cfg.isLetter r && !cfg.isDigit r && r != 95 && decide (r < 0x4e00))) 10 = false := by
      simp [wf2.letter_nl, wf2.digit_nl]
    have := allRunes_noNL hp _ _ 0 (by omega) h k (Nat.zero_le _) (by simpa [lit] using hk)
    rw [bAt_ofList t.lit k hk (by omega)] at this
    exact this hget
  | _ => exact nofun

theorem validIdent_not_html {cfg : Cfg} {t : Tok} (h : validIdentTok cfg t = true) : t.ty ≠ cfg.tHTML := by
  intro hc
  unfold validIdentTok at h
  simp [hc] at h

/-- the laws of `RawOK`, read by pass 1 of the suffix of the raw list it has still to process -/
structure RestOK (cfg : Cfg) (inp : Input) (ts : List Tok) : Prop where
  toks : ∀ t ∈ ts, TokOK cfg inp t
  ordered : ts.Pairwise (fun a b => a.stop ≤ b.start)
  adj : Chain (AdjR cfg) ts

theorem RestOK.tail {a : Tok} {l : List Tok} (h : RestOK cfg inp (a :: l)) :
    RestOK cfg inp l :=
  ⟨fun t ht => h.toks t (List.mem_cons_of_mem _ ht), (List.pairwise_cons.mp h.ordered).2,
   chain_tail h.adj⟩

theorem same_line_of_lit {a b : Tok} {l : List Tok} (h : RestOK cfg inp (a :: b :: l))
    (h10 : 10 ∉ a.lit) (hh : a.ty ≠ cfg.tHTML) : b.line = a.line :=
  h.adj.1.resolve_right (not_or.mpr ⟨h10, hh⟩)

theorem same_line_of_ty {a b : Tok} {l : List Tok} (h : RestOK cfg inp (a :: b :: l))
    (hml : a.ty ∉ ml cfg) : b.line = a.line :=
  same_line_of_lit h (fun e => hml ((h.toks a List.mem_cons_self).lit_ml e)) (fun e => hml (e ▸ html_mem_ml cfg))

/-- what pass 1 needs of the answer `(remaining tokens, last token, literal)` of `nsChain` started behind
`last` with `toks` to go -/
structure NsOK (cfg : Cfg) (inp : Input) (toks : List Tok) (last : Tok) (r : List Tok × Tok × List Nat) : Prop where
  rest : RestOK cfg inp r.1
  sub : ∀ x ∈ r.1, x ∈ toks
  line : r.2.1.line = last.line
  bound : r.2.1.stop ≤ inp.size
  grows : last.stop ≤ r.2.1.stop
  sep : ∀ t ∈ r.1, r.2.1.stop ≤ t.start

theorem ns_stop {toks : List Tok} {last : Tok} (h : RestOK cfg inp (last :: toks))
    (lit : List Nat) : NsOK cfg inp toks last (toks, last, lit) :=
  ⟨h.tail, fun _ hx => hx, rfl, (h.toks last List.mem_cons_self).bound, Nat.le_refl _,
    (List.pairwise_cons.mp h.ordered).1⟩

theorem nsChain_spec (wf2 : WF2 cfg) (inp : Input) (f : Nat) (toks : List Tok) (last : Tok) (lit : List Nat)
    (h : RestOK cfg inp (last :: toks)) (h10 : 10 ∉ last.lit) (hh : last.ty ≠ cfg.tHTML) :
    NsOK cfg inp toks last (nsChain cfg f toks last lit) := by
  fun_induction nsChain cfg f toks last lit with
  | case2 f last lit sep id rest hc ih =>
    -- the one branch that goes on: `\` and an identifier-like token follow
    simp only [Bool.and_eq_true, beq_iff_eq] at hc
    obtain ⟨hsep, hid⟩ := hc
    have l1 : sep.line = last.line := same_line_of_lit h h10 hh
    have l2 : id.line = sep.line := same_line_of_ty h.tail (hsep ▸ wf2.nssep_ml)
    have r := ih h.tail.tail (validIdent_no_nl wf2 hid) (validIdent_not_html hid)
    refine ⟨r.rest, fun x hx => List.mem_cons_of_mem _ (List.mem_cons_of_mem _ (r.sub x hx)),
      by rw [r.line, l2, l1], r.bound, ?_, r.sep⟩
    have := r.grows
    have o1 := (List.pairwise_cons.mp h.ordered).1 sep List.mem_cons_self
    have o2 := (List.pairwise_cons.mp h.tail.ordered).1 id List.mem_cons_self
    have n1 := (h.toks sep (by simp)).nonempty
    have n2 := (h.toks id (by simp)).nonempty
    omega
  | _ => exact ns_stop h _

/-- `acc` newest first -/
structure P1Inv (cfg : Cfg) (inp : Input) (toks acc : List Tok) : Prop where
  rest : RestOK cfg inp toks
  acc_ok : ∀ t ∈ acc, SpanOK inp t
  acc_ord : acc.Pairwise (fun later earlier => earlier.stop ≤ later.start)
  sep : ∀ a ∈ acc, ∀ t ∈ toks, a.stop ≤ t.start

/-- what `Process` and the entry points answer: the span laws and the order; the literal and adjacency
laws of `RawOK` do not survive pass 1 -/
structure FinOK (inp : Input) (ts : List Tok) : Prop where
  toks : ∀ t ∈ ts, SpanOK inp t
  ordered : ts.Pairwise (fun a b => a.stop ≤ b.start)

theorem p1_done {toks acc : List Tok} (h : P1Inv cfg inp toks acc) :
    FinOK inp acc.reverse :=
  ⟨fun t ht => h.acc_ok t (by simpa using ht), by rw [List.pairwise_reverse]; exact h.acc_ord⟩

theorem p1_drop {t : Tok} {toks acc : List Tok} (h : P1Inv cfg inp (t :: toks) acc) :
    P1Inv cfg inp toks acc :=
  ⟨h.rest.tail, h.acc_ok, h.acc_ord, fun a ha x hx => h.sep a ha x (List.mem_cons_of_mem _ hx)⟩

theorem p1_push {t m : Tok} {toks rest acc : List Tok}
    (h : P1Inv cfg inp (t :: toks) acc) (hrest : RestOK cfg inp rest)
    (hsub : ∀ x ∈ rest, x ∈ toks) (hm : SpanOK inp m) (hs : m.start = t.start)
    (he : ∀ x ∈ rest, m.stop ≤ x.start) : P1Inv cfg inp rest (m :: acc) :=
  ⟨hrest, List.forall_mem_cons.mpr ⟨hm, h.acc_ok⟩,
   List.pairwise_cons.mpr ⟨fun a ha => hs ▸ h.sep a ha t List.mem_cons_self, h.acc_ord⟩,
   List.forall_mem_cons.mpr ⟨he, fun a ha x hx => h.sep a ha x (List.mem_cons_of_mem _ (hsub x hx))⟩⟩

theorem p1_keep {t : Tok} {toks acc : List Tok} (h : P1Inv cfg inp (t :: toks) acc) :
    P1Inv cfg inp toks (t :: acc) :=
  p1_push h h.rest.tail (fun _ hx => hx) (h.rest.toks t List.mem_cons_self).span rfl
    (List.pairwise_cons.mp h.rest.ordered).1

/-- The two simple merges (`$`+name, `\`+IDENT) are the chain that stops at once (`ns_stop`). -/
theorem p1_merge_ns {t next : Tok} {rest acc : List Tok} {r : List Tok × Tok × List Nat}
    (h : P1Inv cfg inp (t :: next :: rest) acc) (hml : t.ty ∉ ml cfg) (hr : NsOK cfg inp rest next r)
    (ty : Nat) (lit : List Nat) :
    P1Inv cfg inp r.1 (⟨ty, t.start, r.2.1.stop, r.2.1.line, lit⟩ :: acc) :=
  have tok := h.rest.toks t List.mem_cons_self
  have tn := h.rest.toks next (List.mem_cons_of_mem _ List.mem_cons_self)
  p1_push h hr.rest (fun x hx => List.mem_cons_of_mem _ (hr.sub x hx))
    ⟨Nat.lt_of_lt_of_le tok.nonempty (Nat.le_trans ((List.pairwise_cons.mp h.rest.ordered).1 next List.mem_cons_self)
        (Nat.le_trans (Nat.le_of_lt tn.nonempty) hr.grows)),
      hr.bound, (hr.line.trans (same_line_of_ty h.rest hml)).trans tok.line⟩ rfl hr.sep

theorem pass1_ok (wf2 : WF2 cfg) (inp : Input) (f : Nat) (toks acc : List Tok)
    (h : P1Inv cfg inp toks acc) : FinOK inp (pass1 cfg f toks acc) := by
  fun_induction pass1 cfg f toks acc with
  | case1 | case2 => exact p1_done h
  | case3 _ _ _ _ _ ih => exact ih (p1_drop h)              -- whitespace, comment
  | case4 _ _ _ _ hd _ _ _ ih =>                            -- `$` + name
    exact ih (p1_merge_ns h (beq_iff_eq.mp hd ▸ wf2.dollar_ml) (ns_stop h.rest.tail []) _ _)
  | case7 _ _ _ _ _ hns _ _ _ ih =>                         -- `\` + IDENT
    exact ih (p1_merge_ns h (beq_iff_eq.mp hns ▸ wf2.nssep_ml) (ns_stop h.rest.tail []) _ _)
  | case8 _ _ _ _ _ hns next rest' _ hvalid r ih =>         -- `\` + keyword-like identifier chain
    exact ih (p1_merge_ns h (beq_iff_eq.mp hns ▸ wf2.nssep_ml) (nsChain_spec wf2 inp _ rest' next _ h.rest.tail
      (validIdent_no_nl wf2 hvalid) (validIdent_not_html hvalid)) _ _)
  | case5 _ _ _ _ _ _ _ _ ih | case6 _ _ _ _ _ ih | case9 _ _ _ _ _ _ _ _ _ _ ih | case10 _ _ _ _ _ _ ih
  | case11 _ _ _ _ _ _ _ ih => exact ih (p1_keep h)

/-- what the span laws see of a token -/
def key (t : Tok) : Nat × Nat × Nat := (t.start, t.stop, t.line)

theorem FinOK.of_sublist {l o : List Tok} (h : (o.map key).Sublist (l.map key))
    (hl : FinOK inp l) : FinOK inp o := by
  have ord : (l.map key).Pairwise (fun a b => a.2.1 ≤ b.1) := List.pairwise_map.mpr hl.ordered
  refine ⟨fun t ht => ?_, List.pairwise_map.mp (ord.sublist h)⟩
  obtain ⟨u, hu, e⟩ := List.mem_map.mp (h.subset (List.mem_map_of_mem ht))
  have ok := hl.toks u hu
  simp only [key, Prod.mk.injEq] at e
  exact ⟨e.1 ▸ e.2.1 ▸ ok.nonempty, e.2.1 ▸ ok.bound, e.1 ▸ e.2.2 ▸ ok.line⟩

theorem pass2_keys (cfg : Cfg) (l : List Tok) (prev : Option Tok) :
    ((pass2 cfg prev l).map key).Sublist (l.map key) := by
  fun_induction pass2 cfg prev l with
  | case1 => exact List.Sublist.slnil
  | case2 _ _ _ _ _ ih => exact ih.cons_cons _              -- a NEWLINE that becomes `;`
  | case3 _ _ _ _ _ ih => exact ih.cons _                   -- a NEWLINE that is dropped
  | case4 _ _ _ _ ih => exact ih.cons_cons _

theorem pass3_keys (cfg : Cfg) (l : List Tok) (idx : Nat) (prev : Option Tok) :
    (pass3 cfg idx prev l).map key = l.map key := by
  fun_induction pass3 cfg idx prev l with
  | case1 => rfl
  | case2 idx prev t rest ih =>
    rw [List.map_cons, List.map_cons, ih]
    split <;> rfl

theorem process_ok (wf2 : WF2 cfg) (inp : Input) (raw : List Tok) (h : RawOK cfg inp raw) :
    FinOK inp (process cfg raw) := by
  have p1 := pass1_ok wf2 inp (raw.length + 1) raw []
    ⟨⟨h.toks, h.ordered, h.adj⟩, nofun, List.Pairwise.nil, nofun⟩
  unfold process
  exact (p1.of_sublist (pass2_keys cfg _ none)).of_sublist (by rw [pass3_keys]; exact List.Sublist.refl _)

end Proofs.Lex
