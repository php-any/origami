import Proofs.Lemmas.LexBasic
/-! The scanners of `Model.Lex`, up to the contract of one loop-body step (`scanTok`): progress, bounds,
line accounting, literal. -/
namespace Proofs.Lex
open Model.Lex

variable {cfg : Cfg} {inp : Input}

/-- what the scanners need of the configuration. Discharged for `genCfg` by `C18.gen_wf`. -/
structure WF (cfg : Cfg) : Prop where
  space_nl : cfg.isSpace 10 = true
  defs_ne : ∀ d ∈ cfg.defs, d.1 ≠ []
  defs_byte : ∀ d ∈ cfg.defs, ∀ b ∈ d.1, b < 256
  defs_nl : ∀ d ∈ cfg.defs, d.1 = [10] ∨ 10 ∉ d.1

theorem isDelim_nl (wf : WF cfg) : isDelim cfg 10 = true := by
  simp [isDelim, wf.space_nl]

/-- an answered end position lies in `[pos, size]`; `none` (no closer found) promises nothing -/
def Within (inp : Input) (pos : Nat) (o : Option Nat) : Prop := ∀ p, o = some p → pos ≤ p ∧ p ≤ inp.size

theorem Within.of {pos p : Nat} (h1 : pos ≤ p) (h2 : p ≤ inp.size) : Within inp pos (some p) :=
  fun _ h => Option.some.inj h ▸ ⟨h1, h2⟩

theorem Within.mono {pos q : Nat} {o : Option Nat} (h : Within inp q o) (hq : pos ≤ q) :
    Within inp pos o :=
  fun p e => ⟨Nat.le_trans hq (h p e).1, (h p e).2⟩

theorem sqLoop_spec (inp : Input) (f pos : Nat) : Within inp (pos + 1) (sqLoop inp f pos) := by
  fun_induction sqLoop inp f pos with
  | case1 => exact nofun
  | case2 f pos hp _ _ ih => exact ih.mono (by omega)      -- an escaped `\\` or `\'`
  | case3 f pos hp => exact .of (by omega) hp             -- the closing quote
  | case4 f pos _ _ _ _ ih => exact ih.mono (by omega)
  | case5 => exact nofun

theorem dqLoop_spec (inp : Input) (f pos : Nat) (e : Bool) : Within inp (pos + 1) (dqLoop inp f pos e) := by
  fun_induction dqLoop inp f pos e with
  | case1 => exact nofun
  | case2 f pos e hp => exact .of (by omega) hp           -- the closing quote
  | case3 f pos e _ _ _ ih => exact ih.mono (by omega)
  | case4 => exact nofun

theorem btLoop_spec (inp : Input) (f pos : Nat) : Within inp (pos + 1) (btLoop inp f pos) := by
  fun_induction btLoop inp f pos with
  | case1 => exact nofun
  | case2 f pos hp => exact .of (by omega) hp             -- the closing backtick
  | case3 f pos _ _ ih => exact ih.mono (by omega)
  | case4 => exact nofun

theorem byteLoop_spec (inp : Input) (f pos : Nat) : Within inp (pos + 1) (byteLoop inp f pos) := by
  fun_induction byteLoop inp f pos with
  | case1 => exact nofun
  | case2 f pos hp => exact .of (by omega) hp             -- the closing quote
  | case3 f pos _ _ _ _ ih => exact ih.mono (by split <;> omega)   -- a backslash: one or two bytes
  | case4 f pos _ _ _ _ ih => exact ih.mono (by omega)
  | case5 => exact nofun

theorem handleByte_spec (inp : Input) (start : Nat) : Within inp (start + 2) (handleByte inp start) := by
  unfold handleByte
  exact iteInduction (fun _ => nofun) fun _ => (byteLoop_spec inp _ _).mono (Nat.le_succ _)

theorem findNL_spec {f pos nl : Nat} (h : findNL inp f pos = some nl) :
    nl < inp.size ∧ bAt inp nl = 10 ∧ Seg inp pos nl := by
  fun_induction findNL inp f pos with
  | case1 => cases h
  | case2 f pos hlt hb => cases h; exact ⟨hlt, beq_iff_eq.mp hb, Seg.refl (Nat.le_of_lt hlt)⟩
  | case3 f pos hlt hb ih =>
    obtain ⟨h1, h2, h3⟩ := ih h
    exact ⟨h1, h2, Seg.cons (fun e => hb (beq_iff_eq.mpr e)) h3⟩
  | case4 => cases h

theorem tryCloseMarker_spec (inp : Input) (ident : List Nat) (at_ : Nat) :
    Within inp at_ (tryCloseMarker inp ident at_) := by
  have hge := skipWhile_ge inp isBlank inp.size at_
  unfold tryCloseMarker
  exact iteInduction (fun _ => nofun) fun hle => iteInduction (fun _ => nofun) fun _ =>
    iteInduction (fun _ => .of (by omega) (by omega)) fun _ => nofun

theorem heredocSearch_spec (inp : Input) (ident : List Nat) (f s : Nat) :
    Within inp s (heredocSearch inp ident f s) := by
  fun_induction heredocSearch inp ident f s with
  | case1 => exact nofun
  | case2 => exact nofun
  | case3 f s _ nl hnl e he =>                            -- the marker closes behind the next line end
    exact (he ▸ tryCloseMarker_spec inp ident (nl + 1)).mono (by have := (findNL_spec hnl).2.2.le; omega)
  | case4 f s _ nl hnl _ ih => exact ih.mono (by have := (findNL_spec hnl).2.2.le; omega)
  | case5 => exact nofun

theorem heredocId_bound {start a b : Nat} (h : heredocId inp start = some (a, b)) :
    start + 3 ≤ inp.size := by
  unfold heredocId at h
  split at h
  · rename_i hc
    simp at hc; omega
  · cases h

theorem heredocEnd_spec (inp : Input) (start a b : Nat) : Within inp (start + 3) (heredocEnd inp start a b) := by
  unfold heredocEnd
  dsimp only
  generalize hp : skipWhile inp isEol inp.size _ = pos
  have hpos : start + 3 ≤ pos := by
    rw [← hp]
    refine Nat.le_trans (Nat.le_trans (skipWhile_ge inp isBlank inp.size (start+3)) ?_)
      (skipWhile_ge inp isEol inp.size _)
    split
    · split <;> omega
    · omega
  cases he : tryCloseMarker inp (slice inp a b) pos with
  | none => exact (heredocSearch_spec inp _ _ pos).mono hpos
  | some e => exact (he ▸ tryCloseMarker_spec inp _ pos).mono hpos

/-- what the step contract needs of an answer `(type, end)` of `HandleString` at `start` -/
def StrOK (cfg : Cfg) (inp : Input) (start : Nat) (o : Option (Nat × Nat)) : Prop :=
  ∀ ty p, o = some (ty, p) →
    start < p ∧ p ≤ inp.size ∧ (ty = cfg.tSTRING ∨ ty = cfg.tNOWDOC ∨ ty = cfg.tHEREDOC)

theorem strOK_of_quoteLoop {start : Nat} {o : Option Nat} (ho : Within inp (start + 1) o) :
    StrOK cfg inp start (o.map fun p => (cfg.tSTRING, p)) := by
  intro ty p h
  cases o with
  | none => cases h
  | some q => cases h; exact ⟨(ho _ rfl).1, (ho _ rfl).2, Or.inl rfl⟩

theorem handleString_spec (cfg : Cfg) (inp : Input) (start : Nat) :
    StrOK cfg inp start (handleString cfg inp start) := by
  have sq : StrOK cfg inp start _ := strOK_of_quoteLoop ((sqLoop_spec inp inp.size _).mono (Nat.le_succ _))
  have bt : StrOK cfg inp start _ := strOK_of_quoteLoop ((btLoop_spec inp inp.size _).mono (Nat.le_succ _))
  have dq : StrOK cfg inp start _ := strOK_of_quoteLoop ((dqLoop_spec inp inp.size _ false).mono (Nat.le_succ _))
  -- cases 5 to 7: a one-byte heredoc identifier taken for a quote character
  fun_cases handleString cfg inp start with
  | case1 | case5 => exact sq
  | case2 | case6 => exact bt
  | case3 | case7 => exact dq
  | case4 | case8 => exact nofun                            -- no heredoc opener, no closing marker
  | case9 _ _ _ _ a b _ _ e he =>                           -- a heredoc or nowdoc with its closing marker
    intro ty p h
    cases h
    have := heredocEnd_spec inp start a b e he
    refine ⟨by omega, this.2, Or.inr ?_⟩
    split
    · exact Or.inl rfl
    · exact Or.inr rfl

/-- a comment scanner's answer `(end, newlines)` from `pos`, with `n` newlines counted before -/
def Counted (inp : Input) (pos n : Nat) (x : Nat × Nat) : Prop :=
  pos ≤ x.1 ∧ x.1 ≤ inp.size ∧ x.2 = n + nlCount inp pos x.1

theorem Counted.stop {pos n : Nat} (hp : pos ≤ inp.size) : Counted inp pos n (pos, n) :=
  ⟨Nat.le_refl _, hp, by rw [nlCount_self]; rfl⟩

theorem Counted.step {pos n q m : Nat} {x : Nat × Nat} (hq : pos ≤ q) (hm : m = n + nlCount inp pos q)
    (h : Counted inp q m x) : Counted inp pos n x :=
  ⟨Nat.le_trans hq h.1, h.2.1, by rw [h.2.2, hm, nlCount_split inp pos q _ hq h.1, Nat.add_assoc]⟩

theorem lineCommentLoop_spec (inp : Input) (f pos : Nat) (hp : pos ≤ inp.size) :
    Counted inp pos 0 (lineCommentLoop inp f pos) := by
  fun_induction lineCommentLoop inp f pos with
  | case1 => exact .stop hp
  | case2 f pos hlt r n hd h10 =>                         -- the rune `\n`: it is the byte `\n`
    obtain ⟨hb, rfl⟩ := (decode_spec hlt hd).nl (beq_iff_eq.mp h10)
    exact ⟨Nat.le_succ _, hlt, by rw [nlCount_one inp pos, if_pos hb]⟩
  | case3 f pos hlt r n hd h10 _ =>                       -- the rune `\r`
    have hs := (decode_spec hlt hd).seg (fun e => h10 (beq_iff_eq.mpr e))
    exact ⟨hs.le, hs.bound, by rw [nlCount_zero hs.noNL]⟩
  | case4 f pos hlt r n hd h10 _ ih =>
    have hs := (decode_spec hlt hd).seg (fun e => h10 (beq_iff_eq.mpr e))
    exact .step hs.le (by rw [nlCount_zero hs.noNL]) (ih hs.bound)
  | case5 => exact .stop hp

theorem blockCommentLoop_spec (inp : Input) (f pos n : Nat) (hp : pos ≤ inp.size) :
    Counted inp pos n (blockCommentLoop inp f pos n) := by
  fun_induction blockCommentLoop inp f pos n with
  | case1 => exact .stop hp
  | case2 f pos n hlt hc =>                               -- the closer `*/`
    simp only [Bool.and_eq_true, beq_iff_eq] at hc
    exact ⟨Nat.le_add_right _ _, hlt,
      by rw [nlCount_zero ((NoNL.one (by omega)).append (NoNL.one (by omega)))]; rfl⟩
  | case3 f pos n hlt _ ih =>
    refine .step (Nat.le_succ _) ?_ (ih (by omega))
    rw [nlCount_one inp pos]
    by_cases hb : bAt inp pos = 10 <;> simp [hb]
  | case4 => exact .stop hp

theorem identLoop_spec (wf : WF cfg) (inp : Input) (tmpl : Bool) (f pos : Nat)
    (hp : pos ≤ inp.size) : Seg inp pos (identLoop cfg inp tmpl f pos) := by
  fun_induction identLoop cfg inp tmpl f pos with
  | case6 f pos hlt r n hd _ hdel _ _ ih =>
    -- the one branch that goes on: the rune passed over is not a delimiter, so it is not `\n`
    have hs := (decode_spec hlt hd).seg (fun e => hdel (e ▸ isDelim_nl wf))
    exact hs.trans (ih hs.bound)
  | _ => exact Seg.refl hp

theorem matchesAt_seg {lit : List Nat} {pos : Nat} (hpos : pos ≤ inp.size)
    (hb : ∀ b ∈ lit, b < 256) (h10 : 10 ∉ lit) (h : matchesAt inp pos lit = true) :
    Seg inp pos (pos + lit.length) := by
  fun_induction matchesAt inp pos lit with
  | case1 => exact Seg.refl hpos
  | case2 pos b bs ih =>
    rw [Bool.and_eq_true, beq_iff_eq] at h
    have hlt := bAt_lt_256_iff.mp (h.1 ▸ hb b List.mem_cons_self)
    rw [List.length_cons, ← Nat.add_assoc, Nat.add_right_comm]
    exact Seg.cons (fun hc => h10 (hc ▸ h.1 ▸ List.mem_cons_self))
      (ih hlt (fun x hx => hb x (List.mem_cons_of_mem _ hx)) (fun hx => h10 (List.mem_cons_of_mem _ hx)) h.2)

/-- an optional table match `(type, length)` at `pos` -/
def MatchAt (inp : Input) (pos : Nat) (o : Option (Nat × Nat)) : Prop :=
  ∀ ty len, o = some (ty, len) → 0 < len ∧ Seg inp pos (pos + len)

theorem longestDef_spec {pos : Nat} {kw : Bool} {defs : List (List Nat × Nat × Bool)}
    {best : Option (Nat × Nat)} (hbest : MatchAt inp pos best)
    (hdefs : ∀ d ∈ defs, matchesAt inp pos d.1 = true → 0 < d.1.length ∧ Seg inp pos (pos + d.1.length)) :
    MatchAt inp pos (longestDef inp pos kw defs best) := by
  induction defs generalizing best with
  | nil => exact hbest
  | cons d ds ih =>
    unfold longestDef
    refine ih (iteInduction (fun hok => ?_) fun _ => hbest) fun d hd => hdefs d (List.mem_cons_of_mem _ hd)
    have hd : MatchAt inp pos (some (d.2.1, d.1.length)) := fun _ _ e => by
      cases e
      exact hdefs d List.mem_cons_self (Bool.and_eq_true_iff.mp hok).2
    cases best with
    | none => exact hd
    | some tl => exact iteInduction (fun _ => hd) fun _ => hbest

theorem def_match (wf : WF cfg) {pos : Nat} (hpos : pos ≤ inp.size)
    (hnl : bAt inp pos ≠ 10) :
    ∀ d ∈ cfg.defs, matchesAt inp pos d.1 = true → 0 < d.1.length ∧ Seg inp pos (pos + d.1.length) := by
  intro d hd hm
  refine ⟨List.length_pos_iff.mpr (wf.defs_ne d hd), matchesAt_seg hpos (wf.defs_byte d hd) ?_ hm⟩
  rcases wf.defs_nl d hd with h10 | h10
  · -- the literal "\n" cannot match where the input byte is not a newline
    rw [h10] at hm
    simp only [matchesAt, Bool.and_true, beq_iff_eq] at hm
    exact absurd hm hnl
  · exact h10

theorem matchLongest_spec (wf : WF cfg) {pos : Nat} (hpos : pos ≤ inp.size) (hnl : bAt inp pos ≠ 10) :
    MatchAt inp pos (matchLongest cfg inp pos) := by
  have ok : ∀ {kw}, MatchAt inp pos (longestDef inp pos kw cfg.defs none) :=
    longestDef_spec nofun (def_match wf hpos hnl)
  unfold matchLongest
  refine iteInduction (fun _ => nofun) fun _ => iteInduction (fun _ => ok) fun _ => ?_
  -- a keyword match is given up or kept as it is, depending on the rune behind it
  cases hl : longestDef inp pos true cfg.defs none with
  | none => exact nofun
  | some tl =>
    have := hl ▸ ok (kw := true)
    exact iteInduction (fun _ => iteInduction (fun _ => nofun) fun _ => this) fun _ => this

theorem signBreaks_ok (inp : Input) (start pos r : Nat) (h : pos < inp.size) :
    ∃ b, signBreaks inp start pos r = .ok b := by
  unfold signBreaks
  split
  · rw [rd_ok (by omega)]; exact ⟨_, rfl⟩
  · exact ⟨_, rfl⟩

theorem numLoop_spec (wf : WF cfg) (inp : Input) (start f p0 : Nat) (hp : p0 ≤ inp.size) :
    OkAnd (fun r => ∀ pos, r = some pos → Seg inp p0 pos) (numLoop cfg inp start f p0) := by
  have stop : ∀ {p q}, Seg inp p q → OkAnd (fun r => ∀ pos, r = some pos → Seg inp p pos) (.ok (some q)) :=
    fun hq => .ok fun pos h => by cases h; exact hq
  -- the rune consumed is not a newline, which is a delimiter other than `.`, `+`, `-`
  have seg : ∀ {pos r n}, pos < inp.size → decodeRune inp pos = (r, n) →
      ¬(isDelim cfg r && r != 46 && !(r == 43 || r == 45)) = true → Seg inp pos (pos + n) :=
    fun hlt hd hnd => (decode_spec hlt hd).seg fun e => by simp [e, isDelim_nl wf] at hnd
  fun_induction numLoop cfg inp start f p0 with
  | case1 | case3 | case5 | case9 => exact stop (Seg.refl hp)   -- no fuel, a delimiter, a sign that breaks, the end
  | case2 => exact .ok nofun                                    -- an invalid byte
  | case4 f pos hlt r n _ _ _ w hw =>                           -- the read of `input[pos-1]` is in range
    obtain ⟨b, hb⟩ := signBreaks_ok inp start pos r hlt
    cases hb.symm.trans hw
  | case6 f pos hlt r n hd _ hnd => exact stop (seg hlt hd hnd)  -- `..` follows
  | case7 f pos hlt r n hd _ hnd _ _ _ p p' ih =>                -- an exponent mark, with the sign behind it
    have hs := seg hlt hd hnd
    have hs' : Seg inp p p' := iteInduction (fun hsign => by
      simp only [Bool.and_eq_true, decide_eq_true_eq, Bool.or_eq_true, beq_iff_eq] at hsign
      exact Seg.one hsign.1 (by omega)) fun _ => Seg.refl hs.bound
    exact (ih hs'.bound).imp fun r h2 pos h => hs.trans (hs'.trans (h2 pos h))
  | case8 f pos hlt r n hd _ hnd _ _ _ ih =>
    have hs := seg hlt hd hnd
    exact (ih hs.bound).imp fun r h2 pos h => hs.trans (h2 pos h)

theorem numBegin_spec (inp : Input) (start p0 : Nat) (hlt : start < inp.size) :
    numBegin cfg inp start = some p0 → Seg inp start p0 := by
  fun_cases numBegin cfg inp start with
  | case2 first hminus _ =>                               -- `-` and a digit behind it
    exact fun h => Option.some.inj h ▸
      Seg.one hlt (by rw [show bAt inp start = 45 from beq_iff_eq.mp hminus]; decide)
  | case4 => exact fun h => Option.some.inj h ▸ Seg.refl (Nat.le_of_lt hlt)   -- a digit
  | _ => exact nofun

theorem handleNumber_spec (wf : WF cfg) (inp : Input) (start : Nat) :
    OkAnd (fun r => ∀ ty pos, r = some (ty, pos) → start < pos ∧ Seg inp start pos)
      (handleNumber cfg inp start) := by
  unfold handleNumber
  refine iteInduction (fun _ => .ok nofun) fun hlt => ?_
  cases hb : numBegin cfg inp start with
  | none => exact .ok nofun
  | some p0 =>
    have h0 := numBegin_spec inp start p0 (by omega) hb
    obtain ⟨r, hr, hs⟩ := numLoop_spec wf inp start (inp.size + 1) p0 h0.bound
    simp only [hr]
    cases r with
    | none => exact .ok nofun
    | some pos =>
      exact iteInduction (fun _ => .ok nofun) fun _ =>
        .ok fun ty p h => by cases h; exact ⟨by omega, h0.trans (hs pos rfl)⟩

/-- token types whose span may contain a newline -/
def ml (cfg : Cfg) : List Nat :=
  [cfg.tSTRING, cfg.tHEREDOC, cfg.tNOWDOC, cfg.tBYTE, cfg.tCOMMENT, cfg.tMCOMMENT, cfg.tHTML, cfg.tNEWLINE]

theorem html_mem_ml (cfg : Cfg) : cfg.tHTML ∈ ml cfg := by simp [ml]

/-- the contract of one loop-body step. `lines` carries the line law of C18; `lit_nl` and `lit_ml` are what
`Inv.head` and `AdjR` live on, i.e. the adjacency pass 1 reads; `lit_src` is `C18_raw_literal`. -/
structure StepOK (cfg : Cfg) (inp : Input) (pos line : Nat) (s : Scan) : Prop where
  progress : pos < s.newPos
  bound : s.newPos ≤ inp.size
  lines : s.newLine = line + nlCount inp pos s.newPos
  lit_nl : 0 < nlCount inp pos s.newPos → 10 ∈ s.lit
  lit_ml : 10 ∈ s.lit → s.ty ∈ ml cfg
  lit_src : s.lit = slice inp pos s.newPos ∨ s.ty = cfg.tUNKNOWN

theorem StepOK.multiline {pos line ty p : Nat} (h1 : pos < p) (h2 : p ≤ inp.size)
    (hty : ty ∈ ml cfg) : StepOK cfg inp pos line ⟨ty, p, line + nlCount inp pos p, slice inp pos p⟩ :=
  ⟨h1, h2, rfl, nl_mem_slice.mpr, fun _ => hty, Or.inl rfl⟩

theorem StepOK.of_seg {pos line ty p : Nat} (h1 : pos < p) (hs : Seg inp pos p) :
    StepOK cfg inp pos line ⟨ty, p, line, slice inp pos p⟩ :=
  have hz := nlCount_zero hs.noNL
  ⟨h1, hs.bound, hz.symm ▸ rfl, fun h => absurd h (hz ▸ Nat.lt_irrefl 0),
   fun h => absurd (nl_mem_slice.mp h) (hz ▸ Nat.lt_irrefl 0), Or.inl rfl⟩

/-- a comment: the two bytes of its opener hold no newline, the scanner counted those of the rest -/
theorem StepOK.comment {start line ty : Nat} {x : Nat × Nat} (hc : bAt inp start = 47)
    (hc' : bAt inp (start+1) = 47 ∨ bAt inp (start+1) = 42) (hx : Counted inp (start + 2) 0 x)
    (hty : ty ∈ ml cfg) : StepOK cfg inp start line ⟨ty, x.1, line + x.2, slice inp start x.1⟩ := by
  have hhead : NoNL inp start (start + 2) :=
    (NoNL.one (by omega)).append (NoNL.one (by rcases hc' with h | h <;> omega))
  have := StepOK.multiline (cfg := cfg) (line := line) (Nat.lt_of_lt_of_le (by omega : start < start + 2) hx.1) hx.2.1 hty
  rwa [nlCount_split inp start (start+2) x.1 (by omega) hx.1, nlCount_zero hhead, ← hx.2.2] at this

theorem handleSpecial_spec (wf : WF cfg) (inp : Input) (start line : Nat) :
    OkAnd (fun r => ∀ s, r = some s → StepOK cfg inp start line s) (handleSpecial cfg inp start line) := by
  unfold handleSpecial
  refine iteInduction (fun _ => .ok nofun) fun _ => ?_
  split
  · rename_i ty p hs
    obtain ⟨a, b, c⟩ := handleString_spec cfg inp start ty p hs
    exact .ok fun s h => by cases h; exact StepOK.multiline a b (by rcases c with rfl | rfl | rfl <;> simp [ml])
  split
  · rename_i p hb
    obtain ⟨a, b⟩ := handleByte_spec inp start p hb
    exact .ok fun s h => by cases h; exact StepOK.multiline (by omega) b (by simp [ml])
  refine iteInduction (fun hc => ?_) fun _ => iteInduction (fun _ => ?_) fun _ => .ok nofun
  · simp only [Bool.and_eq_true, decide_eq_true_eq, beq_iff_eq, Bool.or_eq_true] at hc   -- a comment, `//` or `/*`
    obtain ⟨⟨h1, h2⟩, h3⟩ := hc
    rw [rd_ok h1]
    refine iteInduction (fun _ => ?_) fun _ => ?_
    · exact .ok fun s h => by
        cases h; exact StepOK.comment h2 h3 (lineCommentLoop_spec inp inp.size (start+2) h1) (by simp [ml])
    · exact .ok fun s h => by
        cases h; exact StepOK.comment h2 h3 (blockCommentLoop_spec inp inp.size (start+2) 0 h1) (by simp [ml])
  · obtain ⟨r, hr, hs⟩ := handleNumber_spec wf inp start
    rw [hr]
    cases r with
    | none => exact .ok nofun
    | some tp =>
      obtain ⟨a, b⟩ := hs tp.1 tp.2 rfl
      exact .ok fun s h => by cases h; exact StepOK.of_seg a b

theorem encodeLatin1_no_nl {b : Nat} (h : b ≠ 10) : 10 ∉ encodeLatin1 b := by
  unfold encodeLatin1
  split <;> simp <;> omega

theorem scanPlain_spec (wf : WF cfg) (inp : Input) (tmpl : Bool) (pos line : Nat)
    (hlt : pos < inp.size) (hnl : bAt inp pos ≠ 10) :
    StepOK cfg inp pos line (scanPlain cfg inp tmpl pos line) := by
  have hc : DecOK inp pos (decodeRune inp pos).1 (decodeRune inp pos).2 := decode_spec hlt rfl
  have hs := hc.seg fun e => hnl (hc.nl e).1
  fun_cases scanPlain cfg inp tmpl pos line with
  | case1 ty len hm =>
    obtain ⟨a, b⟩ := matchLongest_spec wf (Nat.le_of_lt hlt) hnl ty len hm
    exact StepOK.of_seg (by omega) b
  | case2 =>                                              -- an invalid byte, re-encoded
    have hz := nlCount_zero (NoNL.one hnl)
    exact ⟨Nat.lt_succ_self _, hlt, by rw [hz]; rfl, fun h => absurd h (hz ▸ Nat.lt_irrefl 0),
      fun h => absurd h (encodeLatin1_no_nl hnl), Or.inr rfl⟩
  | case3 =>
    have hi := identLoop_spec wf inp tmpl inp.size _ hs.bound
    exact StepOK.of_seg (Nat.lt_of_lt_of_le (Nat.lt_add_of_pos_right hc.size_pos) hi.le) (hs.trans hi)
  | case4 => exact StepOK.of_seg (Nat.lt_add_of_pos_right hc.size_pos) hs   -- an unknown rune

theorem scanTok_spec (wf : WF cfg) (inp : Input) (tmpl : Bool) (pos line : Nat)
    (hlt : pos < inp.size) (hnl : bAt inp pos ≠ 10) :
    OkAnd (StepOK cfg inp pos line) (scanTok cfg inp tmpl pos line) := by
  unfold scanTok
  obtain ⟨r, hr, hs⟩ := handleSpecial_spec wf inp pos line
  rw [hr]
  cases r with
  | none => exact .ok (scanPlain_spec wf inp tmpl pos line hlt hnl)
  | some s => exact .ok (hs s rfl)

end Proofs.Lex
