import Proofs.Lemmas.LexProc
/-! Shebang sources: the rest of the file is tokenized and the tokens are shifted back
(`lexer.ShiftTokens`); the span and line laws carry over to the whole file. `tokenize_spec`, on which
both property files stand, covers every dispatch arm of the two entry points (template, shebang, DOCTYPE,
plain script): never `crash`, and the tokens obey `FinOK` relative to the whole source. -/
namespace Proofs.Lex
open Model.Lex

variable {cfg : Cfg} {inp : Input}

theorem nlCount_extract (inp : Input) (off k : Nat) :
    nlCount (inp.extract off inp.size) 0 k = nlCount inp off (off + k) := by
  unfold nlCount
  have e : (inp.extract off inp.size).toList = inp.toList.drop off := by
    rw [Array.toList_extract]
    exact List.take_of_length_le (by simp)
  rw [e]
  simp

theorem nlCount_shebang {f nl : Nat} (h : findNL inp f 0 = some nl) :
    nlCount inp 0 (nl + 1) = 1 := by
  obtain ⟨hlt, hb, hs⟩ := findNL_spec h
  rw [nlCount_split inp 0 nl (nl + 1) (Nat.zero_le _) (Nat.le_succ _), nlCount_zero hs.noNL,
    nlCount_one inp nl, if_pos hb]

theorem spanOK_shift {off : Nat} {t : Tok} (ok : SpanOK (inp.extract off inp.size) t) :
    SpanOK inp (shiftTok off (nlCount inp 0 off) t) := by
  have hb := ok.bound
  rw [Array.size_extract, Nat.min_self] at hb
  have hl := ok.line
  rw [nlCount_extract] at hl
  have := ok.nonempty
  refine ⟨Nat.add_lt_add_right ok.nonempty off, by simp only [shiftTok]; omega, ?_⟩
  simp only [shiftTok]
  rw [hl, Nat.add_comm t.start off,
    nlCount_split inp 0 off (off + t.start) (Nat.zero_le _) (Nat.le_add_right _ _), Nat.add_comm]

theorem finOK_shift {f nl : Nat} (h : findNL inp f 0 = some nl) {ts : List Tok}
    (ok : FinOK (inp.extract (nl + 1) inp.size) ts) : FinOK inp (ts.map (shiftTok (nl + 1) 1)) := by
  refine ⟨fun t ht => ?_, ?_⟩
  · obtain ⟨u, hu, rfl⟩ := List.mem_map.mp ht
    have := spanOK_shift (ok.toks u hu)
    rwa [nlCount_shebang h] at this
  · rw [List.pairwise_map]
    exact ok.ordered.imp (fun hab => by simp [shiftTok]; omega)

/-- `lexer.Tokenize` / `TokenizeTemplate` never crash: they hand over to the HTML lexer or answer
tokens that obey the span laws relative to the whole source (shebang dispatch and `Process` included) -/
theorem tokenize_spec (wf : WF cfg) (wf2 : WF2 cfg) (inp : Input) (mode : Mode) :
    (tokenize cfg inp mode).1 = .html ∨ ∃ ts, (tokenize cfg inp mode).1 = .tokens ts ∧ FinOK inp ts := by
  have plain : ∀ (i : Input) (m : Mode), ∃ raw, tokenizeRaw cfg i m = .ok raw ∧ FinOK i (process cfg raw) :=
    fun i m =>
      let ⟨raw, h, ok⟩ := tokenizeRaw_ok wf i m
      ⟨raw, h, process_ok wf2 i raw ok⟩
  cases mode with
  | template =>
    obtain ⟨raw, h, ok⟩ := plain inp .template
    exact Or.inr ⟨_, by simp only [tokenize, h], ok⟩
  | script =>
    unfold tokenize
    simp only []
    split
    · split
      · exact Or.inr ⟨[], rfl, nofun, .nil⟩
      · rename_i nl hnl
        obtain ⟨raw, h, ok⟩ := plain (inp.extract (nl + 1) inp.size) .template
        rw [h]
        exact Or.inr ⟨_, rfl, finOK_shift hnl ok⟩
    · split
      · exact Or.inl rfl
      · obtain ⟨raw, h, ok⟩ := plain inp .script
        rw [h]
        exact Or.inr ⟨_, rfl, ok⟩

end Proofs.Lex
