import Model.LexCfg
/-! The sources that C01 and C18 quote (except the shebang source of `C18_shebang_positions`), tokenized
in one evaluation: the kernel then computes the derived tables of `genCfg` (delimiter set, range
searches) once for all of them. -/
namespace Proofs.Lex
open Model.Lex

-- token types: 228 `T_DOLLAR`, 274 `T_IDENTIFIER`, 200 `T_ASSIGN`, 263 `T_INT`, 230 `T_SEMICOLON`,
-- 280 `T_NEWLINE`, 276 `T_COMMENT` (`Generated.C01`)
theorem gen_vectors :
    -- `\ App`
    ((tokenize genCfg #[92, 32, 65, 112, 112] .script).1.toks.map (fun t => (t.start, t.stop, t.lit))
      = [(0, 5, [92, 65, 112, 112])]) ∧
    -- `$a=1;\n//c\r\n$b`
    tokenizeRaw genCfg #[36, 97, 61, 49, 59, 10, 47, 47, 99, 13, 10, 36, 98] .script = .ok
      [⟨228, 0, 1, 0, [36]⟩, ⟨274, 1, 2, 0, [97]⟩, ⟨200, 2, 3, 0, [61]⟩, ⟨263, 3, 4, 0, [49]⟩,
       ⟨230, 4, 5, 0, [59]⟩, ⟨280, 5, 6, 0, [10]⟩, ⟨276, 6, 10, 1, [47, 47, 99, 13]⟩,
       ⟨280, 10, 11, 1, [10]⟩, ⟨228, 11, 12, 2, [36]⟩, ⟨274, 12, 13, 2, [98]⟩] ∧
    -- a source ending in `E3 80`, a source ending in `$`
    (tokenize genCfg #[97, 0xe3, 0x80] .script).1.toks.length = 3 ∧
    (tokenize genCfg #[97, 59, 36] .script).1.toks.map (·.ty) = [274, 230, 228] := by
  decide +kernel

end Proofs.Lex
