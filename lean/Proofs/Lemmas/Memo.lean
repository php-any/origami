import Model.Memo
import Proofs.Lemmas.RW
/-! C10: lemmas for `Model.Memo` — the invariant that makes a lookup memo kept under the
discipline `Disc.ok` linearizable. -/
namespace Proofs.Memo
open Model.RW (Tid upd)
open Model.Memo Proofs.RW

theorem specRun_append (reg : List Name) (a b : List Op) :
    specRun reg (a ++ b) =
      ((specRun (specRun reg a).1 b).1, (specRun reg a).2 ++ (specRun (specRun reg a).1 b).2) := by
  induction a generalizing reg with
  | nil => rfl
  | cons o rest ih => simp [specRun, ih]

theorem logOf_snoc (log : List (Tid × Op × Res)) (t u : Tid) (op : Op) (r : Res) :
    logOf (log ++ [(t, op, r)]) u = if t = u then logOf log u ++ [(op, r)] else logOf log u :=
  filter_fst_snoc log t u (op, r)

theorem spec_add_dup {reg : List Name} {x : Name} (h : reg.contains x = true) :
    specStep reg (.add x) = (reg, .dup) := by simp only [specStep, h, ↓reduceIte]
theorem spec_add_ok {reg : List Name} {x : Name} (h : ¬ reg.contains x = true) :
    specStep reg (.add x) = (x :: reg, .ok) := by simp only [specStep, if_neg h]
theorem spec_get_hit {reg : List Name} {x : Name} (h : reg.contains x = true) :
    specStep reg (.get x) = (reg, .hit) := by simp only [specStep, h, ↓reduceIte]
theorem spec_get_miss {reg : List Name} {x : Name} (h : ¬ reg.contains x = true) :
    specStep reg (.get x) = (reg, .miss) := by simp only [specStep, if_neg h]

theorem spec_keeps {reg : List Name} {x : Name} (hx : reg.contains x = true) (op : Op) :
    (specStep reg op).1.contains x = true := by
  cases op with
  | add y =>
    simp only [specStep]
    split
    · exact hx
    · have : x ∈ reg := by simpa using hx
      simp [this]
  | get y => exact hx

theorem spec_added {reg reg' : List Name} {x : Name} (h : specStep reg (.add x) = (reg', .ok)) :
    reg'.contains x = true := by
  simp only [specStep] at h
  split at h
  · cases h
  · cases h; simp

/-- read as a sequential history, calls made once `x` is registered answer every `get x` with `hit` -/
theorem spec_hits {reg : List Name} {x : Name} (hx : reg.contains x = true) (ext : List (Tid × Op × Res))
    (reg' : List Name) (h : specRun reg (ext.map (·.2.1)) = (reg', ext.map (·.2.2))) :
    ∀ e ∈ ext, e.2.1 = .get x → e.2.2 = .hit := by
  induction ext generalizing reg with
  | nil => intro e he; cases he
  | cons e0 rest ih =>
    simp only [List.map, specRun, Prod.mk.injEq, List.cons.injEq] at h
    obtain ⟨h1, h2, h3⟩ := h
    intro e he hop
    rcases List.mem_cons.mp he with rfl | he
    · rw [← h2, hop, spec_get_hit hx]
    · exact ih (spec_keeps hx _) (Prod.ext h1 h3) e he hop

structure Inv (progs : Tid → List Op) (s : State) : Prop where
  /-- what the memo says is true of the registry -/
  memoOk : ∀ x, s.memo.contains x = true → s.reg.contains x = false
  lin : specRun [] (s.log.map (·.2.1)) = (s.reg, s.log.map (·.2.2))
  outs : ∀ t, (s.thr t).out = (logOf s.log t).map (·.2)
  order : ∀ t, (logOf s.log t).map (·.1) ++ (s.thr t).pc.pending ++ (s.thr t).prog = progs t
  /-- under an `ok` discipline no thread is ever between its read section and its `Store` -/
  noStore : ∀ t x, (s.thr t).pc ≠ .store x
  added : ∀ t x, (t, Op.add x, Res.ok) ∈ s.log → s.reg.contains x = true

theorem inv_init (progs : Tid → List Op) : Inv progs (init progs) where
  memoOk := by intro x h; simp [init] at h
  lin := by simp [init, specRun]
  outs := by intro t; simp [init, logOf]
  order := by intro t; simp [init, logOf, Pc.pending]
  noStore := by intro t x; simp [init]
  added := by intro t x h; simp [init] at h

theorem logged_spec (progs : Tid → List Op) (s : State) (t : Tid) (hi : Inv progs s)
    (op : Op) (r : Res) (reg' memo' : List Name) (th' : Thread)
    (hspec : specStep s.reg op = (reg', r))
    (hmemo : ∀ x, memo'.contains x = true → reg'.contains x = false)
    (hout : th'.out = (s.thr t).out ++ [r])
    (hord : (s.thr t).pc.pending ++ (s.thr t).prog = op :: (th'.pc.pending ++ th'.prog))
    (hpc : ∀ x, th'.pc ≠ .store x) :
    Inv progs (logged s t op r reg' memo' th') ∧ s.log <+: (logged s t op r reg' memo' th').log := by
  refine ⟨?_, List.prefix_append _ _⟩
  exact {
  memoOk := hmemo
  lin := by
    show specRun [] ((s.log ++ [(t, op, r)]).map (·.2.1)) = (reg', (s.log ++ [(t, op, r)]).map (·.2.2))
    simp only [List.map_append, List.map_cons, List.map_nil]
    rw [specRun_append, hi.lin]
    simp [specRun, hspec]
  outs := forall_upd (P := fun u (th : Thread) => th.out = (logOf (s.log ++ [(t, op, r)]) u).map (·.2))
    (by rw [logOf_snoc, if_pos rfl, hout, hi.outs t]; simp)
    (fun u hu => by rw [logOf_snoc, if_neg (Ne.symm hu)]; exact hi.outs u)
  order := forall_upd
    (P := fun u (th : Thread) => (logOf (s.log ++ [(t, op, r)]) u).map (·.1) ++ th.pc.pending ++ th.prog = progs u)
    (by rw [logOf_snoc, if_pos rfl, ← hi.order t, List.append_assoc _ _ (s.thr t).prog, hord]; simp)
    (fun u hu => by rw [logOf_snoc, if_neg (Ne.symm hu)]; exact hi.order u)
  noStore := forall_upd (P := fun _ (th : Thread) => ∀ x, th.pc ≠ .store x) hpc fun u _ => hi.noStore u
  added := by
    intro u x h
    rcases List.mem_append.mp h with h | h
    · have := spec_keeps (hi.added u x h) op
      rw [hspec] at this
      exact this
    · cases List.mem_singleton.mp h
      exact spec_added hspec }

theorem silent_spec (progs : Tid → List Op) (s : State) (t : Tid) (hi : Inv progs s) (th' : Thread)
    (hout : th'.out = (s.thr t).out)
    (hord : th'.pc.pending ++ th'.prog = (s.thr t).pc.pending ++ (s.thr t).prog)
    (hpc : ∀ x, th'.pc ≠ .store x) :
    Inv progs (silent s t th') ∧ s.log <+: (silent s t th').log := by
  refine ⟨?_, List.prefix_refl _⟩
  exact {
  memoOk := hi.memoOk
  lin := hi.lin
  outs := forall_upd (P := fun u (th : Thread) => th.out = (logOf s.log u).map (·.2))
    (hout ▸ hi.outs t) fun u _ => hi.outs u
  order := forall_upd (P := fun u (th : Thread) => (logOf s.log u).map (·.1) ++ th.pc.pending ++ th.prog = progs u)
    (by rw [List.append_assoc, hord, ← List.append_assoc]; exact hi.order t) fun u _ => hi.order u
  noStore := forall_upd (P := fun _ (th : Thread) => ∀ x, th.pc ≠ .store x) hpc fun u _ => hi.noStore u
  added := hi.added }

theorem stepOp_spec (d : Disc) (progs : Tid → List Op) (s : State) (t : Tid) (hi : Inv progs s)
    (op : Op) (more : List Op) (hpc : (s.thr t).pc = .idle) (hpr : (s.thr t).prog = op :: more) :
    Inv progs (stepOp d s t (s.thr t) more op) ∧ s.log <+: (stepOp d s t (s.thr t) more op).log := by
  have hord : (s.thr t).pc.pending ++ (s.thr t).prog = op :: ((s.thr t).pc.pending ++ more) := by
    simp [hpc, hpr, Pc.pending]
  have hns := hi.noStore t
  -- the arms of `stepOp`: `add` of a registered name, of a new one; `get` answered by the memo, going on to the read section
  fun_cases stepOp d s t (s.thr t) more op
  case case1 x hx =>
    exact logged_spec progs s t hi (.add x) .dup s.reg s.memo _ (spec_add_dup hx) hi.memoOk rfl hord hns
  case case2 x hx =>
    exact logged_spec progs s t hi (.add x) .ok (x :: s.reg) [] _ (spec_add_ok hx)
      (by intro y h; simp at h) rfl hord hns
  case case3 x hm =>
    have hx : s.reg.contains x = false := hi.memoOk x (Bool.and_eq_true_iff.mp hm).2
    exact logged_spec progs s t hi (.get x) .miss s.reg s.memo _ (spec_get_miss (by rw [hx]; simp)) hi.memoOk rfl
      hord hns
  case case4 x hm =>
    exact silent_spec progs s t hi _ rfl (by simp [hpc, hpr, Pc.pending]) (by intro y; simp)

theorem stepScan_spec (d : Disc) (hd : d.ok = true) (progs : Tid → List Op) (s : State) (t : Tid)
    (hi : Inv progs s) (x : Name) (hpc : (s.thr t).pc = .scan x) :
    Inv progs (stepScan d s t (s.thr t) x) ∧ s.log <+: (stepScan d s t (s.thr t) x).log := by
  have hord : (s.thr t).pc.pending ++ (s.thr t).prog = .get x :: (Pc.idle.pending ++ (s.thr t).prog) := by
    rw [hpc]; rfl
  have hns : ∀ y, Pc.idle ≠ .store y := fun _ h => nomatch h
  -- the arms of `stepScan`: hit; miss with the `Store` still to come; miss recorded inside the section
  fun_cases stepScan d s t (s.thr t) x
  case case1 hx =>
    exact logged_spec progs s t hi (.get x) .hit s.reg s.memo _ (spec_get_hit hx) hi.memoOk rfl hord hns
  case case2 hx hout =>
    -- the `Store` outside the section: excluded by the discipline
    simp only [Disc.ok] at hd
    cases hm : d.memo <;> cases hs : d.storeInside <;> simp_all
  case case3 hx hout =>
    have hx' : s.reg.contains x = false := by simpa using hx
    refine logged_spec progs s t hi (.get x) .miss s.reg _ _ (spec_get_miss hx) ?_ rfl hord hns
    intro y hy
    cases hm : d.memo
    · simp only [hm] at hy; exact hi.memoOk y (by simpa using hy)
    · simp only [hm, if_true, List.contains_cons, Bool.or_eq_true, beq_iff_eq] at hy
      rcases hy with rfl | hy
      · exact hx'
      · exact hi.memoOk y hy

theorem step_spec (d : Disc) (hd : d.ok = true) (progs : Tid → List Op) (s : State) (t : Tid)
    (hi : Inv progs s) : Inv progs (step d s t) ∧ s.log <+: (step d s t).log := by
  cases hpc : (s.thr t).pc with
  | idle =>
    cases hpr : (s.thr t).prog with
    | nil => simp only [step, hpc, hpr]; exact ⟨hi, List.prefix_refl _⟩
    | cons op more => simp only [step, hpc, hpr]; exact stepOp_spec d progs s t hi op more hpc hpr
  | scan x => simp only [step, hpc]; exact stepScan_spec d hd progs s t hi x hpc
  | store x => exact absurd hpc (hi.noStore t x)

theorem inv_step (d : Disc) (hd : d.ok = true) (progs : Tid → List Op) (s : State) (t : Tid)
    (hi : Inv progs s) : Inv progs (step d s t) :=
  (step_spec d hd progs s t hi).1

/-! Visibility is a fact about the sequential registry (`spec_hits`); the invariant carries it over to
every schedule, because the log of a state is a prefix of the log of every later state and reads as a
sequential history. -/

theorem run_spec (d : Disc) (hd : d.ok = true) (progs : Tid → List Op) (s : State) (sched : List Tid)
    (hi : Inv progs s) : Inv progs (run d s sched) ∧ s.log <+: (run d s sched).log :=
  List.foldlRecOn (motive := fun s' => Inv progs s' ∧ s.log <+: s'.log) sched _ ⟨hi, List.prefix_refl _⟩
    fun s' h t _ => have g := step_spec d hd progs s' t h.1; ⟨g.1, h.2.trans g.2⟩

theorem inv_run (d : Disc) (hd : d.ok = true) (progs : Tid → List Op) (s : State) (sched : List Tid)
    (hi : Inv progs s) : Inv progs (run d s sched) :=
  (run_spec d hd progs s sched hi).1

theorem run_append (d : Disc) (s : State) (a b : List Tid) : run d s (a ++ b) = run d (run d s a) b := by
  simp [run, List.foldl_append]

end Proofs.Memo
