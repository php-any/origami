import Model.Meth
import Spec.Js
import Proofs.Lemmas.StableSort
/-! C15 (array methods): Go's clamps by successive tests are `rel`'s `toNat` / `min` (`rel_eq`); each loop with an
index counter is the `List.zipIdx` expression `Spec.Js` writes. -/
namespace Proofs.Meth
open Model.Meth
open Spec.Js (Binds BindsVal rel range)

theorem slot_of_binds {args : List Val} {i : Nat} {o : Option Int} (h : Binds args i o) :
    slot args i = match o with | some n => .int n | none => .null := by
  unfold Binds at h
  unfold slot
  split at h <;> first | (subst h; simp only [*]) | exact h.elim

theorem intArg_of_binds {args : List Val} {i : Nat} {o : Option Int} (h : Binds args i o) :
    intArg args i 0 = o.getD 0 := by
  rw [intArg, slot_of_binds h]; cases o <;> rfl

theorem optIntArg_of_binds {args : List Val} {i : Nat} {o : Option Int} (d : Int) (h : Binds args i o) :
    optIntArg args i d = o.getD d := by
  rw [optIntArg, intArg, slot_of_binds h]; cases o <;> rfl

theorem slot_of_bindsVal {args : List Val} {i : Nat} {o : Option Val} (h : BindsVal args i o) :
    slot args i = o.getD .null ∧ given (slot args i) = o.isSome := by
  unfold BindsVal at h
  unfold slot
  split at h <;> subst h <;> simp only [*]
  -- `h_3`: the third arm of `BindsVal`, `some v` with `hv : v = .null → False`
  case h_3 v hv _ => cases v <;> first | exact ⟨rfl, rfl⟩ | exact (hv rfl).elim
  all_goals exact ⟨rfl, rfl⟩

/-! Rewriting the Go code's successive tests (`if x < 0 { x = 0 }`, `if x > y { x = y }`) into `toNat` and `min` leaves
linear arithmetic over a few atoms. -/

theorem clamp_low (x : Int) : (if x < 0 then 0 else x) = (x.toNat : Int) := by omega

theorem clamp_high (x y : Int) : (if x > y then y else x) = min x y := by omega

theorem rel_eq (n : Nat) (k : Int) : rel n k = min (if k < 0 then n + k else k).toNat n := by
  by_cases h : k < 0 <;> simp only [rel, h, ↓reduceIte] <;> omega

theorem rel_le (n : Nat) (k : Int) : rel n k ≤ n := by
  rw [rel_eq]; exact Nat.min_le_right _ _

theorem rel_len (n : Nat) : rel n (n : Int) = n := by
  rw [rel_eq, if_neg (by omega), Int.toNat_natCast, Nat.min_self]

theorem sliceBounds_spec (n : Nat) (s e : Int) :
    let p := sliceBounds n s e
    let A := rel n s
    let B := rel n e
    (A < B → p.1 = A ∧ p.2 = B) ∧ (B ≤ A → p.1 = p.2) := by
  simp only [sliceBounds, rel_eq, clamp_low, clamp_high]
  generalize (if s < 0 then ↑n + s else s).toNat = a
  generalize (if e < 0 then ↑n + e else e) = y
  omega

theorem spliceBounds_eq (n : Nat) (s d : Int) :
    spliceBounds n s d = (((rel n s : Nat) : Int), ((min d.toNat (n - rel n s) : Nat) : Int)) := by
  simp only [spliceBounds, rel_eq, clamp_low, clamp_high]
  generalize (if s < 0 then ↑n + s else s).toNat = a
  generalize d.toNat = c
  have hA : min (a : Int) n = (min a n : Nat) := by omega
  have hn := Nat.min_le_right a n
  rw [hA]
  generalize min a n = A at hn
  congr 1
  omega

theorem spliceBounds_len (n : Nat) (s : Int) :
    (spliceBounds n s n).2 = ((n - rel n s : Nat) : Int) := by
  rw [spliceBounds_eq, Int.toNat_natCast, Nat.min_eq_right (Nat.sub_le _ _)]

theorem range_eq (xs : List Val) (a b : Nat) : range xs a b = (xs.drop a).take (b - a) := by
  rw [range, List.drop_take]

theorem range_empty (xs : List Val) (a b : Nat) (h : b ≤ a) : range xs a b = [] := by
  rw [range_eq, Nat.sub_eq_zero_of_le h, List.take_zero]

theorem copyRange_eq (xs : List Val) : ∀ (n : Nat) (s : Nat), s + n ≤ xs.length →
    copyRange xs (s : Int) n = some ((xs.drop s).take n)
  | 0, s, _ => by rw [copyRange, List.take_zero]
  | n + 1, s, h => by
    have hs : s < xs.length := by omega
    rw [copyRange, if_neg (by omega), Int.toNat_natCast, List.getElem?_eq_getElem hs]
    simp only
    rw [← Int.natCast_succ, copyRange_eq xs n (s + 1) (by omega), Option.map_some, List.drop_eq_getElem_cons hs,
      List.take_succ_cons]

theorem sliceExpr_eq (xs : List Val) (a b : Nat) (h1 : a ≤ b) (h2 : b ≤ xs.length) :
    sliceExpr xs (a : Int) (b : Int) = some (range xs a b) := by
  rw [sliceExpr, if_pos (by omega), range_eq, Int.toNat_natCast, ← Int.natCast_sub h1, Int.toNat_natCast]

theorem spec_slice_getD (xs : List Val) (s e : Option Int) :
    Spec.Js.slice xs s e = ⟨.list (range xs (rel xs.length (s.getD 0)) (rel xs.length (e.getD xs.length))), xs⟩ := by
  cases e <;> simp [Spec.Js.slice, rel_len]

theorem spec_splice_getD (xs : List Val) (s d : Option Int) (items : List Val) :
    Spec.Js.splice xs s d items =
      (let a := rel xs.length (s.getD 0)
       let n := min (d.getD xs.length).toNat (xs.length - a)
       ⟨.list (range xs a (a + n)), xs.take a ++ items ++ xs.drop (a + n)⟩) := by
  cases d with
  | none => simp only [Spec.Js.splice, Option.getD_none, Int.toNat_natCast, Nat.min_eq_right (Nat.sub_le _ _)]
  | some d => rfl

theorem spread_eq : spread = Spec.Js.spreadable := by
  funext v; cases v <;> rfl

/-- the loop with counter and accumulator left open: the separator goes in front of every element but the first of the call -/
theorem joinLoop_spec (sep : String) (i : Nat) (acc : String) (l : List Val) :
    joinLoop sep i acc l = match l with
      | [] => acc
      | v :: r => (if i > 0 then acc ++ sep else acc) ++ Spec.Js.joinWith sep ((v :: r).map asString) := by
  fun_induction joinLoop sep i acc l
  case case1 => rfl
  case case2 i acc v r ih =>
    rw [ih]
    cases r with
    | nil => rfl
    | cons w r => rw [if_pos (Nat.succ_pos i)]; simp only [List.map_cons, Spec.Js.joinWith, String.append_assoc]

theorem joinLoop_eq (sep : String) (xs : List Val) :
    joinLoop sep 0 "" xs = Spec.Js.joinWith sep (xs.map asString) := by
  rw [joinLoop_spec]
  cases xs with
  | nil => rfl
  | cons v r => exact String.empty_append

theorem drop_zipIdx {α : Type} (l : List α) (i k : Nat) : (l.zipIdx i).drop k = (l.drop k).zipIdx (i + k) := by
  simp only [List.zipIdx_eq_zip_range', List.zip, List.drop_zipWith, List.drop_range', List.length_drop, Nat.mul_one]

theorem scanFrom_eq (key : String) (l : List Val) (i : Nat) :
    scanFrom key i l = ((l.zipIdx i).find? (fun (p : Val × Nat) => asString p.1 == key)).map (·.2) := by
  fun_induction scanFrom key i l
  case case1 => rfl
  case case2 h => simp only [List.zipIdx_cons, List.find?_cons, h, Option.map_some]
  case case3 h ih => simp only [List.zipIdx_cons, List.find?_cons, h, ih]

theorem scanFrom_isSome (key : String) (l : List Val) (i : Nat) :
    (scanFrom key i l).isSome = l.any (fun v => asString v == key) := by
  rw [scanFrom_eq, Option.isSome_map, List.isSome_find?]
  conv => rhs; rw [← List.zipIdx_map_fst i l, List.any_map]
  rfl

/-- the early exit of `indexOf` / `includes` answers what the scan answers behind the end, where nothing is left to scan -/
theorem fromIndex_cases (xs args : List Val) (f : Option Int) (h : Binds args 1 f) :
    fromIndex xs args = some (rel xs.length (f.getD 0)) ∨
      fromIndex xs args = none ∧ xs.drop (rel xs.length (f.getD 0)) = [] := by
  simp only [fromIndex, intArg_of_binds h, clamp_low, rel_eq]
  generalize (if f.getD 0 < 0 then ↑xs.length + f.getD 0 else f.getD 0).toNat = a
  by_cases ha : a ≥ xs.length
  · rw [if_pos (by omega), Nat.min_eq_right ha]; exact .inr ⟨rfl, List.drop_length⟩
  · rw [if_neg (by omega), Int.toNat_natCast, Nat.min_eq_left (by omega)]; exact .inl rfl

theorem flatten_eq : ∀ (d : Nat) (xs : List Val), flatten d xs = Spec.Js.flatDepth d xs
  | 0, xs => rfl
  | d + 1, xs => by
    rw [flatten, Spec.Js.flatDepth, List.flatMap_eq_foldl]
    congr 1
    funext r el
    cases el <;> simp only [flatten_eq d]

/-! The counter loops against `List.zipIdx`, each on the loop's own induction principle, which carries the counter (and
the accumulator) along. `case1` is the empty list; where the loop has a test, `case2` is the arm in which it holds (`h`)
and `case3` the one in which it fails; the arm in which the loop goes on has `ih`. -/

theorem forEachLoop_eq (arr l : List Val) (i : Nat) :
    forEachLoop arr i l = (l.zipIdx i).map (fun p => (⟨p.1, p.2, arr⟩ : CallEv)) := by
  fun_induction forEachLoop arr i l
  case case1 => rfl
  case case2 ih => rw [ih]; rfl

theorem mapLoop_eq (f : Cb) (arr l : List Val) (i : Nat) :
    mapLoop f arr i l = (l.zipIdx i).map (fun p => f p.1 p.2 arr) := by
  fun_induction mapLoop f arr i l
  case case1 => rfl
  case case2 ih => rw [ih]; rfl

theorem filterLoop_eq (p : Pred) (arr l : List Val) (i : Nat) (acc : List Val) :
    filterLoop p arr i acc l = acc ++ ((l.zipIdx i).filter (fun q => p q.1 q.2 arr)).map (·.1) := by
  fun_induction filterLoop p arr i acc l
  case case1 => exact (List.append_nil _).symm
  case case2 i acc v r ih =>
    rw [ih, List.zipIdx_cons, List.filter_cons]
    by_cases h : p v i arr = true
    · rw [if_pos h, if_pos h, List.map_cons, List.append_assoc]; rfl
    · rw [if_neg h, if_neg h]

theorem findLoop_eq (p : Pred) (arr l : List Val) (i : Nat) :
    findLoop p arr i l = ((l.zipIdx i).find? (fun q => p q.1 q.2 arr)).map (fun q => (q.2, q.1)) := by
  fun_induction findLoop p arr i l
  case case1 => rfl
  case case2 h => simp only [List.zipIdx_cons, List.find?_cons, h, Option.map_some]
  case case3 h ih => simp only [List.zipIdx_cons, List.find?_cons, h, ih]

theorem everyLoop_eq (p : Pred) (arr l : List Val) (i : Nat) :
    everyLoop p arr i l = (l.zipIdx i).all (fun q => p q.1 q.2 arr) := by
  fun_induction everyLoop p arr i l
  case case1 => rfl
  case case2 h ih => simp only [List.zipIdx_cons, List.all_cons, h, ih, Bool.true_and]
  case case3 h => simp only [List.zipIdx_cons, List.all_cons, h, Bool.false_and]

theorem someLoop_eq (p : Pred) (arr l : List Val) (i : Nat) :
    someLoop p arr i l = (l.zipIdx i).any (fun q => p q.1 q.2 arr) := by
  fun_induction someLoop p arr i l
  case case1 => rfl
  case case2 h => simp only [List.zipIdx_cons, List.any_cons, h, Bool.true_or]
  case case3 h ih => simp only [List.zipIdx_cons, List.any_cons, h, ih, Bool.false_or]

theorem flatMapLoop_eq (f : Cb) (arr l : List Val) (i : Nat) (acc : List Val) :
    flatMapLoop f arr i acc l = acc ++ (l.zipIdx i).flatMap (fun p => Spec.Js.spreadable (f p.1 p.2 arr)) := by
  fun_induction flatMapLoop f arr i acc l
  case case1 => exact (List.append_nil _).symm
  case case2 ih => rw [ih, List.zipIdx_cons, List.flatMap_cons, List.append_assoc, spread_eq]

theorem reduceLoop_eq (f : Cb4) (arr l : List Val) (i : Nat) (acc : Val) :
    reduceLoop f arr i acc l = (l.zipIdx i).foldl (fun acc p => f acc p.1 p.2 arr) acc := by
  fun_induction reduceLoop f arr i acc l
  case case1 => rfl
  case case2 ih => rw [ih]; rfl

/-- `Model.Meth.reduce` against the documentation, as `C15_reduce_refines` states it (`Proofs.MethStore.reduce_refines`
is the layer below: the storage model against `Model.Meth.reduce`) -/
theorem reduce_refines (xs : List Val) (f : Cb4) (args : List Val) (init : Option Val)
    (h : BindsVal args 0 init) : reduce xs f args = .ok (Spec.Js.reduce xs f init) := by
  obtain ⟨h1, h2⟩ := slot_of_bindsVal h
  unfold reduce
  rw [h2, h1]
  cases init with
  | some a => simp [Spec.Js.reduce, reduceLoop_eq]
  | none => cases xs <;> simp [Spec.Js.reduce, reduceLoop_eq]

/-- `sort` folds `insRev` over the input from the left, keeping the sorted prefix reversed: `insRev x` stops at the first
string form that is not greater, so what it builds is the insertion sort of the reversed input, descending. -/
theorem sort_isSortOf (xs : List Val) : Spec.Js.IsSortOf xs (xs.foldl (fun rp x => insRev x rp) []).reverse := by
  refine ⟨?_, fun k => ?_⟩
  · rw [List.pairwise_reverse, List.foldl_eq_foldr_reverse]
    exact StableSort.pairwise (f := insRev) (stop := fun a b => ¬ asString a < asString b)
      (fun _ => rfl) (fun _ _ _ => (ite_not ..).symm)
      (fun _ _ _ h1 h2 => String.not_lt.mpr (String.le_trans (String.not_lt.mp h2) (String.not_lt.mp h1)))
      (fun a b => (Decidable.em (asString a < asString b)).elim (fun h => .inr (String.lt_asymm h)) .inl) _
  · rw [List.filter_reverse, List.foldl_eq_foldr_reverse,
      StableSort.stable (f := insRev) (fun _ => rfl) (fun _ _ _ => (ite_not ..).symm) asString
        (fun _ _ h => h ▸ String.lt_irrefl _), List.filter_reverse, List.reverse_reverse]

theorem mem_of_filter_eq {l m : List Val}
    (hf : ∀ k : String, l.filter (fun v => asString v == k) = m.filter (fun v => asString v == k))
    {z : Val} (hz : z ∈ m) : z ∈ l := by
  have : z ∈ m.filter (fun v => asString v == asString z) := List.mem_filter.mpr ⟨hz, beq_self_eq_true _⟩
  rw [← hf] at this
  exact (List.mem_filter.mp this).1

theorem head_le_of_sorted {y z : Val} {ys : List Val}
    (hs : (y :: ys).Pairwise (fun a b => ¬ asString b < asString a)) (hz : z ∈ y :: ys) :
    asString y ≤ asString z := by
  rcases List.mem_cons.mp hz with rfl | h
  · exact String.le_refl _
  · exact String.not_lt.mp ((List.pairwise_cons.mp hs).1 z h)

end Proofs.Meth
