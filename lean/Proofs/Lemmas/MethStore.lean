import Model.MethStore
import Proofs.Lemmas.Meth
/-!
Lemmas about `Model.MethStore`: with a `fresh` result buffer the snapshot handed to
the callback is never written, so the storage-level loop is a list recursion (`listLoop`) with the
receiver's elements as of the start as the array argument.  Two statements say what a call is:
`run_fresh` (every call is `listLoop` from `start`) and `listLoop_reading` (with a callback without
effects `listLoop` computes the `zipIdx` expression `Spec.Js` is written with, for all nine kinds).
-/
namespace Proofs.MethStore
open Model.Meth Model.MethStore

theorem emit_fresh_snap (st : St) (v : Val) : (emit .fresh st v).snap = st.snap := rfl
theorem emit_fresh_recv (st : St) (v : Val) : (emit .fresh st v).recv = st.recv := rfl
theorem emit_fresh_out (st : St) (v : Val) : (emit .fresh st v).out = st.out ++ [v] := rfl

theorem emitAll_fresh (vs : List Val) : ∀ st : St,
    emitAll .fresh st vs = { st with out := st.out ++ vs, k := st.k + vs.length } := by
  induction vs with
  | nil => intro st; simp [emitAll]
  | cons v r ih =>
    intro st
    rw [emitAll, List.foldl_cons, ← emitAll, ih]
    simp [emit, Nat.add_assoc, Nat.add_comm 1]

theorem consume_fresh_frame {kind : Kind} {st : St} {acc el : Val} {i : Nat} {r : Val} {nx : Next}
    (h : consume .fresh kind st acc el i r = nx) : nx.st.snap = st.snap ∧ nx.st.recv = st.recv := by
  subst h
  cases kind <;> simp only [consume, emitAll_fresh] <;> (try split) <;> exact ⟨rfl, rfl⟩

theorem truthy_bool (b : Bool) : truthy (.bool b) = b := by cases b <;> rfl

def listLoop (kind : Kind) (cb : ECb) (arr : List Val) : List Val → Nat → St → Val → Val × St × List Ev
  | [], _, st, acc => (finish .fresh kind st acc, st, [])
  | el :: rest, i, st, acc =>
    match consume .fresh kind { st with recv := (cb ⟨acc, el, i, arr⟩ st.recv).2 } acc el i
        (cb ⟨acc, el, i, arr⟩ st.recv).1 with
    | .stop st' ret => (ret, st', [⟨⟨acc, el, i, arr⟩, st.recv⟩])
    | .cont st' acc' =>
      let r := listLoop kind cb arr rest (i + 1) st' acc'
      (r.1, r.2.1, ⟨⟨acc, el, i, arr⟩, st.recv⟩ :: r.2.2)

theorem loop_fresh_eq (kind : Kind) (cb : ECb) (xs : List Val) :
    ∀ (rest : List Val) (i : Nat) (st : St) (acc : Val), st.snap = xs → xs.drop i = rest →
      loop .fresh kind cb rest.length i st acc = some (listLoop kind cb xs rest i st acc)
  | [], _, _, _, _, _ => rfl
  | el :: rest, i, st, acc, hs, hd => by
    have hel : xs[i]? = some el := by rw [← List.head?_drop, hd]; rfl
    simp only [List.length_cons, loop, hs, hel, listLoop]
    cases hnx : consume .fresh kind ⟨(cb ⟨acc, el, i, xs⟩ st.recv).2, xs, st.out, st.k⟩ acc el i
      (cb ⟨acc, el, i, xs⟩ st.recv).1 with
    | stop st' ret => rfl
    | cont st' acc' =>
      simp only
      rw [loop_fresh_eq kind cb xs rest (i + 1) st' acc' (consume_fresh_frame hnx).1
        (by rw [← List.tail_drop, hd]; rfl)]

/-- where the loop of a call starts, and with which accumulator: `reduce` without an initial value takes the
first element and starts behind it (`null` on an empty receiver, where the loop does not run at all) -/
def start (kind : Kind) (xs args : List Val) : Nat × Val :=
  if kind = .reduce then
    if given (slot args 0) then (0, slot args 0) else (1, xs.headD .null)
  else (0, .null)

theorem start_of_ne {kind : Kind} (hk : kind ≠ .reduce) (xs args : List Val) : start kind xs args = (0, .null) :=
  if_neg hk

/-- for every buffer a call is `loop` from `start`, its fuel the number of elements behind the start; the one corner:
on an empty receiver `reduce` without initial value starts behind the end with no fuel, and the loop answers the
accumulator `null` at once -/
theorem run_eq_loop (b : OutBuf) (kind : Kind) (cb : ECb) (xs args : List Val) :
    run b kind cb xs args = loop b kind cb (xs.drop (start kind xs args).1).length (start kind xs args).1
      ⟨xs, xs, [], 0⟩ (start kind xs args).2 := by
  cases kind
  case reduce =>
    simp only [Model.MethStore.run, start, if_true]
    split
    · rfl
    · cases xs <;> rfl
  all_goals rfl

theorem run_fresh (kind : Kind) (cb : ECb) (xs args : List Val) :
    run .fresh kind cb xs args = some (listLoop kind cb xs (xs.drop (start kind xs args).1)
      (start kind xs args).1 ⟨xs, xs, [], 0⟩ (start kind xs args).2) := by
  rw [run_eq_loop, loop_fresh_eq kind cb xs _ _ _ _ rfl rfl]

/- In the three inductions over `listLoop` below: 1 is the empty list, 2 the arm in which `consume` answers `.stop`
(`h`), 3 the one in which it answers `.cont` (`h`, then `ih`). -/
theorem listLoop_args (kind : Kind) (cb : ECb) (xs rest : List Val) (i : Nat) (st : St) (acc : Val)
    (hd : xs.drop i = rest) :
    ∀ ev ∈ (listLoop kind cb xs rest i st acc).2.2, ev.inv.arr = xs ∧ xs[ev.inv.idx]? = some ev.inv.el := by
  fun_induction listLoop kind cb xs rest i st acc
  case case1 => nofun
  case case2 =>
    intro ev hev
    cases List.mem_singleton.mp hev
    exact ⟨rfl, by rw [← List.head?_drop, hd]; rfl⟩
  case case3 ih =>
    intro ev hev
    rcases List.mem_cons.mp hev with rfl | h
    · exact ⟨rfl, by rw [← List.head?_drop, hd]; rfl⟩
    · exact ih (by rw [← List.tail_drop, hd]; rfl) ev h

/-- the callback leaves the receiver as it finds it -/
def Quiet (cb : ECb) : Prop := ∀ inv recv, (cb inv recv).2 = recv

theorem listLoop_recv (kind : Kind) (cb : ECb) (hq : Quiet cb) (arr rest : List Val) (i : Nat) (st : St) (acc : Val) :
    (listLoop kind cb arr rest i st acc).2.1.recv = st.recv := by
  fun_induction listLoop kind cb arr rest i st acc
  case case1 => rfl
  case case2 h => exact (consume_fresh_frame h).2.trans (hq ..)
  case case3 h _ ih => exact ih.trans ((consume_fresh_frame h).2.trans (hq ..))

theorem runRes_quiet (kind : Kind) (cb : ECb) (hq : Quiet cb) (xs args : List Val) :
    runRes .fresh kind cb xs args = .ok ⟨(listLoop kind cb xs (xs.drop (start kind xs args).1)
      (start kind xs args).1 ⟨xs, xs, [], 0⟩ (start kind xs args).2).1, xs⟩ := by
  rw [runRes, run_fresh]
  simp only
  rw [listLoop_recv kind cb hq]

theorem listLoop_forEach (cb : ECb) (arr rest : List Val) (i : Nat) (st : St) (acc : Val) :
    (listLoop .forEach cb arr rest i st acc).2.2.map (fun ev => (⟨ev.inv.el, ev.inv.idx, ev.inv.arr⟩ : CallEv))
      = forEachLoop arr i rest := by
  fun_induction listLoop .forEach cb arr rest i st acc
  case case1 => rfl
  case case2 h => cases h  -- `consume .fresh .forEach` reduces to `.cont`: `forEach` never stops
  case case3 ih => exact congrArg (_ :: ·) ih

/-- a callback without effects; `ofCb`, `ofPred`, `ofCb4` are of this form by `rfl` -/
def pureCb (h : Val → Val → Nat → List Val → Val) : ECb := fun inv recv => (h inv.acc inv.el inv.idx inv.arr, recv)

theorem pureCb_quiet (h : Val → Val → Nat → List Val → Val) : Quiet (pureCb h) := fun _ _ => rfl

/-- what each of the nine methods answers when the elements still to visit, with their indexes, are `ps`,
`out` has been emitted so far and `h acc el idx` is the callback's answer: the list-library expression of
`Spec.Js`, with the start of the loop left open.  Only `reduce` changes `acc`. -/
def reading (kind : Kind) (h : Val → Val → Nat → Val) (out : List Val) (acc : Val) (ps : List (Val × Nat)) : Val :=
  match kind with
  | .forEach => .null
  | .map => .list (out ++ ps.map (fun p => h acc p.1 p.2))
  | .filter => .list (out ++ (ps.filter (fun p => truthy (h acc p.1 p.2))).map (·.1))
  | .flatMap => .list (out ++ ps.flatMap (fun p => spread (h acc p.1 p.2)))
  | .find => match ps.find? (fun p => truthy (h acc p.1 p.2)) with | some q => q.1 | none => .null
  | .findIndex => match ps.find? (fun p => truthy (h acc p.1 p.2)) with | some q => .int q.2 | none => .int (-1)
  | .every => .bool (ps.all (fun p => truthy (h acc p.1 p.2)))
  | .someP => .bool (ps.any (fun p => truthy (h acc p.1 p.2)))
  | .reduce => ps.foldl (fun a p => h a p.1 p.2) acc

theorem reading_nil (kind : Kind) (h : Val → Val → Nat → Val) (st : St) (acc : Val) :
    reading kind h st.out acc [] = finish .fresh kind st acc := by
  cases kind <;> simp [reading, finish, result]

theorem reading_cons (kind : Kind) (h : Val → Val → Nat → Val) (st : St) (acc el : Val) (i : Nat)
    (ps : List (Val × Nat)) :
    reading kind h st.out acc ((el, i) :: ps) =
      match consume .fresh kind st acc el i (h acc el i) with
      | .stop _ ret => ret
      | .cont st' acc' => reading kind h st'.out acc' ps := by
  cases kind
  case filter | find | findIndex | every | someP =>
    by_cases hp : truthy (h acc el i) = true <;> simp [consume, reading, emit, hp]
  all_goals simp [consume, reading, emit, emitAll_fresh]

theorem listLoop_reading (kind : Kind) (h : Val → Val → Nat → List Val → Val) (arr : List Val) :
    ∀ (rest : List Val) (i : Nat) (st : St) (acc : Val),
      (listLoop kind (pureCb h) arr rest i st acc).1
        = reading kind (fun a el j => h a el j arr) st.out acc (rest.zipIdx i)
  | [], _, st, acc => (reading_nil kind _ st acc).symm
  | el :: rest, i, st, acc => by
    rw [List.zipIdx_cons, reading_cons, listLoop]
    simp only [pureCb]
    split <;> simp only [*]
    exact listLoop_reading kind h arr rest (i + 1) _ _

theorem store_reading (kind : Kind) (h : Val → Val → Nat → List Val → Val) (xs args : List Val) :
    runRes .fresh kind (pureCb h) xs args = .ok ⟨reading kind (fun a el j => h a el j xs) [] (start kind xs args).2
      ((xs.drop (start kind xs args).1).zipIdx (start kind xs args).1), xs⟩ := by
  rw [runRes_quiet kind _ (pureCb_quiet h), listLoop_reading]

theorem store_reading₀ {kind : Kind} (hk : kind ≠ .reduce) (h : Val → Val → Nat → List Val → Val)
    (xs args : List Val) :
    runRes .fresh kind (pureCb h) xs args = .ok ⟨reading kind (fun a el j => h a el j xs) [] .null xs.zipIdx, xs⟩ := by
  rw [store_reading, start_of_ne hk]; rfl

/-- `reduce` at storage level against `Model.Meth.reduce`: both start their fold at `start .reduce xs args` -/
theorem reduce_refines (f : Cb4) (xs args : List Val) :
    runRes .fresh .reduce (ofCb4 f) xs args = Model.Meth.reduce xs f args := by
  rw [show ofCb4 f = pureCb (fun a el j arr => f a el j arr) from rfl, store_reading]
  simp only [reading, start, if_true, Model.Meth.reduce, Proofs.Meth.reduceLoop_eq]
  cases given (slot args 0) with
  | true => rfl
  | false => cases xs <;> rfl

end Proofs.MethStore
