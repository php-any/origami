import Model.MethStore
import Generated.C15Storage
/-!
The obligation on the regenerated storage facts of `data/value_array*.go`
(`Generated.C15Storage`, written by `extract/c15` on every run): which layout of
`Model.MethStore` each method object has, and the decidable predicate that says the
code keeps the layout the theorems are about.
-/
namespace Proofs.MethStoreObl
open Generated.C15Storage
open Model.MethStore (OutBuf)

def callbackMethods : List String :=
  ["every", "filter", "find", "findIndex", "flatMap", "forEach", "map", "reduce", "some"]

def mutatorMethods : List String := ["pop", "push", "reverse", "shift", "sort", "splice", "unshift"]

def plainMethods : List String := ["concat", "flat", "includes", "indexOf", "join", "slice"]

/-- the layout of `Model.MethStore` a method's stores amount to: nothing stored outside buffers of
its own → `fresh`; a store into the snapshot handed to callbacks → `inSnap`; into the receiver's slots
→ `inRecv`; anything the translator could not classify → none -/
def layoutOf (m : Method) : Option OutBuf :=
  if m.writes.all (· == "fresh") then some .fresh
  else if m.writes.all (fun w => w == "fresh" || w == "copy") then some .inSnap
  else if m.writes.all (fun w => w == "fresh" || w == "copy" || w == "recv") then some .inRecv
  else none

/-- a loop that invokes the callback: it runs over the snapshot, hands the snapshot (re-wrapped) to the
callback, and invokes through `data.callArrayCallback`.  The `CallableValue` branch (no type implements
that interface, see `callableImplementers`) only has to hand out the snapshot. -/
def loopOK (l : Loop) : Bool :=
  if l.branch == "CallableValue" then l.handed == ["copy"]
  else l.branch == "*FuncValue" && l.over == ["copy"] && l.handed == ["copy"] && l.invoke == "helper"

/-- by group of methods: callback methods store into a buffer of their own and loop as `loopOK` says; mutators have no
callback loop; plain methods store into their own; a method of no group is refused -/
def methodOK (m : Method) : Bool :=
  if callbackMethods.contains m.name then
    !m.byPointer && layoutOf m == some .fresh && m.loops.any (·.branch == "*FuncValue") && m.loops.all loopOK
      && m.returned.all (fun r => r == "fresh" || r == "copy")
  else if mutatorMethods.contains m.name then
    m.loops.isEmpty && (layoutOf m).isSome && m.returned.all (· == "fresh")
  else if plainMethods.contains m.name then
    !m.byPointer && m.loops.isEmpty && layoutOf m == some .fresh
      && m.returned.all (fun r => r == "fresh" || r == "copy" || r == "call:flattenArray")
  else false

/-- everything the theorems need from the source, as one decidable statement -/
def StorageOK (ms : List Method) (helperFresh helperDeclared helperNil : Bool) (impl shape : List String) : Bool :=
  ms.all methodOK
    && ms.map (·.name) == ["concat", "every", "filter", "find", "findIndex", "flat", "flatMap", "forEach", "includes",
        "indexOf", "join", "map", "pop", "push", "reduce", "reverse", "shift", "slice", "some", "sort", "splice", "unshift"]
    && helperFresh && helperDeclared && helperNil && impl.isEmpty && shape.isEmpty

theorem callback_fresh_of_ok (ms : List Method) (a b c : Bool) (impl shape : List String)
    (h : StorageOK ms a b c impl shape = true) :
    ∀ m ∈ ms, callbackMethods.contains m.name = true →
      layoutOf m = some .fresh ∧ m.loops.all loopOK = true := by
  intro m hm hc
  simp only [StorageOK, Bool.and_eq_true, List.all_eq_true] at h
  have := h.1.1.1.1.1.1 m hm  -- the first conjunct of `StorageOK`: `ms.all methodOK`
  simp only [methodOK, hc, if_true, Bool.and_eq_true, beq_iff_eq] at this
  exact ⟨this.1.1.1.2, this.1.2⟩

end Proofs.MethStoreObl
