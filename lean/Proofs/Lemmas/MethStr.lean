import Model.MethStr
import Spec.JsStr
import Proofs.Lemmas.Meth
/-! Lemmas for C15 (string methods): on ASCII text the byte view of a string is its character view, so
byte offsets are character positions; the specification's `replaceScan` / `pieces` (by occurrence
positions) against the skip-counting loops of `Model.Text`. -/
namespace Proofs.MethStr
open Model.Text
open Model.Meth (Val slot)
open Model.MethStr

/-- code points below 128 take one byte in UTF-8 -/
def AllAscii (s : List Char) : Prop := ∀ c ∈ s, c.toNat < 128

theorem encodeChar_ascii (c : Char) (h : c.toNat < 128) : encodeChar c = [c.toNat] := by
  simp [encodeChar, h]

theorem utf8_ascii (s : List Char) (h : AllAscii s) : utf8 s = s.map Char.toNat := by
  rw [utf8, List.map_eq_flatMap, List.flatMap_def, List.flatMap_def,
    List.map_congr_left fun c hc => encodeChar_ascii c (h c hc)]

theorem isPrefixOf_map_toNat (p l : List Char) :
    (p.map Char.toNat).isPrefixOf (l.map Char.toNat) = p.isPrefixOf l := by
  rw [Bool.eq_iff_iff, List.isPrefixOf_iff_prefix, List.isPrefixOf_iff_prefix,
    List.prefix_map_iff_of_injective fun _ _ => Char.toNat_inj.mp]

theorem indexFrom_map_toNat (p : List Char) : ∀ (l : List Char) (i : Nat),
    indexFrom (p.map Char.toNat) (l.map Char.toNat) i = indexFrom p l i := by
  intro l
  induction l with
  | nil => intro i; simp [indexFrom]
  | cons c r ih =>
    intro i
    have := isPrefixOf_map_toNat p (c :: r)
    simp only [List.map_cons] at this
    simp only [indexFrom, List.map_cons, this, ih]

theorem cutBounds_eq (n : Nat) (a e : Int) :
    cutBounds n a e = (((min (min a.toNat n) (min e.toNat n) : Nat) : Int), ((max (min a.toNat n) (min e.toNat n) : Nat) : Int)) := by
  simp only [cutBounds, Proofs.Meth.clamp_low, Proofs.Meth.clamp_high]
  split <;> (congr 1 <;> omega)

theorem cutArg_stop (args : List Val) (e : Option Int) (len : Int) (h : Spec.Js.Binds args 1 e) :
    cutArg (slot args 1) len = some (e.getD len) := by
  rw [Proofs.Meth.slot_of_binds h]; cases e <;> rfl

theorem spec_substring_getD (s : List Char) (a : Int) (e : Option Int) :
    Spec.JsStr.substring s a e =
      (s.take (max (min a.toNat s.length) (min (e.getD (s.length : Int)).toNat s.length))).drop
        (min (min a.toNat s.length) (min (e.getD (s.length : Int)).toNat s.length)) := by
  cases e with
  | none => simp only [Spec.JsStr.substring, Option.getD_none, Int.toNat_natCast, Nat.min_self]
  | some e => rfl

open Spec.JsStr (replaceScan pieces)

/-- the induction is that of `List.drop`, whose third arm is `drop (k + 1) (c :: t) = drop k t` -/
theorem replaceGo_skip (old new l : List Char) (k : Nat) :
    replaceGo old new k l = replaceGo old new 0 (l.drop k) := by
  fun_induction List.drop k l
  case case3 ih => exact ih
  all_goals rfl

theorem drop_length_cons {p : List Char} (hp : p ≠ []) (c : Char) (t : List Char) :
    (c :: t).drop p.length = t.drop (p.length - 1) := by
  cases p with
  | nil => exact absurd rfl hp
  | cons _ _ => rfl

theorem replaceScan_eq (old new : List Char) (hold : old ≠ []) : ∀ (f : Nat) (l : List Char), l.length ≤ f →
    replaceScan old new f l = replaceGo old new 0 l
  | 0, l, h => by rw [List.length_eq_zero_iff.mp (Nat.le_zero.mp h)]; rfl
  | _ + 1, [], _ => rfl
  | f + 1, c :: t, h => by
    have ht : t.length ≤ f := Nat.le_of_succ_le_succ h
    simp only [replaceScan, replaceGo]
    split
    · rw [replaceGo_skip, drop_length_cons hold,
        replaceScan_eq old new hold f _ (by rw [List.length_drop]; exact Nat.le_trans (Nat.sub_le _ _) ht)]
    · rw [replaceScan_eq old new hold f t ht]

theorem spec_replace_eq (s old new : List Char) : Spec.JsStr.replace s old new = replaceAll s old new := by
  unfold Spec.JsStr.replace replaceAll
  by_cases h : old.isEmpty = true
  · simp [h]
  · have hne : old ≠ [] := by intro hh; subst hh; simp at h
    simp only [h]
    exact replaceScan_eq old new hne s.length s (Nat.le_refl _)

theorem splitGo_skip (sep l cur : List Char) (k : Nat) :
    splitGo sep k cur l = splitGo sep 0 cur (l.drop k) := by
  fun_induction List.drop k l
  case case3 ih => exact ih
  all_goals rfl

theorem indexFrom_shift (pat l : List Char) (i k : Nat) :
    indexFrom pat l (i + k) = (indexFrom pat l i).map (· + k) := by
  fun_induction indexFrom pat l i
  -- 1, 2: the text is empty, the pattern empty / not; 3, 4: the pattern is a prefix here / is not (`ih`)
  case case1 h => rw [indexFrom, if_pos h]; rfl
  case case2 h => rw [indexFrom, if_neg h]; rfl
  case case3 h => rw [indexFrom, if_pos h]; rfl
  case case4 h ih => rw [indexFrom, if_neg h, Nat.add_right_comm, ih]

theorem splitGo_index (sep : List Char) (hsep : sep ≠ []) : ∀ (l cur : List Char),
    splitGo sep 0 cur l =
      match indexFrom sep l 0 with
      | none => [cur.reverse ++ l]
      | some i => (cur.reverse ++ l.take i) :: splitGo sep 0 [] (l.drop (i + sep.length)) := by
  have hemp : sep.isEmpty = false := by cases sep <;> simp_all
  intro l
  induction l with
  | nil => intro cur; simp [splitGo, indexFrom, hemp]
  | cons c t ih =>
    intro cur
    simp only [splitGo, indexFrom]
    split
    · simp only [List.take_zero, List.append_nil, Nat.zero_add]
      rw [splitGo_skip, drop_length_cons hsep]
    · rw [ih (c :: cur), indexFrom_shift sep t 0 1]
      cases indexFrom sep t 0 with
      | none => simp
      | some i => simp [Nat.add_right_comm]

theorem pieces_eq (sep : List Char) (hsep : sep ≠ []) : ∀ (f : Nat) (l : List Char), l.length ≤ f →
    pieces sep f l = splitGo sep 0 [] l
  | 0, l, h => by rw [List.length_eq_zero_iff.mp (Nat.le_zero.mp h)]; rfl
  | f + 1, l, h => by
    rw [splitGo_index sep hsep l [], pieces]
    cases hi : indexFrom sep l 0 with
    | none => rfl
    | some i =>
      have hlen : 1 ≤ sep.length := List.length_pos_iff.mpr hsep
      simp only [List.reverse_nil, List.nil_append]
      rw [pieces_eq sep hsep f _ (by rw [List.length_drop]; omega)]

theorem spec_split_eq (s sep : List Char) : Spec.JsStr.split s (some sep) = Model.Text.split s sep := by
  unfold Spec.JsStr.split Model.Text.split
  simp only []
  by_cases h : sep.isEmpty = true
  · simp [h]
  · have hne : sep ≠ [] := by intro hh; subst hh; simp at h
    simp only [h]
    exact pieces_eq sep hne s.length s (Nat.le_refl _)

end Proofs.MethStr
