import Model.Mw
import Proofs.Lemmas.StableSort
/-! The middleware sort (`sortStable`, insertion by `ins`) is a stable ascending permutation; `apply` is the nested `chain`
over the sorted list, which is the `pre` events in order, `final`, the `post` events in reverse when every middleware calls `$next`, and
`expected` (cut at the first that does not) in general. -/
namespace Proofs.Mw
open Model.Mw

theorem sortStable_eq (l : List Entry) : sortStable l = l.foldr ins [] := by
  induction l with
  | nil => rfl
  | cons e es ih => rw [sortStable, ih, List.foldr_cons]

theorem sort_perm (l : List Entry) : (sortStable l).Perm l :=
  sortStable_eq l ▸ StableSort.perm (f := ins) (fun _ => rfl) (fun _ _ _ => rfl) l

theorem sort_asc (l : List Entry) : (sortStable l).Pairwise (fun a b => a.prio ≤ b.prio) :=
  sortStable_eq l ▸ StableSort.pairwise (f := ins) (fun _ => rfl) (fun _ _ _ => rfl)
    (fun _ _ _ => Int.le_trans) (fun a b => Int.le_total a.prio b.prio) l

/-- `ins` stops at the first priority that is not smaller, so it passes no entry of its own priority. -/
theorem sort_stable (l : List Entry) (p : Int) :
    (sortStable l).filter (fun x => x.prio == p) = l.filter (fun x => x.prio == p) :=
  sortStable_eq l ▸ StableSort.stable (f := ins) (fun _ => rfl) (fun _ _ _ => rfl) (·.prio) (fun _ _ => Int.le_of_eq) p l

theorem apply_eq_chain (final : Handler) (entries : List Entry) :
    apply final entries = chain final (sortStable entries) := by
  cases entries <;> rfl

theorem chain_all_call (final : Handler) (l : List Entry) (h : ∀ e ∈ l, e.calls = true) :
    chain final l = l.map (fun e => Ev.pre e.id) ++ final ++ l.reverse.map (fun e => Ev.post e.id) := by
  induction l with
  | nil => simp [chain]
  | cons e es ih =>
    have he := h e List.mem_cons_self
    have := ih (fun x hx => h x (List.mem_cons_of_mem _ hx))
    simp only [chain, List.foldr_cons] at this ⊢
    simp [wrap, he, this]

/-- the onion over `l`: `pre`, what is inside, `post`; a middleware that does not call `$next` has nothing inside -/
def expected (final : Handler) : List Entry → Handler
  | [] => final
  | e :: es => if e.calls then [Ev.pre e.id] ++ expected final es ++ [Ev.post e.id]
               else [Ev.pre e.id, Ev.post e.id]

theorem chain_eq_expected (final : Handler) (l : List Entry) : chain final l = expected final l := by
  induction l with
  | nil => rfl
  | cons e es ih =>
    simp only [chain, List.foldr_cons] at ih ⊢
    simp [wrap, expected, ih]

end Proofs.Mw
