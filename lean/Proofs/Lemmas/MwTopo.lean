import Model.MwTopo
import Spec.MwTopo
/-! Go's slices under `append` against one plain list per server object: `Stores` is what `appendS` and the copying
`group()` guarantee of the slice they return, `Inv.assign` installs such a slice in an object without disturbing the
others, and `Inv` (each object shows its list and owns its backing array) is kept by every step of the copying model. -/
namespace Proofs.MwTopo
open Model.Mw (Entry)
open Model.MwTopo

structure Inv (st : St) (sp : Spec.MwTopo.St) : Prop where
  n_eq : st.n = sp.n
  routes_eq : st.routes = sp.routes
  bound : ∀ i, i < st.n → (st.objs i).arr < st.next
  cap : ∀ i, i < st.n → (st.objs i).len ≤ (st.heap (st.objs i).arr).length
  sep : ∀ i j, i < st.n → j < st.n → i ≠ j → (st.objs i).arr ≠ (st.objs j).arr
  views : ∀ i, i < st.n → view st.heap (st.objs i) = sp.objs i

theorem inv_init : Inv init Spec.MwTopo.init :=
  ⟨rfl, rfl, fun _ _ => Nat.zero_lt_one, fun _ _ => Nat.zero_le _,
    fun _ _ hi hj hne => absurd ((Nat.lt_one_iff.mp hi).trans (Nat.lt_one_iff.mp hj).symm) hne, fun _ _ => rfl⟩

theorem take_set_append (l : List Entry) (k : Nat) (e : Entry) (h : k < l.length) :
    (l.set k e).take (k + 1) = l.take k ++ [e] := by
  rw [List.take_add_one, List.take_set_of_le (Nat.le_refl k), List.getElem?_set_self h]; rfl

theorem view_len (h : Heap) (s : Slice) (hc : s.len ≤ (h s.arr).length) : (view h s).length = s.len :=
  List.length_take_of_le hc

/-- `append` and the copying `group()`: `r` shows `l`; below `next` only `own` may have been written. -/
structure Stores (h : Heap) (next own : Nat) (r : Heap × Nat × Slice) (l : List Entry) : Prop where
  next_le : next ≤ r.2.1
  arr_lt : r.2.2.arr < r.2.1
  arr : r.2.2.arr = own ∨ next ≤ r.2.2.arr
  cap : r.2.2.len ≤ (r.1 r.2.2.arr).length
  view : view r.1 r.2.2 = l
  frame : ∀ a, a < next → a ≠ own → r.1 a = h a

theorem appendS_of_room {h : Heap} {s : Slice} (hroom : s.len < (h s.arr).length) (next : Nat) (e : Entry) :
    appendS h next s e =
      (fun a => if a = s.arr then (h s.arr).set s.len e else h a, next, { arr := s.arr, len := s.len + 1 }) :=
  if_pos hroom

theorem appendS_stores (h : Heap) (next : Nat) (s : Slice) (e : Entry) (hb : s.arr < next)
    (hc : s.len ≤ (h s.arr).length) : Stores h next s.arr (appendS h next s e) (view h s ++ [e]) := by
  by_cases hroom : s.len < (h s.arr).length
  · -- written in place: the array is `own`
    rw [appendS_of_room hroom]
    refine ⟨Nat.le_refl _, hb, .inl rfl, ?_, ?_, fun a _ ha => if_neg ha⟩
    · dsimp only
      rw [if_pos rfl, List.length_set]; exact hroom
    · dsimp only [view]
      rw [if_pos rfl, take_set_append _ _ _ hroom]
  · -- a fresh array at `next`
    rw [appendS, if_neg hroom]
    refine ⟨Nat.le_succ _, Nat.lt_succ_self _, .inr (Nat.le_refl _), ?_, ?_, fun a ha _ => if_neg (Nat.ne_of_lt ha)⟩
    · dsimp only
      rw [if_pos rfl, List.length_append, List.length_cons, view_len h s hc]; omega
    · dsimp only [view]
      rw [if_pos rfl, List.append_cons, List.take_left' (by rw [List.length_append, List.length_take_of_le hc]; rfl)]

theorem copyS_stores (h : Heap) (next : Nat) (s : Slice) (hc : s.len ≤ (h s.arr).length) :
    Stores h next next (copyS h next s) (view h s) := by
  refine ⟨Nat.le_succ _, Nat.lt_succ_self _, .inl rfl, ?_, ?_, fun a _ ha => if_neg ha⟩
  · dsimp only [copyS]
    rw [if_pos rfl, view_len h s hc]; exact Nat.le_refl _
  · dsimp only [copyS, view]
    rw [if_pos rfl, List.take_take, Nat.min_self]

/-- `k` is an existing object (`mw`) or the one being created (`group`). -/
theorem Inv.assign {st : St} {sp : Spec.MwTopo.St} (h : Inv st sp) {own k n : Nat} {r : Heap × Nat × Slice}
    {l : List Entry} (hr : Stores st.heap st.next own r l)
    (hown : ∀ i, i < st.n → i ≠ k → (st.objs i).arr ≠ own) (hn : ∀ i, i < n → i ≠ k → i < st.n) :
    Inv { st with heap := r.1, next := r.2.1, objs := fun i => if i = k then r.2.2 else st.objs i, n := n }
      { sp with objs := fun i => if i = k then l else sp.objs i, n := n } := by
  -- another object's array is below `next`, so it is neither the new slice's nor written
  have other : ∀ i, i < n → i ≠ k → i < st.n ∧ (st.objs i).arr ≠ r.2.2.arr ∧
      r.1 (st.objs i).arr = st.heap (st.objs i).arr := fun i hi hik =>
    have hi' := hn i hi hik
    have hb := h.bound i hi'
    ⟨hi', hr.arr.elim (fun ha => ha ▸ hown i hi' hik) (fun ha => Nat.ne_of_lt (Nat.lt_of_lt_of_le hb ha)),
      hr.frame _ hb (hown i hi' hik)⟩
  refine ⟨rfl, h.routes_eq, ?_, ?_, ?_, ?_⟩
  · intro i hi
    dsimp only
    by_cases hik : i = k
    · rw [if_pos hik]; exact hr.arr_lt
    · rw [if_neg hik]; exact Nat.lt_of_lt_of_le (h.bound i (other i hi hik).1) hr.next_le
  · intro i hi
    dsimp only
    by_cases hik : i = k
    · rw [if_pos hik]; exact hr.cap
    · rw [if_neg hik, (other i hi hik).2.2]; exact h.cap i (other i hi hik).1
  · intro i j hi hj hne
    dsimp only
    by_cases hik : i = k <;> by_cases hjk : j = k
    · exact absurd (hik.trans hjk.symm) hne
    · rw [if_pos hik, if_neg hjk]; exact (other j hj hjk).2.1.symm
    · rw [if_neg hik, if_pos hjk]; exact (other i hi hik).2.1
    · rw [if_neg hik, if_neg hjk]; exact h.sep i j (other i hi hik).1 (other j hj hjk).1 hne
  · intro i hi
    dsimp only
    by_cases hik : i = k
    · rw [if_pos hik, if_pos hik]; exact hr.view
    · rw [if_neg hik, if_neg hik, view, (other i hi hik).2.2]; exact h.views i (other i hi hik).1

/-- every operation is guarded by "the object exists" on both sides -/
theorem Inv.guard {st st' : St} {sp sp' : Spec.MwTopo.St} (h : Inv st sp) {o : Nat}
    (h' : o < st.n → Inv st' sp') : Inv (if o < st.n then st' else st) (if o < sp.n then sp' else sp) := by
  rw [← h.n_eq]
  split
  · exact h' ‹_›
  · exact h

theorem inv_step (st : St) (sp : Spec.MwTopo.St) (op : Op) (h : Inv st sp) :
    Inv (step true st op) (Spec.MwTopo.step sp op) := by
  -- both `step`s unfold to the guarded form by definition
  cases op with
  | route o =>
    refine h.guard fun ho => ?_
    rw [← h.views o ho, ← h.routes_eq]
    exact ⟨h.n_eq, rfl, h.bound, h.cap, h.sep, h.views⟩
  | group p =>
    refine h.guard fun hp => ?_
    rw [← h.views p hp, ← h.n_eq]
    exact h.assign (copyS_stores _ _ _ (h.cap p hp)) (fun i hi _ => Nat.ne_of_lt (h.bound i hi))
      (fun i hi hik => Nat.lt_of_le_of_ne (Nat.le_of_lt_succ hi) hik)
  | mw o e =>
    refine h.guard fun ho => ?_
    rw [← h.views o ho, ← h.n_eq]
    exact h.assign (appendS_stores _ _ _ e (h.bound o ho) (h.cap o ho)) (fun i hi hio => h.sep i o hi ho hio)
      (fun _ hi _ => hi)

theorem inv_run (ops : List Op) : Inv (run true ops) (Spec.MwTopo.run ops) :=
  List.foldl_rel inv_init fun op _ st sp h => inv_step st sp op h

theorem take_set_self (l : List Entry) (k : Nat) (e : Entry) : (l.set k e).take k = l.take k :=
  List.take_set_of_le (Nat.le_refl k)

theorem run_snoc (c : Bool) (ops : List Op) (op : Op) : run c (ops ++ [op]) = step c (run c ops) op := by
  simp [run, List.foldl_append]

theorem srun_snoc (ops : List Op) (op : Op) :
    Spec.MwTopo.run (ops ++ [op]) = Spec.MwTopo.step (Spec.MwTopo.run ops) op := by
  simp [Spec.MwTopo.run, List.foldl_append]

end Proofs.MwTopo
