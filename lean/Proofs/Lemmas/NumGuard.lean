import Model.NumGuard
/-! Lemmas for the float → int step of the number decoders (C14). -/
namespace Proofs.NumGuard
open Model.NumGuard

/-- what a passed lower test of a well-formed guard says about the float: its integer part is at least `minInt`
(`frac fl` lies strictly between `fl` and `fl + 1`, so `fl` itself may be one lower) -/
def lowB : Fl → Prop
  | .int k => minInt ≤ k
  | .frac fl => minInt - 1 ≤ fl
  | .inf neg => neg = false
  | .nan => False

/-- … and a passed upper test: the integer part is below `maxIntP1` -/
def highB : Fl → Prop
  | .int k => k < maxIntP1
  | .frac fl => fl < maxIntP1
  | .inf neg => neg = true
  | .nan => False

theorem lo_bound {s : Site} (h : s.WF = true) {f : Fl} (hl : s.lo.holds f = true) : lowB f := by
  obtain ⟨_, _, lo, hi, integral⟩ := s
  simp only [Site.WF, Bool.and_eq_true] at h
  have h1 := h.1.1
  clear h
  -- `WF` bounds the guard's constant by `minInt`, the test bounds the float by the constant
  cases lo <;> cases f <;>
    simp_all only [Lo.holds, Fl.ge, Fl.gt, lowB, decide_eq_true_eq, Bool.not_eq_true', Bool.false_eq_true] <;>
    omega

theorem hi_bound {s : Site} (h : s.WF = true) {f : Fl} (hh : s.hi.holds f = true) : highB f := by
  obtain ⟨_, _, lo, hi, integral⟩ := s
  simp only [Site.WF, Bool.and_eq_true] at h
  have h1 := h.1.2
  clear h
  cases hi <;> cases f <;>
    simp_all only [Hi.holds, Fl.lt, Fl.le, highB, decide_eq_true_eq, Bool.false_eq_true] <;>
    omega

theorem wf_integral {s : Site} (h : s.WF = true) : s.integral ≠ .none := by
  unfold Site.WF at h
  simp at h
  exact h.2

theorem convert_sound (hw : Hw) {s : Site} (h : s.WF = true) {f : Fl} {n : Int}
    (hc : s.convert hw f = .int n) : f = .int n ∧ InRange n := by
  unfold Site.convert at hc
  split at hc
  next hcond =>
    simp only [Bool.and_eq_true] at hcond
    obtain ⟨⟨hl, hh⟩, hi⟩ := hcond
    have b1 := lo_bound h hl
    have b2 := hi_bound h hh
    have b3 := wf_integral h
    cases f with
    | int k =>
      simp only [lowB, highB] at b1 b2
      have hr : InRange k := ⟨b1, b2⟩
      simp [toInt, hr] at hc
      subst hc
      exact ⟨rfl, hr⟩
    | frac fl =>
      simp only [lowB, highB] at b1 b2
      exfalso
      have hr : InRange (if 0 ≤ fl then fl else fl + 1) := by
        unfold InRange minInt maxIntP1 at *
        split <;> omega
      cases hint : s.integral <;> rw [hint] at hi <;> simp_all [Integral.holds]
    | inf neg =>
      simp only [lowB, highB] at b1 b2
      rw [b1] at b2
      cases b2
    | nan => exact b1.elim
  next => cases hc

theorem convert_complete (hw : Hw) {s : Site} (h : s.Tight = true) {n : Int} (hr : InRange n) :
    s.convert hw (.int n) = .int n := by
  unfold Site.Tight at h
  simp only [Bool.and_eq_true, Bool.or_eq_true, beq_iff_eq, bne_iff_ne] at h
  obtain ⟨⟨hlo, hhi⟩, hin⟩ := h
  have hr' := hr
  unfold InRange at hr
  have h1 : s.lo.holds (.int n) = true := by
    rcases hlo with e | e <;> rw [e] <;> simp [Lo.holds, Fl.ge, Fl.gt] <;> omega
  have h2 : s.hi.holds (.int n) = true := by
    rcases hhi with e | e <;> rw [e] <;> simp [Hi.holds, Fl.lt, Fl.le] <;> omega
  have h3 : s.integral.holds hw (.int n) = true := by
    cases hint : s.integral <;> simp_all [Integral.holds]
  simp [Site.convert, h1, h2, h3, toInt, hr']

theorem pinned_wf : pinned.WF = true := by decide
theorem pinned_tight : pinned.Tight = true := by decide

end Proofs.NumGuard
