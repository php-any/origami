import Model.OMap
import Spec.OMap
/-!
The `OrderedMap` model refines the insertion-ordered association list.

`Rep m ks`: the representation invariant, phrased through the key list `ks` the two Go maps encode.

`Abs m s`: the store `m` stands for the association list `s`. Every operation of the store takes `Abs` to `Abs` of the
operation of the list, every observation of the store is that of the list.
-/
namespace Proofs.OMap
open Model.OMap
open Spec.OMap (St keys)

variable {κ ν : Type}

theorem getElem?_append_singleton (ks : List κ) (k : κ) (i : Nat) :
    (ks ++ [k])[i]? = if i = ks.length then some k else ks[i]? := by
  rcases Nat.lt_trichotomy i ks.length with h | h | h
  · rw [List.getElem?_append_left h, if_neg (Nat.ne_of_lt h)]
  · rw [if_pos h, h, List.getElem?_concat_length]
  · rw [if_neg (Nat.ne_of_gt h), List.getElem?_eq_none (Nat.le_of_lt h),
      List.getElem?_eq_none (by rw [List.length_append]; exact h)]

theorem nodup_concat {ks : List κ} (h : ks.Nodup) {k : κ} (hk : k ∉ ks) : (ks ++ [k]).Nodup :=
  (List.perm_append_singleton k ks).nodup_iff.2 (List.nodup_cons.2 ⟨hk, h⟩)

theorem getElem?_concat_eq_some (ks : List κ) (k k' : κ) (i : Nat) :
    (ks ++ [k])[i]? = some k' ↔ ks[i]? = some k' ∨ (i = ks.length ∧ k = k') := by
  rw [getElem?_append_singleton]
  by_cases hi : i = ks.length
  · simp [hi]
  · simp [hi]

theorem spec_keys_zip (ks : List κ) (d : List ν) (h : ks.length = d.length) :
    keys (ks.zip d) = ks := List.map_fst_zip (Nat.le_of_eq h)

structure Rep (m : OM κ ν) (ks : List κ) : Prop where
  nodup : ks.Nodup
  len : ks.length = m.data.length
  name : ∀ i, m.nameMap i = ks[i]?
  index : ∀ k i, m.indexMap k = some i ↔ ks[i]? = some k

theorem rep_empty : Rep (empty : OM κ ν) [] :=
  ⟨List.nodup_nil, rfl, fun _ => rfl, fun _ _ => by simp [empty, GoMap.empty]⟩

theorem Rep.index_lt {m : OM κ ν} {ks : List κ} (h : Rep m ks) {k : κ} {i : Nat}
    (hi : m.indexMap k = some i) : i < m.data.length := by
  obtain ⟨hlt, _⟩ := List.getElem?_eq_some_iff.1 ((h.index k i).1 hi)
  exact h.len ▸ hlt

theorem Rep.mem_iff {m : OM κ ν} {ks : List κ} (h : Rep m ks) (k : κ) :
    k ∈ ks ↔ ∃ i, m.indexMap k = some i := by
  rw [List.mem_iff_getElem?]
  exact exists_congr fun i => (h.index k i).symm

theorem Rep.not_mem {m : OM κ ν} {ks : List κ} (h : Rep m ks) {k : κ} (hi : m.indexMap k = none) :
    k ∉ ks := fun hm => by
  obtain ⟨i, e⟩ := (h.mem_iff k).1 hm
  rw [hi] at e; cases e

structure Abs (m : OM κ ν) (s : St κ ν) : Prop where
  rep : Rep m (keys s)
  data : m.data = s.map (·.2)

theorem abs_empty : Abs (empty : OM κ ν) [] := ⟨rep_empty, rfl⟩

/-- `Rep` alone determines the list: the keys it names, paired with the slice. Through it every statement about `Abs` is
one about `Rep` and that list; `range_eq` below, its one reader, shows how, and nothing reads `range_eq` (the property
file reads `Abs.range_eq`) -/
theorem rep_abs {m : OM κ ν} {ks : List κ} (h : Rep m ks) : Abs m (ks.zip m.data) :=
  ⟨by rw [spec_keys_zip ks m.data h.len]; exact h, (List.map_snd_zip (Nat.le_of_eq h.len.symm)).symm⟩

theorem key_mem {s : St κ ν} {q : κ × ν} (hq : q ∈ s) : q.1 ∈ keys s := List.mem_map_of_mem hq

theorem rangeFrom_eq (nameMap : GoMap Nat κ) (sfx : St κ ν) : ∀ (i : Nat),
    (∀ j, nameMap (i + j) = (keys sfx)[j]?) → rangeFrom nameMap i (sfx.map (·.2)) = sfx := by
  induction sfx with
  | nil => intro _ _; rfl
  | cons p sfx ih =>
    intro i h
    rw [List.map_cons, rangeFrom, show nameMap i = some p.1 from h 0,
      ih (i + 1) fun j => (Nat.add_right_comm i 1 j ▸ h (j + 1) :)]

theorem Abs.range_eq {m : OM κ ν} {s : St κ ν} (h : Abs m s) : range m = s := by
  rw [range, h.data]
  exact rangeFrom_eq m.nameMap s 0 fun j => by rw [Nat.zero_add, h.rep.name]

theorem range_eq {m : OM κ ν} {ks : List κ} (h : Rep m ks) : range m = ks.zip m.data :=
  (rep_abs h).range_eq

theorem Abs.len_eq {m : OM κ ν} {s : St κ ν} (h : Abs m s) : len m = Spec.OMap.len s := by
  rw [len, h.data, List.length_map]; rfl

theorem Abs.getByIndex_eq {m : OM κ ν} {s : St κ ν} (h : Abs m s) (i : Int) :
    getByIndex m i = Spec.OMap.getByIndex s i := by
  obtain ⟨d, im, nm⟩ := m
  obtain rfl : d = s.map (·.2) := h.data
  have hn : ∀ j, nm j = (keys s)[j]? := h.rep.name
  simp only [getByIndex, Spec.OMap.getByIndex, List.length_map, hn, keys, List.getElem?_map, List.getElem_map]
  by_cases h0 : 0 ≤ i
  · by_cases hlt : i.toNat < s.length
    · simp [h0, hlt]
    · simp [h0, hlt]
  · simp [h0]

variable [DecidableEq κ]

/-- the accumulated effect of the `Delete` loop -/
def pushAll (acc : OM κ ν) (ps : List (κ × ν)) : OM κ ν := ps.foldl (fun a p => a.push p.1 p.2) acc

theorem delLoop_eq (key : κ) (nameMap : GoMap Nat κ) (i : Nat) (rest : List ν) (acc : OM κ ν) :
    delLoop key nameMap i rest acc = pushAll acc ((rangeFrom nameMap i rest).filter (fun p => p.1 ≠ key)) := by
  -- the branches of the loop: the slice is empty, no name at `i`, the deleted key, a key that is kept
  fun_induction delLoop key nameMap i rest acc with
  | case1 => rfl
  | case2 i z rest acc hn ih => rw [rangeFrom, hn]; exact ih
  | case3 i z rest acc hn ih => rw [rangeFrom, hn, List.filter_cons_of_neg (by simp)]; exact ih
  | case4 i z rest acc k hn hk ih => rw [rangeFrom, hn, List.filter_cons_of_pos (by simpa using hk)]; exact ih

theorem rep_push {m : OM κ ν} {ks : List κ} (h : Rep m ks) (k : κ) (v : ν) (hk : k ∉ ks) :
    Rep (m.push k v) (ks ++ [k]) := by
  refine ⟨nodup_concat h.nodup hk, by simp [OM.push, h.len], fun i => ?_, fun k' i => ?_⟩
  · rw [getElem?_append_singleton, ← h.name i, h.len]
    rfl
  · rw [getElem?_concat_eq_some, ← h.index k' i, h.len]
    show (if k' = k then some m.data.length else m.indexMap k') = some i ↔ _
    by_cases hk' : k' = k
    · subst hk'
      have : m.indexMap k' ≠ some i := fun e => hk ((h.mem_iff k').2 ⟨i, e⟩)
      simp [this, eq_comm]
    · simp [hk', Ne.symm hk']

theorem abs_push {m : OM κ ν} {s : St κ ν} (h : Abs m s) {k : κ} (v : ν) (hk : k ∉ keys s) :
    Abs (m.push k v) (s ++ [(k, v)]) :=
  ⟨by simpa [keys] using rep_push h.rep k v hk, by rw [List.map_append, ← h.data]; rfl⟩

theorem abs_pushAll (ps : St κ ν) : ∀ {acc : OM κ ν} {sA : St κ ν}, Abs acc sA → (keys (sA ++ ps)).Nodup →
    Abs (pushAll acc ps) (sA ++ ps) := by
  induction ps with
  | nil => intro _ _ h _; rwa [List.append_nil]
  | cons p ps ih =>
    intro acc sA h hnd
    have hp : p.1 ∉ keys sA := fun hm =>
      (List.nodup_append.1 (by simpa [keys] using hnd)).2.2 _ hm _ List.mem_cons_self rfl
    have := ih (abs_push h p.2 hp) (by rwa [List.append_assoc])
    rwa [List.append_assoc] at this

theorem set_of_mem {s : St κ ν} {k : κ} (h : k ∈ keys s) (v : ν) :
    Spec.OMap.set s k v = s.map (fun p => if p.1 = k then (k, v) else p) := if_pos h

theorem set_of_not_mem {s : St κ ν} {k : κ} (h : k ∉ keys s) (v : ν) :
    Spec.OMap.set s k v = s ++ [(k, v)] := if_neg h

theorem keys_set_of_mem {s : St κ ν} {k : κ} (h : k ∈ keys s) (v : ν) :
    keys (Spec.OMap.set s k v) = keys s := by
  rw [set_of_mem h]
  simp only [keys, List.map_map]
  apply List.map_congr_left
  intro p _
  by_cases e : p.1 = k <;> simp [e]

theorem keys_set_of_not_mem {s : St κ ν} {k : κ} (h : k ∉ keys s) (v : ν) :
    keys (Spec.OMap.set s k v) = keys s ++ [k] := by
  rw [set_of_not_mem h]
  simp [keys]

theorem keys_delete (s : St κ ν) (k : κ) :
    keys (Spec.OMap.delete s k) = (keys s).filter (fun k' => k' ≠ k) := by
  simp only [Spec.OMap.delete, keys, List.filter_map]
  rfl

/-- what the list does by key (`find?`, replace) is what the store does by index -/
theorem key_at (s : St κ ν) {k : κ} : ∀ (idx : Nat), (keys s).Nodup → (keys s)[idx]? = some k →
    s.find? (fun p => p.1 = k) = s[idx]? ∧
      ∀ v, (s.map fun p => if p.1 = k then (k, v) else p).map (·.2) = (s.map (·.2)).set idx v := by
  induction s with
  | nil => intro _ _ hk; cases hk
  | cons p s ih =>
    intro idx hnd hk
    have hnd' := List.nodup_cons.1 hnd
    cases idx with
    | zero =>
      obtain rfl : p.1 = k := Option.some.inj hk
      have : ∀ q ∈ s, q.1 ≠ p.1 := fun q hq e => hnd'.1 (show p.1 ∈ keys s from e ▸ key_mem hq)
      refine ⟨by simp only [decide_true, List.find?_cons_of_pos, List.getElem?_cons_zero], fun v => ?_⟩
      simp only [List.map_cons, ↓reduceIte, List.set_cons_zero, List.cons.injEq, true_and]
      exact congrArg _ ((List.map_congr_left fun q hq => if_neg (this q hq)).trans (List.map_id' s))
    | succ idx =>
      have hne : p.1 ≠ k := fun e => hnd'.1 (show p.1 ∈ keys s from e ▸ List.mem_of_getElem? hk)
      obtain ⟨h₁, h₂⟩ := ih idx hnd'.2 hk
      exact ⟨by simpa only [hne, decide_false, Bool.false_eq_true, not_false_eq_true, List.find?_cons_of_neg,
        List.getElem?_cons_succ] using h₁, fun v => by simp only [List.map_cons, hne, ↓reduceIte, h₂ v, List.set_cons_succ]⟩

theorem abs_set {m : OM κ ν} {s : St κ ν} (h : Abs m s) (k : κ) (v : ν) :
    Abs (set m k v) (Spec.OMap.set s k v) := by
  unfold Model.OMap.set
  cases hi : m.indexMap k with
  | some idx =>
    have hk := (h.rep.index k idx).1 hi
    have hmem : k ∈ keys s := List.mem_of_getElem? hk
    simp only [if_pos (h.rep.index_lt hi)]
    refine ⟨?_, ?_⟩
    · rw [keys_set_of_mem hmem]
      exact ⟨h.rep.nodup, by simp [h.rep.len], h.rep.name, h.rep.index⟩
    · rw [set_of_mem hmem, (key_at s idx h.rep.nodup hk).2, ← h.data]
  | none =>
    have hk := h.rep.not_mem hi
    rw [set_of_not_mem hk]
    exact abs_push h v hk

theorem abs_delete {m : OM κ ν} {s : St κ ν} (h : Abs m s) (key : κ) :
    Abs (delete m key) (Spec.OMap.delete s key) := by
  unfold delete
  cases hi : m.indexMap key with
  | none =>
    have : Spec.OMap.delete s key = s := List.filter_eq_self.2 fun p hp =>
      decide_eq_true fun e => h.rep.not_mem hi (e ▸ key_mem hp)
    rwa [this]
  | some _ =>
    show Abs (delLoop key m.nameMap 0 m.data empty) _
    rw [delLoop_eq, ← range, h.range_eq]
    refine abs_pushAll (Spec.OMap.delete s key) abs_empty (?_ : (keys (Spec.OMap.delete s key)).Nodup)
    rw [keys_delete]
    exact List.filter_sublist.nodup h.rep.nodup

theorem Abs.get_eq {m : OM κ ν} {s : St κ ν} (h : Abs m s) (k : κ) : get m k = Spec.OMap.get s k := by
  unfold Model.OMap.get Spec.OMap.get
  cases hi : m.indexMap k with
  | none =>
    rw [List.find?_eq_none.2 fun p hp => by
      simpa using fun e : p.1 = k => h.rep.not_mem hi (e ▸ key_mem hp)]
    rfl
  | some idx =>
    have hlt := h.rep.index_lt hi
    simp only [dif_pos hlt, (key_at s idx h.rep.nodup ((h.rep.index k idx).1 hi)).1, ← List.getElem?_map,
      ← h.data, List.getElem?_eq_getElem hlt]

def toSpec : Op κ ν → Spec.OMap.Op κ ν
  | .set k v => .set k v
  | .delete k => .delete k

theorem abs_step {m : OM κ ν} {s : St κ ν} (h : Abs m s) : ∀ op : Op κ ν,
    Abs (step m op) (Spec.OMap.step s (toSpec op))
  | .set k v => abs_set h k v
  | .delete k => abs_delete h k

theorem run_refines (ops : List (Op κ ν)) : Abs (run ops) (Spec.OMap.run (ops.map toSpec)) := by
  rw [run, Spec.OMap.run, List.foldl_map]
  exact List.foldl_rel abs_empty fun op _ _ _ h => abs_step h op

end Proofs.OMap
