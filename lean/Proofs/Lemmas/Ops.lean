import Model.Ops
import Spec.Ops
/-! C03, the basic facts: `wf T` is the decidable test under which every truthiness site of a table computes
`Spec.Ops.truthy` (`wf_truthyAt`). Also: `strLt` is `<` on byte lists (`strLt_iff`), and the specification's
`wrap` of an `Int` operation on `x.toInt`, `y.toInt` is the machine operation on `BitVec 64` (`wrap_add` … `wrap_shr`). -/
namespace Proofs.Ops
open Model.Ops

/-- the one test each value kind must be subjected to (the reference truthiness) -/
def refCmp : Kind → Cmp
  | .int => .ne0 | .float => .ne0 | .bool => .field | .str => .nonEmpty
  | .null => .constFalse | .arr => .lenGt0 | .obj => .constTrue | .cls => .constTrue

/-- a test shape that means the same as the reference on that kind (`len(s) > 0` ≡ `s != ""`) -/
def cmpOk (k : Kind) (c : Cmp) : Bool :=
  c == refCmp k || (k == .str && c == .lenGt0)

def siteOk (s : Site) : Bool :=
  s.asBool && s.arms.all (fun p => cmpOk p.1 p.2)

def wf (T : TruthTable) : Bool :=
  T.shapeChanged.isEmpty
  && Kind.all.all (fun k => lookupCmp T.asBoolImpl k == some (refCmp k))
  && contexts.all (fun n => match findSite T n with
      | some s => siteOk s
      | none => false)

section
variable {F : Type} (P : Prim F) {T : TruthTable}

theorem refCmp_eval (v : Val F) : (refCmp v.kind).eval P v = some (Spec.Ops.truthy P v) := by
  cases v <;> rfl

theorem cmpOk_eval {c : Cmp} (v : Val F) (h : cmpOk v.kind c = true) :
    c.eval P v = some (Spec.Ops.truthy P v) := by
  unfold cmpOk at h
  simp only [Bool.or_eq_true, Bool.and_eq_true, beq_iff_eq] at h
  rcases h with h | ⟨h1, h2⟩
  · subst h; exact refCmp_eval P v
  · subst h2
    cases v <;> cases h1
    rfl

theorem wf_asBool (h : wf T = true) (v : Val F) :
    valAsBool P T v = some (Spec.Ops.truthy P v) := by
  unfold wf at h
  simp only [Bool.and_eq_true, List.all_eq_true, beq_iff_eq] at h
  have := h.1.2 v.kind (by cases v.kind <;> decide)
  unfold valAsBool
  rw [this]
  exact refCmp_eval P v

theorem lookupCmp_mem {l : List (Kind × Cmp)} {k : Kind} {c : Cmp} (h : lookupCmp l k = some c) :
    (k, c) ∈ l := by
  unfold lookupCmp at h
  split at h
  · rename_i p hp
    have h1 := List.find?_some hp
    have h2 := List.mem_of_find?_eq_some hp
    simp only [beq_iff_eq] at h1
    cases h
    subst h1
    exact h2
  · cases h

theorem siteOk_truthy (hT : wf T = true) {s : Site} (hs : siteOk s = true) (v : Val F) :
    s.truthy P T v = some (Spec.Ops.truthy P v) := by
  unfold siteOk at hs
  simp only [Bool.and_eq_true, List.all_eq_true] at hs
  unfold Site.truthy
  split
  · rename_i c hc
    have := hs.2 _ (lookupCmp_mem hc)
    exact cmpOk_eval P v this
  · rw [if_pos hs.1]; exact wf_asBool P hT v

theorem wf_truthyAt (hT : wf T = true) {ctx : String} (hc : ctx ∈ contexts) (v : Val F) :
    truthyAt P T ctx v = some (Spec.Ops.truthy P v) := by
  have h := hT
  unfold wf at h
  simp only [Bool.and_eq_true, List.all_eq_true] at h
  have := h.2 ctx hc
  unfold truthyAt
  split at this
  · rename_i s hs
    rw [hs]
    exact siteOk_truthy P hT this v
  · cases this

theorem bothInt_some {a b : Val F} {x y : BitVec 64} (h : Spec.Ops.bothInt a b = some (x, y)) :
    a = .int x ∧ b = .int y := by
  unfold Spec.Ops.bothInt at h
  split at h
  · cases h; exact ⟨rfl, rfl⟩
  · cases h

theorem bothStr_some {a b : Val F} {x y : Str} (h : Spec.Ops.bothStr a b = some (x, y)) :
    a = .str x ∧ b = .str y := by
  unfold Spec.Ops.bothStr at h
  split at h
  · cases h; exact ⟨rfl, rfl⟩
  · cases h

theorem toF_some {a : Val F} {x : F} (h : Spec.Ops.toF P a = some x) :
    (∃ i, a = .int i ∧ x = P.ofInt i) ∨ a = .float x := by
  unfold Spec.Ops.toF at h
  split at h
  · cases h; exact .inl ⟨_, rfl, rfl⟩
  · cases h; exact .inr rfl
  · cases h

theorem asFloatI_of_toF {a : Val F} {x : F} (h : Spec.Ops.toF P a = some x) : asFloatI P a = some (some x) := by
  rcases toF_some P h with ⟨i, rfl, rfl⟩ | rfl <;> rfl

theorem land_wf (hT : wf T = true) (a b : Val F) :
    land P T a b = .val (.bool (Spec.Ops.truthy P a && Spec.Ops.truthy P b)) := by
  rw [land, wf_truthyAt P hT (by simp [contexts]) a, wf_truthyAt P hT (by simp [contexts]) b]
  cases Spec.Ops.truthy P a <;> rfl

theorem lor_wf (hT : wf T = true) (a b : Val F) :
    lor P T a b = .val (.bool (Spec.Ops.truthy P a || Spec.Ops.truthy P b)) := by
  rw [lor, wf_truthyAt P hT (by simp [contexts]) a, wf_truthyAt P hT (by simp [contexts]) b]
  cases Spec.Ops.truthy P a <;> rfl

theorem lnot_wf (hT : wf T = true) (a : Val F) :
    lnot P T a = .val (.bool (!Spec.Ops.truthy P a)) := by
  rw [lnot, wf_truthyAt P hT (by simp [contexts]) a]

theorem castB_wf (hT : wf T = true) (a : Val F) :
    castB P T a = .val (.bool (Spec.Ops.truthy P a)) := by
  rw [castB, wf_truthyAt P hT (by simp [contexts]) a]

end

theorem strLt_iff (a b : Str) : strLt a b = true ↔ a < b := by
  fun_induction strLt a b with
  | case1 => simp
  | case2 => simp
  | case3 => simp
  -- 1–3: an empty side; 4: `x < y`; 5: `y < x`; 6: neither, so `x = y` and the tails decide
  | case4 x xs y ys h => simp [h, List.cons_lt_cons_iff]
  | case5 x xs y ys h₁ h₂ => simp [h₁, (UInt8.ne_of_lt h₂).symm, List.cons_lt_cons_iff]
  | case6 x xs y ys h₁ h₂ ih =>
    obtain rfl : x = y := UInt8.le_antisymm (UInt8.not_lt.mp h₂) (UInt8.not_lt.mp h₁)
    simp [ih]

theorem strLt_eq_false {a b : Str} : strLt a b = false ↔ b ≤ a := by
  rw [← List.not_lt, ← strLt_iff, Bool.not_eq_true]

-- `strLt` is a strict total order
theorem strLt_irrefl (a : Str) : strLt a a = false := strLt_eq_false.mpr (List.le_refl a)

theorem strLt_asymm (a b : Str) (h : strLt a b = true) : strLt b a = false :=
  strLt_eq_false.mpr (List.le_of_lt ((strLt_iff a b).mp h))

theorem strLt_connex (a b : Str) (h1 : strLt a b = false) (h2 : strLt b a = false) : a = b :=
  List.le_antisymm (strLt_eq_false.mp h2) (strLt_eq_false.mp h1)

theorem wrap_add (x y : BitVec 64) : Spec.Ops.wrap (x.toInt + y.toInt) = x + y := by
  simp [Spec.Ops.wrap, BitVec.ofInt_add, BitVec.ofInt_toInt]

theorem wrap_mul (x y : BitVec 64) : Spec.Ops.wrap (x.toInt * y.toInt) = x * y := by
  simp [Spec.Ops.wrap, BitVec.ofInt_mul, BitVec.ofInt_toInt]

theorem wrap_neg (x : BitVec 64) : Spec.Ops.wrap (-x.toInt) = -x := by
  simp [Spec.Ops.wrap, BitVec.ofInt_neg, BitVec.ofInt_toInt]

theorem wrap_sub (x y : BitVec 64) : Spec.Ops.wrap (x.toInt - y.toInt) = x - y := by
  rw [Int.sub_eq_add_neg]
  simp [Spec.Ops.wrap, BitVec.ofInt_add, BitVec.ofInt_neg, BitVec.ofInt_toInt, BitVec.sub_eq_add_neg]

theorem wrap_srem (x y : BitVec 64) : Spec.Ops.wrap (x.toInt.tmod y.toInt) = goRem x y := by
  unfold goRem Spec.Ops.wrap
  rw [← BitVec.toInt_srem, BitVec.ofInt_toInt]

theorem toInt_eq_zero (y : BitVec 64) : (y.toInt = 0) ↔ (y == 0#64) = true := by
  rw [beq_iff_eq, ← BitVec.toInt_inj, BitVec.toInt_zero]

theorem toNat_of_nonneg (n : BitVec 64) (h : ¬ n.toInt < 0) : n.toNat = n.toInt.toNat := by
  have hm : n.msb = false := by
    rw [BitVec.msb_eq_toInt]; simp [h]
  rw [BitVec.toInt_eq_toNat_of_msb hm]; simp

theorem wrap_shl (x : BitVec 64) (k : Nat) : Spec.Ops.wrap (x.toInt * 2 ^ k) = x <<< k := by
  apply BitVec.eq_of_toInt_eq
  rw [Spec.Ops.wrap, BitVec.toInt_ofInt, BitVec.toInt_shiftLeft, Nat.shiftLeft_eq]
  rw [BitVec.toInt_eq_toNat_bmod x]
  simp only [Int.natCast_mul, Int.natCast_pow]
  rw [Int.bmod_mul_bmod]
  rfl

theorem wrap_shr (x : BitVec 64) (k : Nat) : Spec.Ops.wrap (x.toInt / 2 ^ k) = x.sshiftRight k := by
  rw [← BitVec.ofInt_toInt (x := x.sshiftRight k), BitVec.toInt_sshiftRight, Int.shiftRight_eq_div_pow,
    Int.natCast_pow]
  rfl

end Proofs.Ops
