import Model.Ops
import Spec.Ops
import Proofs.Lemmas.Ops
/-! C03: the one loose comparison (`data.LooseCompare`) — totality, antisymmetry, and what each
operator reads off its result. -/
namespace Proofs.Ops
open Model.Ops

theorem Ord4.rev_rev (o : Ord4) : o.rev.rev = o := by cases o <;> rfl

theorem slt_asymm (x y : BitVec 64) : BitVec.slt x y = true → BitVec.slt y x = false := by
  simp [BitVec.slt_eq_decide]; omega

def ord3 (p q : Bool) : Ord4 := if p then .lt else if q then .gt else .eq

theorem ordInt_eq (x y : BitVec 64) : ordInt x y = ord3 (BitVec.slt x y) (BitVec.slt y x) := rfl
theorem ordStr_eq (x y : Str) : ordStr x y = ord3 (strLt x y) (strLt y x) := rfl

theorem ord3_rev {p q : Bool} (h : p = true → q = false) : ord3 q p = (ord3 p q).rev := by
  cases p
  · cases q <;> rfl
  · rw [h rfl]; rfl

theorem ordInt_rev (x y : BitVec 64) : ordInt y x = (ordInt x y).rev := by
  rw [ordInt_eq, ordInt_eq]; exact ord3_rev (slt_asymm x y)

theorem ordStr_rev (x y : Str) : ordStr y x = (ordStr x y).rev := by
  rw [ordStr_eq, ordStr_eq]; exact ord3_rev (strLt_asymm x y)

theorem ordBool_rev (x y : Bool) : ordBool y x = (ordBool x y).rev := by
  cases x <;> cases y <;> rfl

section
variable {F : Type} (P : Prim F) {T : TruthTable}

theorem ordFloat_rev (h_eq_symm : ∀ x y : F, P.eq x y = P.eq y x)
    (h_lt_asymm : ∀ x y : F, P.lt x y = true → P.lt y x = false) (x y : F) :
    ordFloat P y x = (ordFloat P x y).rev := by
  unfold ordFloat
  rw [h_eq_symm y x]
  cases h1 : P.lt x y
  · cases P.lt y x
    · cases P.eq x y <;> rfl
    · rfl
  · rw [h_lt_asymm x y h1]; rfl

/-- `data.LooseCompare` where no like-with-like rule applies -/
def viaBool (T : TruthTable) (a b : Val F) : Option Ord4 :=
  if isNullOrBool a || isNullOrBool b then
    match valAsBool P T a, valAsBool P T b with
    | some x, some y => some (ordBool x y)
    | _, _ => none
  else some .un

theorem viaBool_rev (T : TruthTable) (a b : Val F) : viaBool P T b a = (viaBool P T a b).map Ord4.rev := by
  unfold viaBool
  rw [Bool.or_comm]
  split
  · cases valAsBool P T a <;> cases valAsBool P T b <;> first | rfl | exact congrArg some (ordBool_rev _ _)
  · rfl

theorem looseCompare_some (hT : wf T = true) (a b : Val F) :
    ∃ o, looseCompare P T a b = some o := by
  unfold looseCompare
  rw [wf_asBool P hT a, wf_asBool P hT b]
  split
  all_goals first | exact ⟨_, rfl⟩ | (split <;> exact ⟨_, rfl⟩)

theorem viaCompare_of {a b : Val F} {o : Ord4} (ho : looseCompare P T a b = some o)
    (test : Ord4 → Bool) : viaCompare P T test a b = .val (.bool (test o)) := by
  rw [viaCompare, ho]

theorem looseCompare_rev
    (h_eq_symm : ∀ x y : F, P.eq x y = P.eq y x)
    (h_lt_asymm : ∀ x y : F, P.lt x y = true → P.lt y x = false) (a b : Val F) :
    looseCompare P T b a = (looseCompare P T a b).map Ord4.rev := by
  have hf := ordFloat_rev P h_eq_symm h_lt_asymm
  have hrest := viaBool_rev P T a b
  cases a <;> cases b
  case int.int x y => exact congrArg some (ordInt_rev x y)
  case int.float | float.int | float.float => exact congrArg some (hf _ _)
  case int.str | float.str | null.null => rfl
  case str.int x s | str.float x s => exact congrArg some (Ord4.rev_rev _).symm
  case str.str x y => exact congrArg some (ordStr_rev x y)
  case str.null s => exact congrArg some (ordStr_rev s [])
  case null.str s => exact congrArg some (ordStr_rev [] s)
  -- every other pair takes the fallback arm of `looseCompare`, which unfolds to `viaBool`: symmetric
  all_goals exact hrest

/-- the IEEE facts that tie Go's three float comparisons `<`, `<=`, `==` (and their mirror images)
together; hypotheses of the refinement theorems, true of IEEE doubles. The antisymmetry lemmas need only the
first two fields and take them as two separate hypotheses, the way `C03_compare_antisymm`, `C03_eq_symm`,
`C03_lt_gt_mirror` state them. -/
structure FloatOrder (P : Prim F) : Prop where
  eq_symm : ∀ x y : F, P.eq x y = P.eq y x
  lt_asymm : ∀ x y : F, P.lt x y = true → P.lt y x = false
  eq_not_lt : ∀ x y : F, P.eq x y = true → P.lt x y = false
  le_iff : ∀ x y : F, P.le x y = (P.lt x y || P.eq x y)

end

theorem ord3_tests {p q : Bool} (h : p = true → q = false) :
    (ord3 p q).isLt = p ∧ (ord3 p q).isLe = !q ∧ (ord3 p q).isEq = (!p && !q) := by
  cases p
  · cases q <;> exact ⟨rfl, rfl, rfl⟩
  · rw [h rfl]; exact ⟨rfl, rfl, rfl⟩

theorem int_eq_test (x y : BitVec 64) : (!BitVec.slt x y && !BitVec.slt y x) = (x == y) := by
  rw [Bool.eq_iff_iff]
  simp [BitVec.slt_eq_decide, ← BitVec.toInt_inj]
  omega

theorem str_eq_test (x y : Str) : (!strLt x y && !strLt y x) = (x == y) := by
  rw [Bool.eq_iff_iff, Bool.and_eq_true, Bool.not_eq_true', Bool.not_eq_true', strLt_eq_false, strLt_eq_false,
    beq_iff_eq]
  exact ⟨fun h => List.le_antisymm h.2 h.1, fun h => h ▸ ⟨List.le_refl x, List.le_refl x⟩⟩

theorem int_le_test (x y : BitVec 64) : decide (x.toInt ≤ y.toInt) = !BitVec.slt y x := by
  rw [Bool.eq_iff_iff]
  simp [BitVec.slt_eq_decide]

theorem Ord4.rev_tests (o : Ord4) : o.rev.isLt = o.isGt ∧ o.rev.isLe = o.isGe := by
  cases o <;> exact ⟨rfl, rfl⟩

theorem Ord4.toInt_tests (o : Ord4) :
    o.toInt = (if o.isLt then BitVec.ofInt 64 (-1) else if o.isGt then 1#64 else 0#64) := by
  cases o <;> rfl

theorem ordInt_tests (x y : BitVec 64) :
    (ordInt x y).isLt = decide (x.toInt < y.toInt) ∧ (ordInt x y).isLe = decide (x.toInt ≤ y.toInt) ∧
    (ordInt x y).isEq = (x == y) := by
  obtain ⟨h1, h2, h3⟩ := ord3_tests (slt_asymm x y)
  exact ⟨h1.trans (BitVec.slt_eq_decide ..), h2.trans (int_le_test x y).symm, h3.trans (int_eq_test x y)⟩

theorem ordStr_tests (x y : Str) :
    (ordStr x y).isLt = strLt x y ∧ (ordStr x y).isLe = !strLt y x ∧ (ordStr x y).isEq = (x == y) := by
  obtain ⟨h1, h2, h3⟩ := ord3_tests (strLt_asymm x y)
  exact ⟨h1, h2, h3.trans (str_eq_test x y)⟩

theorem ordBool_tests (x y : Bool) :
    (ordBool x y).isLt = (!x && y) ∧ (ordBool x y).isLe = (!x || y) ∧ (ordBool x y).isEq = (x == y) := by
  cases x <;> cases y <;> exact ⟨rfl, rfl, rfl⟩

section
variable {F : Type} (P : Prim F) {T : TruthTable}

theorem ordFloat_tests (hF : FloatOrder P) (x y : F) :
    (ordFloat P x y).isLt = P.lt x y ∧ (ordFloat P x y).isLe = P.le x y ∧ (ordFloat P x y).isEq = P.eq x y := by
  rw [hF.le_iff x y]
  unfold ordFloat
  cases h1 : P.lt x y
  · cases h2 : P.lt y x
    · cases P.eq x y <;> exact ⟨rfl, rfl, rfl⟩
    · have h3 : P.eq x y = false := by
        cases h : P.eq x y
        · rfl
        · rw [hF.eq_symm] at h; rw [hF.eq_not_lt y x h] at h2; cases h2
      rw [h3]; exact ⟨rfl, rfl, rfl⟩
  · cases h3 : P.eq x y
    · exact ⟨rfl, rfl, rfl⟩
    · rw [hF.eq_not_lt x y h3] at h1; cases h1

theorem ordStr_nil_left (s : Str) : ordStr [] s = ordBool false (!s.isEmpty) := by cases s <;> rfl
theorem ordStr_nil_right (s : Str) : ordStr s [] = ordBool (!s.isEmpty) false := by cases s <;> rfl

/-- covers the `null`-against-string arms too: comparing `""` with the string comes to the same -/
theorem looseCompare_bool (hT : wf T = true) {a b : Val F}
    (h : (isNullOrBool a || isNullOrBool b) = true) :
    looseCompare P T a b = some (ordBool (Spec.Ops.truthy P a) (Spec.Ops.truthy P b)) := by
  unfold looseCompare
  split
  -- the nine arms before `.str, .null` have numbers or strings on both sides, against `h`
  iterate 9 cases h
  · exact congrArg some (ordStr_nil_right _)
  · rfl
  · exact congrArg some (ordStr_nil_left _)
  · rw [if_pos h, wf_asBool P hT a, wf_asBool P hT b]

theorem looseCompare_num {a b : Val F} {x y : F} (hx : Spec.Ops.toF P a = some x)
    (hy : Spec.Ops.toF P b = some y) (h : ∀ i j, a = .int i → b = .int j → False) :
    looseCompare P T a b = some (ordFloat P x y) := by
  rcases toF_some P hx with ⟨i, rfl, rfl⟩ | rfl <;> rcases toF_some P hy with ⟨j, rfl, rfl⟩ | rfl
  · exact (h _ _ rfl rfl).elim
  all_goals rfl

theorem baseOrder_compare (hT : wf T = true) (hF : FloatOrder P) {a b : Val F} {o : Ord4} {p : Bool × Bool}
    (ho : looseCompare P T a b = some o) (hp : Spec.Ops.baseOrder P a b = some p) :
    o.isLt = p.1 ∧ o.isLe = p.2 := by
  unfold Spec.Ops.baseOrder at hp
  -- the arms of `baseOrder` (and of `baseEq` below): int/int, str/str, bool/bool, null/null, a numeric pair through `toF`
  split at hp
  · cases hp; cases ho; exact ⟨(ordInt_tests _ _).1, (ordInt_tests _ _).2.1⟩
  · cases hp; cases ho; exact ⟨(ordStr_tests _ _).1, (ordStr_tests _ _).2.1⟩
  · cases hp; cases (looseCompare_bool P hT rfl).symm.trans ho
    exact ⟨(ordBool_tests _ _).1, (ordBool_tests _ _).2.1⟩
  · cases hp; cases ho; exact ⟨rfl, rfl⟩
  · rename_i hii _ _ _
    split at hp
    · rename_i x y hx hy
      cases hp; cases (looseCompare_num P hx hy hii).symm.trans ho
      exact ⟨(ordFloat_tests P hF x y).1, (ordFloat_tests P hF x y).2.1⟩
    · cases hp

theorem baseEq_compare (hT : wf T = true) (hF : FloatOrder P) {a b : Val F} {o : Ord4} {e : Bool}
    (ho : looseCompare P T a b = some o) (he : Spec.Ops.baseEq P a b = some e) : o.isEq = e := by
  unfold Spec.Ops.baseEq at he
  split at he
  · cases he; cases ho; exact (ordInt_tests _ _).2.2
  · cases he; cases ho; exact (ordStr_tests _ _).2.2
  · cases he; cases (looseCompare_bool P hT rfl).symm.trans ho
    exact (ordBool_tests _ _).2.2
  · cases he; cases ho; rfl
  · rename_i hii _ _ _
    split at he
    · rename_i x y hx hy
      cases he; cases (looseCompare_num P hx hy hii).symm.trans ho
      exact (ordFloat_tests P hF x y).2.2
    · cases he

theorem conv_int_str {i : BitVec 64} {s : Str} {x y : Val F}
    (h : Spec.Ops.convNumStr P (.int i) s = some (x, y)) :
    looseCompare P T (.int i) (.str s) = looseCompare P T x y := by
  show some (ordIntStr P i s) = _
  unfold ordIntStr
  revert h
  unfold Spec.Ops.convNumStr Spec.Ops.strNumber
  cases P.atoi s <;> cases P.parse s <;> intro h <;> cases h <;> rfl

theorem conv_float_str {f : F} {s : Str} {x y : Val F}
    (h : Spec.Ops.convNumStr P (.float f) s = some (x, y)) :
    looseCompare P T (.float f) (.str s) = looseCompare P T x y := by
  show some (ordFloatStr P f s) = _
  unfold ordFloatStr
  revert h
  unfold Spec.Ops.convNumStr Spec.Ops.strNumber
  cases P.parse s <;> intro h <;> cases h <;> rfl

theorem conv_compare (hT : wf T = true) (hF : FloatOrder P) (a b x y : Val F)
    (h : Spec.Ops.conv P a b = some (x, y)) : looseCompare P T a b = looseCompare P T x y := by
  have hrev := looseCompare_rev (T := T) P hF.eq_symm hF.lt_asymm
  unfold Spec.Ops.conv at h
  split at h
  · cases h; rfl
  · cases h; rfl
  · exact conv_int_str P h
  · exact conv_float_str P h
  · -- a string against a number: the mirror image of the number against the string
    obtain ⟨⟨u, v⟩, hp, hxy⟩ := Option.map_eq_some_iff.mp h
    cases hxy
    rw [hrev (.int _) (.str _), conv_int_str P hp, ← hrev]
  · obtain ⟨⟨u, v⟩, hp, hxy⟩ := Option.map_eq_some_iff.mp h
    cases hxy
    rw [hrev (.float _) (.str _), conv_float_str P hp, ← hrev]
  · split at h <;> cases h
    · -- `hnb` speaks of `Spec.Ops.isNullOrBool`, `looseCompare_bool` of the model's: the same match, equal by unfolding
      rename_i hnb
      rw [looseCompare_bool P hT hnb]
      exact (looseCompare_bool P hT (a := .bool _) (b := .bool _) rfl).symm
    · rfl

/-- The helper's one answer reads as every documented comparison of the pair. `C03_exact` for
`== != < <= > >= <=>` reads its cases off this. -/
theorem compare_reads (hT : wf T = true) (hF : FloatOrder P) (a b : Val F) :
    ∃ o, looseCompare P T a b = some o ∧
      (∀ p, Spec.Ops.order P a b = some p → o.isLt = p.1 ∧ o.isLe = p.2) ∧
      (∀ p, Spec.Ops.order P b a = some p → o.isGt = p.1 ∧ o.isGe = p.2) ∧
      (∀ e, Spec.Ops.looseEq P a b = some e → o.isEq = e) := by
  -- `order` and `looseEq` convert the pair, then compare like with like; so does the helper (`conv_compare`)
  have ord : ∀ {a b o p}, looseCompare P T a b = some o → Spec.Ops.order P a b = some p →
      o.isLt = p.1 ∧ o.isLe = p.2 := by
    intro a b o p ho h
    unfold Spec.Ops.order at h
    split at h
    · rename_i x y hc
      exact baseOrder_compare P hT hF ((conv_compare P hT hF a b x y hc).symm.trans ho) h
    · cases h
  obtain ⟨o, ho⟩ := looseCompare_some P hT a b
  refine ⟨o, ho, fun p => ord ho, fun p hp => ?_, fun e he => ?_⟩
  · -- the swapped pair is answered `o.rev`, whose `<` and `≤` are `o`'s `>` and `≥`
    have hr : looseCompare P T b a = some o.rev := by
      rw [looseCompare_rev P hF.eq_symm hF.lt_asymm a b, ho]; rfl
    exact (Ord4.rev_tests o).1 ▸ (Ord4.rev_tests o).2 ▸ ord hr hp
  · unfold Spec.Ops.looseEq at he
    split at he
    · rename_i x y hc
      exact baseEq_compare P hT hF ((conv_compare P hT hF a b x y hc).symm.trans ho) he
    · cases he

theorem viaCompare_mirror (h_eq_symm : ∀ x y : F, P.eq x y = P.eq y x)
    (h_lt_asymm : ∀ x y : F, P.lt x y = true → P.lt y x = false) {t t' : Ord4 → Bool}
    (h : ∀ o, t o = t' o.rev) (a b : Val F) : viaCompare P T t a b = viaCompare P T t' b a := by
  rw [viaCompare, viaCompare, looseCompare_rev P h_eq_symm h_lt_asymm a b]
  cases looseCompare P T a b
  · rfl
  · exact congrArg (fun x => Outcome.val (Val.bool x)) (h _)

end
end Proofs.Ops
