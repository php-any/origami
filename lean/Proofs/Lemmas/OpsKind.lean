import Model.Ops
import Spec.Ops
import Proofs.Lemmas.Ops
import Proofs.Lemmas.OpsCompare
/-! C03: what an operator can answer on **all** operand values, mixed kinds, arrays and objects
included: never a Go panic, and the kind (type) of the value when there is one. -/
namespace Proofs.Ops
open Model.Ops
section
variable {F : Type} (P : Prim F) {T : TruthTable} {K : Kind → Bool}

/-- `r` is a catchable error or a value whose kind satisfies `K`, in particular no `crash`. Most operator
nodes are one `match` whose arms are literally of these two forms, so `fun_cases` on the node and `constructor`
per arm prove it; `sub` / `mul` also have `ofExcept` arms (`Yields.ofExcept`), `add` ends in `addSwitch`, and `neg`,
a nested match, is split. -/
inductive Yields (K : Kind → Bool) : Res F → Prop
  | val (v : Val F) (h : K v.kind = true) : Yields K (.val v)
  | err (e : ErrKind) : Yields K (.err e)

theorem Yields.ne_crash {r : Res F} (h : Yields K r) : r ≠ .crash := by
  cases h <;> nofun

theorem ne_crash_of_val {r : Res F} (h : ∃ v, r = .val v) : r ≠ .crash := by
  obtain ⟨v, rfl⟩ := h
  nofun

theorem Yields.kind {r : Res F} (h : Yields K r) {v : Val F} (hv : r = .val v) :
    K v.kind = true := by
  cases h <;> cases hv
  assumption

/-- the checked operand accesses -/
theorem Yields.ofExcept {α : Type} (e : Except ErrKind α) (f : α → Val F)
    (h : ∀ x, K (f x).kind = true) : Yields K (Model.Ops.ofExcept (do let x ← e; pure (f x))) := by
  cases e
  · exact .err _
  · exact .val _ (h _)

theorem Yields.ite {c : Prop} [Decidable c] {x y : Res F} (hx : Yields K x) (hy : Yields K y) :
    Yields K (if c then x else y) := by
  split <;> assumption

theorem addSwitch_yields (a b : Val F) : Yields (fun _ => true) (addSwitch P a b) := by
  fun_cases addSwitch P a b
  all_goals constructor <;> rfl

theorem add_yields (a b : Val F) : Yields (fun _ => true) (add P a b) := by
  fun_cases add P a b
  all_goals first | exact addSwitch_yields P a b | exact .val _ rfl

theorem sub_yields (a b : Val F) : Yields Spec.Ops.isNumberKind (sub P a b) := by
  fun_cases sub P a b
  all_goals first | exact .ofExcept _ _ (fun _ => rfl) | constructor <;> rfl

theorem mul_yields (a b : Val F) : Yields Spec.Ops.isNumberKind (mul P a b) := by
  fun_cases mul P a b
  all_goals first | exact .ofExcept _ _ (fun _ => rfl) | constructor <;> rfl

theorem quo_yields (a b : Val F) : Yields (· == .float) (quo P a b) := by
  fun_cases quo P a b
  all_goals constructor <;> rfl

theorem rem_yields (a b : Val F) : Yields Spec.Ops.isNumberKind (rem P a b) := by
  fun_cases rem P a b
  all_goals constructor <;> rfl

theorem pow_yields (a b : Val F) : Yields Spec.Ops.isNumberKind (pow P a b) := by
  fun_cases pow P a b
  all_goals constructor <;> rfl

theorem shiftWith_yields (f : BitVec 64 → Nat → BitVec 64) (a b : Val F) :
    Yields (· == .int) (shiftWith P f a b) := by
  fun_cases shiftWith P f a b
  all_goals constructor <;> rfl

theorem shl_yields (a b : Val F) : Yields (· == .int) (shl P a b) := shiftWith_yields P _ a b

theorem shr_yields (a b : Val F) : Yields (· == .int) (shr P a b) := shiftWith_yields P _ a b

theorem neg_yields (a : Val F) : Yields Spec.Ops.isNumberKind (neg P a) := by
  unfold neg
  repeat' split
  all_goals constructor <;> rfl

theorem bnot_yields (a : Val F) : Yields (· == .int) (bnot P a) := by
  fun_cases bnot P a
  all_goals constructor <;> rfl

theorem viaCompare_kind (test : Ord4 → Bool) (a b : Val F) (v : Val F)
    (hv : viaCompare P T test a b = .val v) : v.kind = .bool := by
  unfold viaCompare at hv
  split at hv <;> cases hv
  rfl

theorem viaCompare_val (hT : wf T = true) (test : Ord4 → Bool) (a b : Val F) :
    ∃ v, viaCompare P T test a b = .val v := by
  obtain ⟨o, ho⟩ := looseCompare_some P hT a b
  exact ⟨_, viaCompare_of P ho test⟩

theorem cmp_range (a b : Val F) (v : Val F) (hv : cmp P T a b = .val v) :
    v = .int (BitVec.ofInt 64 (-1)) ∨ v = .int 0#64 ∨ v = .int 1#64 := by
  unfold cmp at hv
  split at hv <;> cases hv
  rename_i o _
  cases o
  · exact .inl rfl
  · exact .inr (.inl rfl)
  · exact .inr (.inr rfl)
  · exact .inr (.inl rfl)

theorem eval_always_value (hT : wf T = true) (op : BinOp) (same : Bool) (a b : Val F)
    (h : Spec.Ops.alwaysValue op = true) : ∃ v, eval P T op same a b = .val v := by
  cases op <;> cases h
  case eq | ne =>
    cases same
    · exact viaCompare_val P hT _ a b
    · exact ⟨_, rfl⟩
  case seq | sne | dot => exact ⟨_, rfl⟩
  case lt | le | gt | ge => exact viaCompare_val P hT _ a b
  case cmp =>
    obtain ⟨o, ho⟩ := looseCompare_some P hT a b
    exact ⟨_, by rw [eval, cmp, ho]⟩
  case land => exact ⟨_, land_wf P hT a b⟩
  case lor => exact ⟨_, lor_wf P hT a b⟩

theorem map_mkBool_kind {α : Type} {o : Option α} {g : α → Bool} {v : Val F}
    (hs : o.map (fun e => (Spec.Ops.mkBool (g e) : Res F)) = some (.val v)) : v.kind = .bool := by
  cases o <;> cases hs
  rfl

theorem bitop_kind (f : BitVec 64 → BitVec 64 → BitVec 64) (a b v : Val F)
    (hs : Spec.Ops.bitop f a b = some (.val v)) : v.kind = .int := by
  unfold Spec.Ops.bitop at hs
  split at hs <;> cases hs
  rfl

theorem spec_shift_yields (l : Bool) (a b : Val F) (r : Res F)
    (hs : Spec.Ops.shift l a b = some r) : Yields (· == .int) r := by
  unfold Spec.Ops.shift at hs
  split at hs <;> cases hs
  exact .ite (.err _) (.ite (.ite (.val _ rfl) (.val _ rfl)) (.ite (.val _ rfl) (.val _ rfl)))

theorem spec_quo_yields (a b : Val F) (r : Res F) (hs : Spec.Ops.quo P a b = some r) : Yields (· == .float) r := by
  unfold Spec.Ops.quo at hs
  split at hs <;> cases hs
  exact .ite (.err _) (.val _ rfl)

end
end Proofs.Ops
