import Model.Ops
import Spec.Ops
import Proofs.Lemmas.Ops
/-! C03: lemmas for the exactness of `Model.Ops` against `Spec.Ops` (`C03_exact`).

`Spec.Ops` is partial, and each documented operator accepts a small set of operand shapes
(`bothInt`, `bothStr`, `toF`, `render`). The shape is recovered from the hypothesis that the
specification answers, after which the operator node is evaluated on those few shapes only. -/
namespace Proofs.Ops
open Model.Ops
section
variable {F : Type} (P : Prim F) {T : TruthTable}

theorem exact_arith {zop : Int → Int → Int} {fop : F → F → F} {bop : BitVec 64 → BitVec 64 → BitVec 64}
    {m : Val F → Val F → Res F}
    (hw : ∀ x y, Spec.Ops.wrap (zop x.toInt y.toInt) = bop x y)
    {a b : Val F} {r : Res F} (hs : Spec.Ops.arith P zop fop a b = some r)
    -- what the node `m` does on the four number shapes; left out at a call, each is checked there by `rfl`
    (hii : ∀ x y, m (.int x) (.int y) = .val (.int (bop x y)) := by intros; rfl)
    (hif : ∀ x y, m (.int x) (.float y) = .val (.float (fop (P.ofInt x) y)) := by intros; rfl)
    (hfi : ∀ x y, m (.float x) (.int y) = .val (.float (fop x (P.ofInt y))) := by intros; rfl)
    (hff : ∀ x y, m (.float x) (.float y) = .val (.float (fop x y)) := by intros; rfl) : m a b = r := by
  unfold Spec.Ops.arith at hs
  split at hs
  · rename_i x y hxy
    obtain ⟨rfl, rfl⟩ := bothInt_some hxy
    cases hs
    rw [hii, hw]
  · rename_i hno
    split at hs
    · rename_i x y hx hy
      cases hs
      rcases toF_some P hx with ⟨i, rfl, rfl⟩ | rfl <;> rcases toF_some P hy with ⟨j, rfl, rfl⟩ | rfl
      · cases hno
      · exact hif _ _
      · exact hfi _ _
      · exact hff _ _
    · cases hs

theorem rem_int (x y : BitVec 64) :
    rem P (.int x) (.int y) =
      if y.toInt = 0 then .err .divZero else .val (.int (Spec.Ops.wrap (x.toInt.tmod y.toInt))) := by
  simp only [toInt_eq_zero, wrap_srem]
  rfl

theorem rem_float (h_zero_toInt : ∀ z : F, P.eq z P.zero = true → P.toInt z = 0#64) (x y : F) :
    rem P (.float x) (.float y) =
      if (P.toInt y).toInt = 0 then .err .divZero
      else .val (.float (P.ofInt (Spec.Ops.wrap ((P.toInt x).toInt.tmod (P.toInt y).toInt)))) := by
  have hz : (P.eq y P.zero || P.toInt y == 0#64) = (P.toInt y == 0#64) := by
    cases h : P.eq y P.zero
    · rfl
    · rw [h_zero_toInt y h]; rfl
  simp only [toInt_eq_zero, wrap_srem]
  rw [← hz]
  rfl

theorem exact_bitop {f : BitVec 64 → BitVec 64 → BitVec 64} {m : Val F → Val F → Res F}
    {a b : Val F} {r : Res F} (hs : Spec.Ops.bitop f a b = some r)
    (hm : ∀ x y, m (.int x) (.int y) = .val (.int (f x y)) := by intros; rfl) : m a b = r := by
  unfold Spec.Ops.bitop at hs
  split at hs
  · rename_i x y hxy
    obtain ⟨rfl, rfl⟩ := bothInt_some hxy
    cases hs
    exact hm x y
  · cases hs

theorem shiftWith_int (f : BitVec 64 → Nat → BitVec 64) (x n : BitVec 64) :
    shiftWith P f (.int x) (.int n) =
      if n.toInt < 0 then .err .negShift else .val (.int (f x n.toInt.toNat)) := by
  simp only [shiftWith, operandAsInt, asIntI, BitVec.slt_eq_decide, BitVec.toInt_zero, decide_eq_true_eq]
  split
  · rfl
  · rename_i h; rw [toNat_of_nonneg n h]

theorem shl_cap (x : BitVec 64) (z : Int) :
    x <<< min z.toNat 64 = if 64 ≤ z then Spec.Ops.wrap 0 else Spec.Ops.wrap (x.toInt * 2 ^ z.toNat) := by
  split
  · rw [Nat.min_eq_right (by omega), BitVec.shiftLeft_eq_zero (Nat.le_refl 64)]; rfl
  · rw [Nat.min_eq_left (by omega), wrap_shl]

theorem sshr64 (x : BitVec 64) : x.sshiftRight 64 = Spec.Ops.wrap (if x.toInt < 0 then -1 else 0) := by
  rw [← wrap_shr]
  have h1 := BitVec.toInt_lt (x := x)
  have h2 := BitVec.le_toInt (x := x)
  congr 1
  split <;> omega

theorem shr_cap (x : BitVec 64) (z : Int) :
    x.sshiftRight (min z.toNat 64) =
      if 64 ≤ z then Spec.Ops.wrap (if x.toInt < 0 then -1 else 0) else Spec.Ops.wrap (x.toInt / 2 ^ z.toNat) := by
  split
  · rw [Nat.min_eq_right (by omega), sshr64]
  · rw [Nat.min_eq_left (by omega), wrap_shr]

theorem strictEq_spec {a b : Val F} {e : Bool} (h : Spec.Ops.strictEq P a b = some e) :
    strictEq P false a b = e := by
  revert h
  fun_cases Spec.Ops.strictEq P a b
  case case6 hsc h1 h2 h3 h4 h5 =>
    -- scalars of different kinds: `isStrictEqual` has the same five like-with-like arms, then answers false
    rw [if_pos hsc]; intro h; cases h
    fun_cases strictEq P false a b
    -- the model's arms in its order: int, float, bool, str, null (the specification has str before bool, hence
    -- `h4` at `case3`, `h3` at `case4`); 6–8 are the arr / obj / cls pairs, no scalars (`hsc`); 9 is the catch-all
    case case1 => exact (h1 _ _ rfl rfl).elim
    case case2 => exact (h2 _ _ rfl rfl).elim
    case case3 => exact (h4 _ _ rfl rfl).elim
    case case4 => exact (h3 _ _ rfl rfl).elim
    case case5 => exact (h5 rfl rfl).elim
    case case9 => rfl
    all_goals cases hsc
  case case7 hsc _ _ _ _ _ => rw [if_neg hsc]; nofun
  all_goals intro h; cases h; rfl

theorem render_dotStr {a : Val F} {x : Str} (h : Spec.Ops.render P a = some x) : dotStr P a = x := by
  cases a <;> cases h <;> rfl

theorem dot_render {a b : Val F} {x y : Str} (ha : Spec.Ops.render P a = some x) (hb : Spec.Ops.render P b = some y) :
    dot P a b = .val (.str (x ++ y)) := by
  rw [dot, render_dotStr P ha, render_dotStr P hb]

end
end Proofs.Ops
