import Model.Prec
/-! The table-driven parser as a relation: `Parses T k ts e R` when some fuel lets level `k` read `e`
off `ts` and leave `R`. Fuel monotonicity (information order `oof ≤ anything`) turns every branch of
`parse`/`loopL` into a rule of that relation; fuel reappears in the one fact used in the other direction,
from a run to what was read (`not_reads_op`). -/
namespace Proofs.Prec
open Model.Prec

def Res.le (a b : Res) : Prop := a = .oof ∨ a = b

theorem Res.le_refl (a : Res) : Res.le a a := Or.inr rfl

theorem Res.le.ok {a b : Res} {e r} (h : Res.le a b) (ha : a = .ok e r) : b = .ok e r := by
  rcases h with h | h
  · rw [ha] at h; cases h
  · rw [← h, ha]

theorem Res.bind_le {a b : Res} {k k' : Expr → List Tok → Res}
    (h : Res.le a b) (hk : ∀ e r, Res.le (k e r) (k' e r)) : Res.le (a.bind k) (b.bind k') := by
  rcases h with h | h
  · left; rw [h]; rfl
  · subst h
    cases a with
    | ok e r => exact hk e r
    | fail => exact Res.le_refl _
    | oof => exact Res.le_refl _

theorem Res.bind_le_left {a b : Res} {k : Expr → List Tok → Res} (h : Res.le a b) :
    Res.le (a.bind k) (b.bind k) := Res.bind_le h (fun _ _ => Res.le_refl _)

theorem primary_mono {r r' : List Tok → Res} (h : ∀ ts, Res.le (r ts) (r' ts)) (ts : List Tok) :
    Res.le (primary r ts) (primary r' ts) := by
  unfold primary
  split
  · exact Res.le_refl _
  · exact Res.bind_le_left (h _)
  · exact Res.le_refl _

theorem ternRest_mono {sep q : Nat} {c t : Expr} {r r' : List Tok → Res}
    (h : ∀ ts, Res.le (r ts) (r' ts)) (ts : List Tok) :
    Res.le (ternRest sep r q c t ts) (ternRest sep r' q c t ts) := by
  unfold ternRest
  split
  · split
    · exact Res.bind_le_left (h _)
    · exact Res.le_refl _
  · exact Res.le_refl _

theorem mono_step (T : Table) : ∀ f,
    (∀ k ts, Res.le (parse T f k ts) (parse T (f+1) k ts)) ∧
    (∀ k ops l ts, Res.le (loopL T f k ops l ts) (loopL T (f+1) k ops l ts)) := by
  intro f
  induction f with
  | zero => exact ⟨fun _ _ => Or.inl (by rw [parse]), fun _ _ _ _ => Or.inl (by rw [loopL])⟩
  | succ f ih =>
    obtain ⟨ihp, ihl⟩ := ih
    constructor
    · intro k ts
      rw [parse, parse]
      split
      · exact primary_mono (fun ts' => ihp 0 ts') ts                  -- beyond the table
      · split
        · exact Res.bind_le (ihp _ _) (fun _ _ => ihl _ _ _ _)        -- `binL`
        · apply Res.bind_le (ihp _ _)                                -- `binR`
          intro l rest
          split
          · exact Res.bind_le_left (ihp _ _)
          · exact Res.le_refl _
        · split                                                      -- `prefix`: own operator / re-entry
          · exact Res.bind_le_left (ihp _ _)
          · apply Res.bind_le (ihp _ _)
            intro e rest
            split
            · exact Res.bind_le_left (ihp _ _)
            · exact Res.le_refl _
        · apply Res.bind_le (ihp _ _)                                -- `tern`
          intro c rest
          split
          · exact Res.bind_le (ihp _ _) (fun _ _ => ternRest_mono (fun ts' => ihp k ts') _)
          · exact Res.le_refl _
    · intro k ops l ts
      rw [loopL, loopL]
      split
      · exact Res.bind_le (ihp _ _) (fun _ _ => ihl _ _ _ _)
      · exact Res.le_refl _

theorem parse_mono_le (T : Table) {f f' k ts e r} (h : parse T f k ts = .ok e r) (hle : f ≤ f') :
    parse T f' k ts = .ok e r := by
  induction hle with
  | refl => exact h
  | step _ ih => exact ((mono_step T _).1 k ts).ok ih

theorem loopL_mono_le (T : Table) {f f' k ops l ts e r} (h : loopL T f k ops l ts = .ok e r) (hle : f ≤ f') :
    loopL T f' k ops l ts = .ok e r := by
  induction hle with
  | refl => exact h
  | step _ ih => exact ((mono_step T _).2 k ops l ts).ok ih

theorem levelAt_none_add {T : Table} {k d : Nat} (h : levelAt T k = none) : levelAt T (k + d) = none :=
  List.getElem?_eq_none (Nat.le_trans (List.getElem?_eq_none_iff.mp h) (Nat.le_add_right k d))

/-- induction down the table: beyond it, and from `k+1` to `k` -/
theorem level_down {T : Table} {P : Nat → Prop} (base : ∀ k, levelAt T k = none → P k)
    (step : ∀ k L, levelAt T k = some L → P (k+1) → P k) (k : Nat) : P k := by
  generalize hd : T.levels.length - k = d
  induction d generalizing k with
  | zero => exact base k (List.getElem?_eq_none (Nat.le_of_sub_eq_zero hd))
  | succ d ih =>
    cases hL : levelAt T k with
    | none => exact base k hL
    | some L => exact step k L hL (ih (k+1) (by rw [Nat.sub_add_eq, hd]; rfl))

theorem headOp_self {ops : List Nat} {o : Nat} {R : List Tok} (h : o ∈ ops) :
    headOp ops (.op o :: R) = some (o, R) := by simp [headOp, h]

theorem headOp_not {ops : List Nat} {o : Nat} {R : List Tok} (h : o ∉ ops) :
    headOp ops (.op o :: R) = none := by simp [headOp, h]

theorem bind_ok {e R k} : (Res.ok e R).bind k = k e R := rfl

theorem Res.ok_of_bind {a : Res} {k : Expr → List Tok → Res} {e R} (h : a.bind k = .ok e R) :
    ∃ e' R', a = .ok e' R' := by
  cases a with
  | ok e' R' => exact ⟨e', R', rfl⟩
  | _ => cases h

theorem parse_prim {T : Table} {f k ts} (h : levelAt T k = none) :
    parse T (f+1) k ts = primary (fun ts' => parse T f 0 ts') ts := by
  rw [parse]; simp [h]

def Parses (T : Table) (k : Nat) (ts : List Tok) (e : Expr) (R : List Tok) : Prop :=
  ∃ f, parse T f k ts = .ok e R

/-- the loop of a left-associative level `k`, entered with `l` already read -/
def Loops (T : Table) (k : Nat) (ops : List Nat) (l : Expr) (ts : List Tok) (e : Expr) (R : List Tok) : Prop :=
  ∃ f, loopL T f k ops l ts = .ok e R

variable {T : Table} {k : Nat} {L : Level} {ts rest R : List Tok} {e l r : Expr} {o : Nat}

theorem Parses.atom {n : Nat} (hL : levelAt T k = none) : Parses T k (.atom n :: R) (.atom n) R :=
  ⟨1, by rw [parse_prim hL]; rfl⟩

theorem Parses.paren (hL : levelAt T k = none) (h : Parses T 0 ts e (.rp :: R)) :
    Parses T k (.lp :: ts) e R := by
  obtain ⟨f, hf⟩ := h
  exact ⟨f + 1, by rw [parse_prim hL]; simp only [primary]; rw [hf]; rfl⟩

/-- beyond the table every level is `primary` -/
theorem Parses.beyond (hL : levelAt T k = none) (h : Parses T (k+1) ts e R) : Parses T k ts e R := by
  obtain ⟨f, hf⟩ := h
  cases f with
  | zero => rw [parse] at hf; cases hf
  | succ f => exact ⟨f + 1, by rw [parse_prim hL, ← parse_prim (levelAt_none_add hL)]; exact hf⟩

theorem Loops.done {ops : List Nat} (h : headOp ops ts = none) : Loops T k ops l ts l ts :=
  ⟨1, by rw [loopL]; simp only [h]⟩

theorem Loops.step {ops : List Nat} {rest' : List Tok} (ho : o ∈ ops) (h1 : Parses T (k+1) rest r rest')
    (h2 : Loops T k ops (.bin o l r) rest' e R) : Loops T k ops l (.op o :: rest) e R := by
  obtain ⟨f1, h1⟩ := h1
  obtain ⟨f2, h2⟩ := h2
  refine ⟨max f1 f2 + 1, ?_⟩
  rw [loopL]
  simp only [headOp_self ho]
  rw [parse_mono_le T h1 (Nat.le_max_left _ _), bind_ok]
  exact loopL_mono_le T h2 (Nat.le_max_right _ _)

theorem Parses.binL (hL : levelAt T k = some L) (hs : L.shape = .binL) (h1 : Parses T (k+1) ts l rest)
    (h2 : Loops T k L.ops l rest e R) : Parses T k ts e R := by
  obtain ⟨f1, h1⟩ := h1
  obtain ⟨f2, h2⟩ := h2
  refine ⟨max f1 f2 + 1, ?_⟩
  rw [parse]
  simp only [hL, hs]
  rw [parse_mono_le T h1 (Nat.le_max_left _ _), bind_ok]
  exact loopL_mono_le T h2 (Nat.le_max_right _ _)

theorem Parses.binR (hL : levelAt T k = some L) (hs : L.shape = .binR) (ho : o ∈ L.ops)
    (h1 : Parses T (k+1) ts l (.op o :: rest)) (h2 : Parses T k rest r R) : Parses T k ts (.bin o l r) R := by
  obtain ⟨f1, h1⟩ := h1
  obtain ⟨f2, h2⟩ := h2
  refine ⟨max f1 f2 + 1, ?_⟩
  rw [parse]
  simp only [hL, hs]
  rw [parse_mono_le T h1 (Nat.le_max_left _ _), bind_ok]
  simp only [headOp_self ho]
  rw [parse_mono_le T h2 (Nat.le_max_right _ _), bind_ok]

theorem Parses.tern {q : Nat} {c t f : Expr} {r1 r2 : List Tok} (hL : levelAt T k = some L)
    (hs : L.shape = .tern) (hq : q ∈ L.ops) (h1 : Parses T (k+1) ts c (.op q :: r1))
    (h2 : Parses T k r1 t (.op L.sep :: r2)) (h3 : Parses T k r2 f R) : Parses T k ts (.tern q c t f) R := by
  obtain ⟨f1, h1⟩ := h1
  obtain ⟨f2, h2⟩ := h2
  obtain ⟨f3, h3⟩ := h3
  refine ⟨max f1 (max f2 f3) + 1, ?_⟩
  rw [parse]
  simp only [hL, hs]
  rw [parse_mono_le T h1 (Nat.le_max_left _ _), bind_ok]
  simp only [headOp_self hq]
  rw [parse_mono_le T h2 (Nat.le_trans (Nat.le_max_left _ _) (Nat.le_max_right _ _)), bind_ok]
  simp only [ternRest, if_true]
  rw [parse_mono_le T h3 (Nat.le_trans (Nat.le_max_right _ _) (Nat.le_max_right _ _)), bind_ok]

theorem Parses.un (hL : levelAt T k = some L) (hs : L.shape = .prefix) (ho : o ∈ L.ops)
    (h : Parses T k rest e R) : Parses T k (.op o :: rest) (.un o e) R := by
  obtain ⟨f, hf⟩ := h
  refine ⟨f + 1, ?_⟩
  rw [parse]
  simp only [hL, hs, headOp_self ho]
  rw [hf, bind_ok]

theorem Parses.reenter (hL : levelAt T k = some L) (hs : L.shape = .prefix) (hh : headOp L.ops ts = none)
    (ho : o ∈ reenterOps T) (h1 : Parses T (k+1) ts l (.op o :: rest))
    (h2 : Parses T (reenterLevel T) rest r R) : Parses T k ts (.bin o l r) R := by
  obtain ⟨f1, h1⟩ := h1
  obtain ⟨f2, h2⟩ := h2
  refine ⟨max f1 f2 + 1, ?_⟩
  rw [parse]
  simp only [hL, hs, hh]
  rw [parse_mono_le T h1 (Nat.le_max_left _ _), bind_ok]
  simp only [headOp_self ho]
  rw [parse_mono_le T h2 (Nat.le_max_right _ _), bind_ok]

theorem Parses.pass (hL : levelAt T k = some L) (hs : L.shape ≠ .prefix) (hR : headOp L.ops R = none)
    (h : Parses T (k+1) ts e R) : Parses T k ts e R := by
  cases hsh : L.shape with
  | binL => exact h.binL hL hsh (Loops.done hR)
  | «prefix» => exact absurd hsh hs
  | _ =>
    obtain ⟨f, hf⟩ := h
    exact ⟨f + 1, by rw [parse]; simp only [hL, hsh]; rw [hf, bind_ok]; simp only [hR]⟩

theorem Parses.pass_prefix (hL : levelAt T k = some L) (hs : L.shape = .prefix) (hh : headOp L.ops ts = none)
    (hR : headOp (reenterOps T) R = none) (h : Parses T (k+1) ts e R) : Parses T k ts e R := by
  obtain ⟨f, hf⟩ := h
  refine ⟨f + 1, ?_⟩
  rw [parse]
  simp only [hL, hs, hh]
  rw [hf, bind_ok]
  simp only [hR]

theorem not_reads_op : ∀ {f j e R},
    (∀ p L, j ≤ p → levelAt T p = some L → L.shape = .prefix → o ∉ L.ops) →
    parse T f j (.op o :: rest) ≠ .ok e R := by
  intro f
  induction f with
  | zero => intro j e R _ h; rw [parse] at h; cases h
  | succ f ih =>
    intro j e R hno h
    -- every branch but the prefix operator's own starts by calling the next level
    have up : ∀ {K e R}, (parse T f (j+1) (.op o :: rest)).bind K ≠ .ok e R := fun h' =>
      let ⟨_, _, h''⟩ := Res.ok_of_bind h'
      ih (fun p L hp => hno p L (Nat.le_of_succ_le hp)) h''
    rw [parse] at h
    cases hL : levelAt T j with
    | none => rw [hL] at h; cases h
    | some L =>
      rw [hL] at h
      cases hs : L.shape with
      | «prefix» =>
        simp only [hs, headOp_not (hno j L (Nat.le_refl j) hL hs)] at h
        exact up h
      | _ => simp only [hs] at h; exact up h

end Proofs.Prec
