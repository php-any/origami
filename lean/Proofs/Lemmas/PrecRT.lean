import Proofs.Lemmas.PrecParses
/-! Round trip of the table-driven parser: for every well-formed table, printing a tree with
any choice of redundant parentheses and parsing it gives the tree back. -/
namespace Proofs.Prec
open Model.Prec

structure WF (T : Table) : Prop where
  /-- a continuation operator (binary, `?`) belongs to exactly one non-prefix level -/
  uniqC : ∀ o j L, levelAt T j = some L → L.shape ≠ .prefix → o ∈ L.ops → levelOfC T o = j
  uniqP : ∀ o j L, levelAt T j = some L → L.shape = .prefix → o ∈ L.ops → levelOfP T o = j
  /-- the `:` of a ternary is no continuation operator -/
  sepFree : ∀ j L, levelAt T j = some L → L.shape = .tern →
    ∀ i L', levelAt T i = some L' → L'.shape ≠ .prefix → L.sep ∉ L'.ops
  /-- the re-entered level exists and is right-associative: a successful re-entry leaves no operator of that
  level behind, which is why `Model.Prec.parse` takes the re-entry once where the Go code has a loop -/
  reenterOK : ∀ a, T.reenter = some a → ∃ L, levelAt T a = some L ∧ L.shape = .binR

/-- the trees the table can print; the left operand of a re-entry (assignment) operator is an atom (a variable) -/
def InLang (T : Table) : Expr → Prop
  | .atom _ => True
  | .bin o l r => ∃ L, levelAt T (levelOfC T o) = some L ∧ o ∈ L.ops ∧ (L.shape = .binL ∨ L.shape = .binR) ∧
      InLang T l ∧ InLang T r ∧ (T.reenter = some (levelOfC T o) → ∃ n, l = .atom n)
  | .un o e => ∃ L, levelAt T (levelOfP T o) = some L ∧ o ∈ L.ops ∧ L.shape = .prefix ∧ InLang T e
  | .tern q c t f => ∃ L, levelAt T (levelOfC T q) = some L ∧ q ∈ L.ops ∧ L.shape = .tern ∧
      InLang T c ∧ InLang T t ∧ InLang T f

/-- what may follow a complete sub-expression parsed at level `k` -/
structure Follow (T : Table) (k : Nat) (R : List Tok) : Prop where
  cont : ∀ j L, k ≤ j → levelAt T j = some L → L.shape ≠ .prefix → headOp L.ops R = none
  /-- no re-entry (assignment) operator heads `R` -/
  asg : headOp (reenterOps T) R = none

theorem Follow.mono {T k k' R} (h : Follow T k R) (hk : k ≤ k') : Follow T k' R :=
  ⟨fun j L hj => h.cont j L (Nat.le_trans hk hj), h.asg⟩

theorem Follow.of_head {T k R} (h : ∀ ops, headOp ops R = none) : Follow T k R := ⟨fun _ L _ _ _ => h L.ops, h _⟩

theorem reenterOps_of {T : Table} {a : Nat} {L : Level} (h : T.reenter = some a) (hL : levelAt T a = some L) :
    reenterOps T = L.ops := by simp [reenterOps, h, hL]

theorem not_reenter {T : Table} (wf : WF T) {j : Nat} {L : Level} (hL : levelAt T j = some L)
    (hs : L.shape ≠ .binR) : T.reenter ≠ some j := by
  intro h
  obtain ⟨La, hLa, hsa⟩ := wf.reenterOK j h
  rw [hL] at hLa; cases hLa; exact hs hsa

theorem asg_none {T : Table} (wf : WF T) {o : Nat} {R : List Tok}
    (h : ∀ a La, T.reenter = some a → levelAt T a = some La → La.shape ≠ .prefix → o ∉ La.ops) :
    headOp (reenterOps T) (.op o :: R) = none := by
  cases hr : T.reenter with
  | none => simp [reenterOps, hr, headOp]
  | some a =>
    obtain ⟨La, hLa, hsa⟩ := wf.reenterOK a hr
    rw [reenterOps_of hr hLa]
    exact headOp_not (h a La hr hLa (by rw [hsa]; decide))

theorem follow_op {T : Table} (wf : WF T) {o m R} {Lm : Level} (hL : levelAt T m = some Lm)
    (hs : Lm.shape ≠ .prefix) (ho : o ∈ Lm.ops) (hre : T.reenter ≠ some m) :
    Follow T (m+1) (.op o :: R) := by
  have hlev := wf.uniqC o m Lm hL hs ho
  refine ⟨?_, asg_none wf ?_⟩
  · intro j L hj hLj hsj
    apply headOp_not
    intro hin
    rw [← wf.uniqC o j L hLj hsj hin, hlev] at hj
    exact Nat.lt_irrefl _ hj
  · intro a La hr hLa hsa hin
    rw [hr, ← wf.uniqC o a La hLa hsa hin, hlev] at hre
    exact hre rfl

theorem follow_sep {T : Table} (wf : WF T) {j k R} {L : Level} (hL : levelAt T j = some L) (hs : L.shape = .tern) :
    Follow T k (.op L.sep :: R) :=
  ⟨fun i L' _ hL' hs' => headOp_not (wf.sepFree j L hL hs i L' hL' hs'),
   asg_none wf fun a La _ hLa hsa => wf.sepFree j L hL hs a La hLa hsa⟩

/-- an operator is listed by one prefix level, and a text that starts with it is read only through that level -/
theorem no_prefix_head {T : Table} (wf : WF T) {k ts e R} {L : Level} (hL : levelAt T k = some L)
    (hs : L.shape = .prefix) (h : Parses T (k+1) ts e R) : headOp L.ops ts = none := by
  cases ts with
  | nil => rfl
  | cons t rest =>
    cases t with
    | op o =>
      apply headOp_not
      intro ho
      obtain ⟨f, hf⟩ := h
      refine not_reads_op (fun p L' hp hL' hs' ho' => ?_) hf
      rw [← wf.uniqP o k L hL hs ho, wf.uniqP o p L' hL' hs' ho'] at hp
      exact Nat.lt_irrefl _ hp
    | _ => rfl

theorem climb1 {T : Table} (wf : WF T) {k ts e R} (hF : Follow T k R)
    (h : Parses T (k+1) ts e R) : Parses T k ts e R := by
  cases hL : levelAt T k with
  | none => exact h.beyond hL
  | some L =>
    by_cases hs : L.shape = .prefix
    · exact h.pass_prefix hL hs (no_prefix_head wf hL hs h) hF.asg
    · exact h.pass hL hs (hF.cont k L (Nat.le_refl _) hL hs)

theorem climb {T : Table} (wf : WF T) {k j : Nat} (hkj : k ≤ j) {ts e R}
    (h : Parses T j ts e R) (hF : Follow T k R) : Parses T k ts e R := by
  induction hkj with
  | refl => exact h
  | step hkm ih => exact ih (climb1 wf (hF.mono hkm) h)

/-- what every level beyond the table reads (an atom, a parenthesis) every level `k` reads, given `Follow T k R` -/
theorem Parses.of_primary {T : Table} (wf : WF T) {ts e R} (h : ∀ k, levelAt T k = none → Parses T k ts e R)
    (k : Nat) : Follow T k R → Parses T k ts e R := by
  induction k using level_down (T := T) with
  | base k hL => intro _; exact h k hL
  | step k L _ ih => intro hF; exact climb1 wf hF (ih (hF.mono (Nat.le_succ k)))

theorem paren_true_append (ts R : List Tok) : paren true ts ++ R = .lp :: (ts ++ .rp :: R) := by
  simp [paren]

/-- the context `k` enters `pr` only through `lvl T e < k` (`wrap` reasons on `paren (decide (j < k) || c)` itself) -/
theorem pr_ctx (T : Table) (X) (e : Expr) (k k' : Nat) (h : X e = true ∨ (lvl T e < k ↔ lvl T e < k')) :
    pr T X k e = pr T X k' e := by
  have hb : (decide (lvl T e < k) || X e) = (decide (lvl T e < k') || X e) := by
    rcases h with h | h
    · rw [h, Bool.or_true, Bool.or_true]
    · rw [decide_eq_decide.mpr h]
  cases e with
  | atom n => rfl
  | _ => exact congrArg (paren · _) hb

/-- The continuation of level `k`: what it may still do once level `k+1` has read `e` and left `R`. Either nothing
(`idle`: nothing follows that it would take) or, at a left-associative level, further rounds of its loop from the
accumulator `e` (`loop`). No other continuation can be admitted: a loop does not remember whether its accumulator came
from below or from an earlier round, every other level does (handed `b ** c` before `** d`, a right-associative level
answers `(b ** c) ** d`, while the text `b ** c ** d` reads `b ** (c ** d)`). -/
inductive Goes (T : Table) (k : Nat) (e : Expr) (R : List Tok) : Expr → List Tok → Prop
  | idle : Follow T k R → Goes T k e R e R
  | loop {L : Level} {e' : Expr} {R' : List Tok} : levelAt T k = some L → L.shape = .binL → Follow T (k+1) R →
      Loops T k L.ops e R e' R' → Goes T k e R e' R'

/-- The text `t k`, made for context `k`, is read as `e` at level `k`, whatever that level then goes on to do.
With `idle` alone (the text reads back) the induction over trees fails: the bare left operand of a `binL` node is not
read as a whole and handed over, the loop of the node's level consumes it, so the left child is needed under `loop`. -/
def Reads (T : Table) (t : Nat → List Tok) (e : Expr) : Prop :=
  ∀ k R e' R', Goes T k e R e' R' → Parses T k (t k ++ R) e' R'

section
variable {T : Table} {e e' : Expr} {k j : Nat} {b ts R R' : List Tok} {c : Bool} {t : Nat → List Tok}

theorem Goes.follow (g : Goes T k e R e' R') : Follow T (k+1) R := by
  cases g with
  | idle hF => exact hF.mono (Nat.le_succ k)
  | loop _ _ hF _ => exact hF

theorem Goes.finish (wf : WF T) (g : Goes T k e R e' R') (h : Parses T (k+1) ts e R) : Parses T k ts e' R' := by
  cases g with
  | idle hF => exact climb1 wf hF h
  | loop hL hs _ hl => exact Parses.binL hL hs h hl

theorem Reads.back (h : Reads T t e) (hF : Follow T k R) : Parses T k (t k ++ R) e R := h k R e R (.idle hF)

/-- Any level `k` other than `j` has the whole text read by level `k+1`, a parenthesis as a primary, a bare text
by `climb`, and finishes. -/
theorem wrap (wf : WF T) (own : ∀ R e' R', Goes T j e R e' R' → Parses T j (b ++ R) e' R') :
    Reads T (fun k => paren (decide (j < k) || c) b) e := by
  intro k R e' R' g
  show Parses T k (paren (decide (j < k) || c) b ++ R) e' R'
  have core : ∀ R, Follow T j R → Parses T j (b ++ R) e R := fun R hF => own R e R (.idle hF)
  cases hb : (decide (j < k) || c) with
  | true =>
    rw [paren_true_append]
    exact g.finish wf (.of_primary wf (fun _ hk => Parses.paren hk
      (climb wf (Nat.zero_le _) (core _ (.of_head fun _ => rfl)) (.of_head fun _ => rfl))) (k+1) g.follow)
  | false =>
    rcases Nat.lt_or_eq_of_le (Nat.le_of_not_lt (of_decide_eq_false (Bool.or_eq_false_iff.mp hb).1)) with hlt | rfl
    · exact g.finish wf (climb wf hlt (core R (g.follow.mono hlt)) g.follow)
    · exact own R e' R' g

variable (wf : WF T) {Lo : Level} (hLo : levelAt T j = some Lo)
include wf hLo

theorem wrap_closed (hne : Lo.shape ≠ .binL) (core : ∀ R, Follow T j R → Parses T j (b ++ R) e R) :
    Reads T (fun k => paren (decide (j < k) || c) b) e :=
  wrap wf fun R e' R' g => by
    cases g with
    | idle hF => exact core R hF
    | loop hL hs _ _ => rw [hLo] at hL; cases hL; exact absurd hs hne

/-- that the level reads the text is the case of a loop that stops at once -/
theorem wrap_open (hs : Lo.shape = .binL)
    (hopen : ∀ R e' R', Follow T (j + 1) R → Loops T j Lo.ops e R e' R' → Parses T j (b ++ R) e' R') :
    Reads T (fun k => paren (decide (j < k) || c) b) e :=
  wrap wf fun R e' R' g => hopen R e' R' g.follow <| by
    cases g with
    | idle hF => exact Loops.done (hF.cont _ Lo (Nat.le_refl _) hLo (by rw [hs]; decide))
    | loop hL _ _ hl => rw [hLo] at hL; cases hL; exact hl

end

section
variable {T : Table} {X : Expr → Bool} {e : Expr}

/-- `$a = …` at the assignment level `m`: the atom is taken by the re-entry of a prefix level
(`parseUnary`) if there is one above `m`, by level `m` itself if not -/
theorem asg_parse (wf : WF T) {m n o : Nat} {Lm : Level} {r : Expr} {rest' R : List Tok}
    (hLm : levelAt T m = some Lm) (hsm : Lm.shape = .binR) (ho : o ∈ Lm.ops) (hre : T.reenter = some m)
    (hr : Parses T m rest' r R) (hF : Follow T m R) :
    Parses T m (.atom n :: .op o :: rest') (.bin o (.atom n) r) R := by
  have hnp : Lm.shape ≠ .prefix := by rw [hsm]; decide
  have desc : ∀ k, m < k →
      Parses T k (.atom n :: .op o :: rest') (.bin o (.atom n) r) R ∨
      Parses T k (.atom n :: .op o :: rest') (.atom n) (.op o :: rest') := by
    intro k
    induction k using level_down (T := T) with
    | base k hL => intro _; exact Or.inr (.atom hL)
    | step k L hL ih =>
      intro hmk
      rcases ih (Nat.lt_succ_of_lt hmk) with h | h
      · exact Or.inl (climb1 wf (hF.mono (Nat.le_of_lt hmk)) h)
      · by_cases hs : L.shape = .prefix
        · left
          refine Parses.reenter hL hs rfl (by rw [reenterOps_of hre hLm]; exact ho) h ?_
          rw [reenterLevel, hre]; exact hr
        · right
          refine h.pass hL hs (headOp_not fun hin => ?_)
          rw [← wf.uniqC o k L hL hs hin, wf.uniqC o m Lm hLm hnp ho] at hmk
          exact Nat.lt_irrefl _ hmk
  rcases desc (m+1) (Nat.lt_succ_self m) with h | h
  · exact h.pass hLm hnp (hF.cont m Lm (Nat.le_refl _) hLm hnp)
  · exact Parses.binR hLm hsm ho h hr

theorem roundtrip_aux (wf : WF T) (X : Expr → Bool) : ∀ e, InLang T e → Reads T (pr T X · e) e := by
  intro e
  -- `pr T X k` of a node is `paren (decide (j < k) || X _) b` by definition: unfolding `pr` finds `j`, `b` of `wrap`;
  -- where `b` holds a `match` on the level's shape or its separator (`tern`, `bin`), `simp only` puts it in right-nested form
  induction e with
  | atom n =>
    exact fun _ k R e' R' g => g.finish wf (.of_primary wf (fun _ hk => Parses.atom hk) (k+1) g.follow)
  | un o e ihe =>
    intro hin
    obtain ⟨Lo, hLo, hmem, hso, hine⟩ := hin
    exact wrap_closed wf hLo (by rw [hso]; decide) fun R hF => Parses.un hLo hso hmem ((ihe hine).back hF)
  | tern q c t f ihc iht ihf =>
    intro hin
    obtain ⟨Lq, hLq, hmem, hsq, hinc, hint, hinf⟩ := hin
    have hnp : Lq.shape ≠ .prefix := by rw [hsq]; decide
    refine wrap_closed wf hLq (by rw [hsq]; decide) fun R hF => ?_
    simp only [sepAt, hLq, Option.map_some, Option.getD_some, List.append_assoc, List.singleton_append]
    exact Parses.tern hLq hsq hmem
      ((ihc hinc).back (follow_op wf hLq hnp hmem (not_reenter wf hLq (by rw [hsq]; decide))))
      ((iht hint).back (follow_sep wf hLq hsq)) ((ihf hinf).back hF)
  | bin o l r ihl ihr =>
    intro hin
    obtain ⟨Lm, hLm, hmem, hshape, hinl, hinr, hatom⟩ := hin
    rcases hshape with hsl | hsr
    · have hnp : Lm.shape ≠ .prefix := by rw [hsl]; decide
      -- reading `l` enters the loop, which reads `o r` and goes on from `(l o r, R)`
      refine wrap_open wf hLm hsl fun R e' R' hF hl => ?_
      simp only [shapeAt, hLm, hsl, Option.map_some, List.append_assoc, List.singleton_append]
      exact ihl hinl _ _ _ _ (.loop hLm hsl (follow_op wf hLm hnp hmem (not_reenter wf hLm (by rw [hsl]; decide)))
        (Loops.step hmem ((ihr hinr).back hF) hl))
    · have hnp : Lm.shape ≠ .prefix := by rw [hsr]; decide
      refine wrap_closed wf hLm (by rw [hsr]; decide) fun R hF => ?_
      simp only [shapeAt, hLm, hsr, Option.map_some, List.append_assoc, List.singleton_append]
      by_cases hre : T.reenter = some (levelOfC T o)
      · -- assignment: the left operand is an atom, which the re-entry may consume
        obtain ⟨n, rfl⟩ := hatom hre
        exact asg_parse wf hLm hsr hmem hre ((ihr hinr).back hF) hF
      · exact Parses.binR hLm hsr hmem ((ihl hinl).back (follow_op wf hLm hnp hmem hre)) ((ihr hinr).back hF)

theorem roundtrip_at (wf : WF T) (X : Expr → Bool) (h : InLang T e) {k : Nat} {R : List Tok}
    (hF : Follow T k R) : Parses T k (pr T X k e ++ R) e R :=
  (roundtrip_aux wf X e h).back hF

end

theorem roundtrip {T : Table} (wf : WF T) (X : Expr → Bool) (e : Expr) (h : InLang T e) :
    ∃ f, parse T f 0 (pr T X 0 e) = .ok e [] := by
  obtain ⟨f, hf⟩ := roundtrip_at wf X h (R := []) (.of_head fun _ => rfl)
  exact ⟨f, by rwa [List.append_nil] at hf⟩

theorem roundtrip_pair {T : Table} (wf : WF T) (e : Expr) (h : InLang T e) (X Y : Expr → Bool) :
    ∃ f, parse T f 0 (pr T X 0 e) = .ok e [] ∧ parse T f 0 (pr T Y 0 e) = .ok e [] := by
  obtain ⟨f1, h1⟩ := roundtrip wf X e h
  obtain ⟨f2, h2⟩ := roundtrip wf Y e h
  exact ⟨max f1 f2, parse_mono_le T h1 (Nat.le_max_left _ _), parse_mono_le T h2 (Nat.le_max_right _ _)⟩

end Proofs.Prec
