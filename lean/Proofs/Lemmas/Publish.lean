import Model.Publish
/-! Lemmas for `Model.Publish`: the object after `n` steps of its registrant, what an observation can lack. -/
namespace Proofs.Publish
open Model.Publish

theorem inits_append (a b : Prog) : inits (a ++ b) = inits a ++ inits b := by
  induction a with
  | nil => rfl
  | cons x r ih => cases x <;> simp [inits, ih]

theorem inits_map_init (l : List String) : inits (l.map .init) = l := by
  induction l with
  | nil => rfl
  | cons x r ih => simp [inits, ih]

theorem inits_take_drop (p : Prog) (n : Nat) : inits (p.take n) ++ inits (p.drop n) = inits p := by
  rw [← inits_append, List.take_append_drop]

def stepN : Nat → Obj → Obj
  | 0, o => o
  | n + 1, o => stepN n o.step

theorem stepN_eq (n : Nat) (r : Prog) (d : List String) (b : Bool) :
    stepN n ⟨r, d, b⟩ = ⟨r.drop n, d ++ inits (r.take n), b || (r.take n).contains .publish⟩ := by
  induction n generalizing r d b with
  | zero => simp [stepN, inits]
  | succ n ih =>
    cases r with
    | nil => simp [stepN, Obj.step, inits, ih]
    | cons x r =>
      cases x with
      | init f => simp [stepN, Obj.step, inits, ih]
      | publish => simp [stepN, Obj.step, inits, ih]

theorem stepN_step (n : Nat) (o : Obj) : stepN (n + 1) o = (stepN n o).step := by
  induction n generalizing o with
  | zero => rfl
  | succ n ih => simp only [stepN] at ih ⊢; rw [ih]

theorem look_stepN (p : Prog) (n : Nat) :
    (stepN n (Obj.start p)).look = if (p.take n).contains .publish then some (inits (p.take n)) else none := by
  simp [Obj.start, stepN_eq, Obj.look]

theorem drop_suffix_afterPub (p : Prog) (n : Nat) (h : (p.take n).contains .publish = true) :
    p.drop n <:+ afterPub p := by
  induction p generalizing n with
  | nil => simp at h
  | cons x r ih =>
    cases n with
    | zero => simp at h
    | succ k =>
      cases x with
      | publish => exact List.drop_suffix k r
      | init f => exact ih k (by simpa using h)

/-- An object seen after publication lacks at most writes that FOLLOW the publication. -/
theorem seen_lacks_post (p : Prog) (n : Nat) (h : (p.take n).contains .publish = true) :
    ∃ m, inits (p.take n) ++ m = inits p ∧ ∀ x ∈ m, x ∈ postWrites p := by
  obtain ⟨a, ha⟩ := drop_suffix_afterPub p n h
  exact ⟨inits (p.drop n), inits_take_drop p n, fun x hx => by
    rw [postWrites, ← ha, inits_append]; exact List.mem_append_right _ hx⟩

theorem eq_of_lacks_nil {α : Type} {h m fin post : List α} (hm : h ++ m = fin) (hsub : ∀ x ∈ m, x ∈ post)
    (hp : post = []) : h = fin := by
  subst hp
  have : m = [] := List.eq_nil_iff_forall_not_mem.mpr fun x hx => by cases hsub x hx
  rw [← hm, this, List.append_nil]

theorem postWrites_of_ok {p : Prog} (h : p.ok = true) : postWrites p = [] := by
  simpa [Prog.ok] using h

theorem pubIdx_spec (p : Prog) :
    p.drop (pubIdx p) = afterPub p ∧ (afterPub p ≠ [] → (p.take (pubIdx p)).contains .publish = true) := by
  -- the arms of `pubIdx`: empty program; `publish` first; a write first
  fun_induction pubIdx p with
  | case1 => exact ⟨rfl, fun h => absurd rfl h⟩
  | case2 r => exact ⟨rfl, fun _ => by simp⟩
  | case3 f r ih => exact ⟨ih.1, fun h => by simpa using ih.2 h⟩

theorem at_pubIdx (p : Prog) (h : postWrites p ≠ []) :
    (p.take (pubIdx p)).contains .publish = true ∧ inits (p.take (pubIdx p)) ++ postWrites p = inits p := by
  obtain ⟨h1, h2⟩ := pubIdx_spec p
  exact ⟨h2 fun e => h (by rw [postWrites, e]; rfl), by rw [postWrites, ← h1]; exact inits_take_drop p _⟩

def regCount (o : Nat) : List Ev → Nat
  | [] => 0
  | .reg k :: r => (if k = o then 1 else 0) + regCount o r
  | .obs _ _ :: r => regCount o r

structure Inv (progs : Nat → Prog) (s : State) : Prop where
  objs : ∀ o, ∃ n, s.objs o = stepN n (Obj.start (progs o))
  log : ∀ e ∈ s.log, ∃ n, e.2.2 = (stepN n (Obj.start (progs e.2.1))).look

theorem inv_init (progs : Nat → Prog) : Inv progs (init progs) :=
  ⟨fun _ => ⟨0, rfl⟩, by simp [init]⟩

theorem inv_step (progs : Nat → Prog) (s : State) (h : Inv progs s) (e : Ev) : Inv progs (step s e) := by
  cases e with
  | reg o =>
    refine ⟨fun k => ?_, h.log⟩
    obtain ⟨n, hn⟩ := h.objs k
    by_cases hk : k = o
    · subst hk
      exact ⟨n + 1, by simp [step, stepN_step, hn]⟩
    · exact ⟨n, by simp [step, hk, hn]⟩
  | obs t o =>
    refine ⟨h.objs, ?_⟩
    intro e he
    simp only [step, List.mem_append, List.mem_singleton] at he
    rcases he with he | he
    · exact h.log e he
    · obtain ⟨n, hn⟩ := h.objs o
      exact ⟨n, by simp [he, hn]⟩

theorem inv_run (progs : Nat → Prog) (s : State) (h : Inv progs s) (sched : List Ev) :
    Inv progs (run s sched) :=
  List.foldlRecOn sched _ h fun s h e _ => inv_step progs s h e

theorem run_regs (s : State) (o n : Nat) :
    (run s (List.replicate n (.reg o))).objs o = stepN n (s.objs o) ∧
    (run s (List.replicate n (.reg o))).log = s.log := by
  induction n generalizing s with
  | zero => simp [run, stepN]
  | succ n ih =>
    have := ih (step s (.reg o))
    simp only [run, List.replicate_succ, List.foldl_cons] at this ⊢
    simpa [stepN, step] using this

end Proofs.Publish
