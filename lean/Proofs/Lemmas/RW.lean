import Model.RW
/-! C10: the lock invariant of `Model.RW`, preserved by every step (so by every schedule), and exclusion
as its consequence. -/
namespace Proofs.RW
open Model.RW
variable {Λ L S : Type}

@[simp] theorem upd_same {α : Type} (f : Tid → α) (t : Tid) (v : α) : upd f t v t = v := by
  simp [upd]

theorem upd_other {α : Type} (f : Tid → α) {t x : Tid} (h : x ≠ t) (v : α) : upd f t v x = f x := by
  simp [upd, h]

theorem filter_fst_snoc {α : Type} (log : List (Tid × α)) (t u : Tid) (a : α) :
    ((log ++ [(t, a)]).filter (fun e => e.1 == u)).map (·.2) =
      if t = u then (log.filter (fun e => e.1 == u)).map (·.2) ++ [a]
      else (log.filter (fun e => e.1 == u)).map (·.2) := by
  by_cases h : t = u
  · subst h; simp [List.filter_append]
  · have : (t == u) = false := by simpa using h
    simp [List.filter_append, this, h]

def restOk (m : Mode) (rest : List (Acc L S)) : Prop := ∀ a ∈ rest, permits m a.kind = true

def PcOk : Pc Λ L S → Prop
  | .idle => True
  | .held sec rest => restOk sec.mode rest
  | .inAcc sec a rest => permits sec.mode a.kind = true ∧ restOk sec.mode rest

/-- lock state and thread states agree, and everything still to be executed is
permitted by the lock it runs under -/
structure Inv (s : State Λ L S) : Prop where
  pcOk : ∀ t, PcOk (s.thr t).pc
  progOk : ∀ t, ∀ sec ∈ (s.thr t).prog, sec.ok
  curOk : ∀ t, ∀ sec ∈ (s.thr t).pc.sec, sec.ok
  wHolds : ∀ t, (s.thr t).pc.mode = .W → s.writer = some t
  rHolds : ∀ t, (s.thr t).pc.mode = .R → t ∈ s.readers
  wExcl : ∀ t, s.writer = some t → s.readers = []
  wIs : ∀ t, s.writer = some t → (s.thr t).pc.mode = .W
  rIs : ∀ t, t ∈ s.readers → (s.thr t).pc.mode = .R
  nodup : s.readers.Nodup

theorem ok_single {lbl : Λ} {m : Mode} {a : Acc L S} (h : permits m a.kind = true) :
    Sec.ok ⟨lbl, m, [a]⟩ := fun b hb => by
  cases List.mem_singleton.mp hb
  exact h

theorem inv_init (store : S) (loc : Tid → L) (prog : Tid → List (Sec Λ L S))
    (h : ∀ t, ∀ sec ∈ prog t, sec.ok) : Inv (mkInit store loc prog) := by
  constructor <;> simp [mkInit, PcOk, Pc.mode, Pc.sec]
  exact h

theorem forall_upd {α : Type} {f : Tid → α} {t : Tid} {v : α} {P : Tid → α → Prop}
    (ht : P t v) (ho : ∀ x, x ≠ t → P x (f x)) : ∀ x, P x (upd f t v x) := by
  intro x
  by_cases hx : x = t
  · rw [hx, upd_same]; exact ht
  · rw [upd_other f hx]; exact ho x hx

/-- what `Inv` says about thread `x` being `th` while the lock is `(w, r)` -/
structure ThrOk (w : Option Tid) (r : List Tid) (x : Tid) (th : Thread Λ L S) : Prop where
  pcOk : PcOk th.pc
  progOk : ∀ sec ∈ th.prog, sec.ok
  curOk : ∀ sec ∈ th.pc.sec, sec.ok
  writer : w = some x ↔ th.pc.mode = .W
  reader : x ∈ r ↔ th.pc.mode = .R

theorem Inv.thr {s : State Λ L S} (hi : Inv s) (x : Tid) : ThrOk s.writer s.readers x (s.thr x) :=
  ⟨hi.pcOk x, hi.progOk x, hi.curOk x, ⟨hi.wIs x, hi.wHolds x⟩, ⟨hi.rIs x, hi.rHolds x⟩⟩

theorem inv_of_thr {s : State Λ L S} (h : ∀ x, ThrOk s.writer s.readers x (s.thr x))
    (hex : ∀ t, s.writer = some t → s.readers = []) (hnd : s.readers.Nodup) : Inv s :=
  ⟨fun x => (h x).pcOk, fun x => (h x).progOk, fun x => (h x).curOk, fun x => (h x).writer.mpr,
   fun x => (h x).reader.mpr, hex, fun x => (h x).writer.mp, fun x => (h x).reader.mp, hnd⟩

theorem inv_set {s : State Λ L S} (hi : Inv s) (t : Tid) (th' : Thread Λ L S) (w' : Option Tid)
    (r' : List Tid) (σ' : S) (log' : List (Tid × Sec Λ L S)) (ht : ThrOk w' r' t th')
    (hwo : ∀ x, x ≠ t → (w' = some x ↔ s.writer = some x)) (hro : ∀ x, x ≠ t → (x ∈ r' ↔ x ∈ s.readers))
    (hex : ∀ x, w' = some x → r' = []) (hnd : r'.Nodup) :
    Inv { writer := w', readers := r', store := σ', thr := upd s.thr t th', log := log' } :=
  inv_of_thr
    (forall_upd (P := ThrOk w' r') ht fun x hx =>
      have h := hi.thr x
      ⟨h.pcOk, h.progOk, h.curOk, (hwo x hx).trans h.writer, (hro x hx).trans h.reader⟩)
    hex hnd

theorem inv_keep {s : State Λ L S} (hi : Inv s) (t : Tid) (th' : Thread Λ L S) (σ' : S)
    (log' : List (Tid × Sec Λ L S)) (hm : th'.pc.mode = (s.thr t).pc.mode)
    (hpc : PcOk th'.pc) (hprog : ∀ sec ∈ th'.prog, sec.ok) (hcur : ∀ sec ∈ th'.pc.sec, sec.ok) :
    Inv { s with store := σ', thr := upd s.thr t th', log := log' } :=
  inv_set hi t th' s.writer s.readers σ' log'
    ⟨hpc, hprog, hcur, hm ▸ (hi.thr t).writer, hm ▸ (hi.thr t).reader⟩
    (fun _ _ => .rfl) (fun _ _ => .rfl) hi.wExcl hi.nodup

theorem not_holder {s : State Λ L S} (hi : Inv s) {t : Tid} (h : (s.thr t).pc.mode = .none) :
    s.writer ≠ some t ∧ t ∉ s.readers :=
  ⟨fun hw => by simpa [h] using hi.wIs t hw, fun hr => by simpa [h] using hi.rIs t hr⟩

theorem inv_enter (s : State Λ L S) (t : Tid) (sec : Sec Λ L S) (more : List (Sec Λ L S)) (hi : Inv s)
    (hpc : (s.thr t).pc = .idle) (hprog : (s.thr t).prog = sec :: more) : Inv (enter s t sec more) := by
  have hsec : sec.ok := hi.progOk t sec (by simp [hprog])
  have hmore : ∀ x ∈ more, x.ok := fun x hx => hi.progOk t x (by simp [hprog, hx])
  have hcur : ∀ x ∈ (Pc.held sec sec.accs).sec, x.ok := by simpa [Pc.sec] using hsec
  obtain ⟨hnw, hnr⟩ := not_holder hi (t := t) (by rw [hpc]; rfl)
  -- the arms of `enter`: no lock; `RLock` granted, refused; `Lock` granted, refused
  fun_cases enter s t sec more
  case case1 th s' hm => exact inv_keep hi t _ s.store s.log (by rw [hpc]; exact hm) hsec hmore hcur
  case case2 th s' hm hw =>
    refine inv_set hi t _ s.writer (t :: s.readers) s.store s.log ⟨hsec, hmore, hcur, ?_, ?_⟩ (fun _ _ => .rfl) ?_ ?_ ?_
    · simp [hw, Pc.mode, hm]
    · simp [Pc.mode, hm]
    · intro x hx; simp [hx]
    · intro x h; rw [hw] at h; cases h
    · exact List.nodup_cons.mpr ⟨hnr, hi.nodup⟩
  case case3 => exact hi
  case case4 th s' hm hw =>
    refine inv_set hi t _ (some t) s.readers s.store s.log ⟨hsec, hmore, hcur, ?_, ?_⟩ ?_ (fun _ _ => .rfl) (fun _ _ => hw.2) hi.nodup
    · simp [Pc.mode, hm]
    · simp [hw.2, Pc.mode, hm]
    · intro x hx; simp [hw.1, Ne.symm hx]
  case case5 => exact hi

theorem inv_leave (s : State Λ L S) (t : Tid) (sec : Sec Λ L S) (hi : Inv s)
    (hpc : (s.thr t).pc = .held sec []) : Inv (leave s t sec) := by
  have hmode : (s.thr t).pc.mode = sec.mode := by rw [hpc]; rfl
  have hprog : ∀ x ∈ (s.thr t).prog, x.ok := hi.progOk t
  have hcur : ∀ x ∈ (Pc.idle : Pc Λ L S).sec, x.ok := by simp [Pc.sec]
  unfold leave
  cases hm : sec.mode with
  | none => exact inv_keep hi t _ s.store _ (by rw [hmode, hm]; rfl) trivial hprog hcur
  | R =>
    have hnw : s.writer ≠ some t := fun h => by have := hi.wIs t h; rw [hmode, hm] at this; cases this
    refine inv_set hi t _ _ _ _ _ ⟨trivial, hprog, hcur, ?_, ?_⟩ (fun _ _ => .rfl) ?_ ?_ (hi.nodup.erase t)
    · simp [hnw, Pc.mode]
    · simp [hi.nodup.mem_erase_iff, Pc.mode]
    · intro x hx; exact List.mem_erase_of_ne hx
    · intro x h; simp [hi.wExcl x h]
  | W =>
    have hwt : s.writer = some t := hi.wHolds t (by rw [hmode, hm])
    refine inv_set hi t _ _ _ _ _ ⟨trivial, hprog, hcur, ?_, ?_⟩ ?_ (fun _ _ => .rfl) ?_ hi.nodup
    · simp [Pc.mode]
    · simp [hi.wExcl t hwt, Pc.mode]
    · intro x hx; simp [hwt, Ne.symm hx]
    · intro x h; cases h

theorem inv_step (s : State Λ L S) (t : Tid) (hi : Inv s) : Inv (step s t) := by
  have hok := hi.pcOk t
  have hcur := hi.curOk t
  -- the arms of `step`: finished; enters a section; begins an access; leaves the section; ends an access
  fun_cases step s t
  case case1 th hpc hprog => exact hi
  case case2 th hpc sec more hprog => exact inv_enter s t sec more hi hpc hprog
  case case3 th sec a rest hpc =>
    rw [hpc] at hok hcur
    exact inv_keep hi t _ s.store s.log (by rw [hpc]; rfl)
      ⟨hok a (by simp), fun b hb => hok b (by simp [hb])⟩ (hi.progOk t) hcur
  case case4 th sec hpc => exact inv_leave s t sec hi hpc
  case case5 th sec a rest hpc p =>
    rw [hpc] at hok hcur
    exact inv_keep hi t _ _ s.log (by rw [hpc]; rfl) hok.2 (hi.progOk t) hcur

theorem inv_run (s : State Λ L S) (sched : List Tid) (hi : Inv s) : Inv (run s sched) :=
  List.foldlRecOn sched step hi fun s hi t _ => inv_step s t hi

theorem permits_none (k : Kind) : permits .none k = false := by cases k <;> rfl
theorem permits_R {k : Kind} (h : permits .R k = true) : k = .rd := by cases k <;> simp [permits] at h ⊢
theorem permits_wr {m : Mode} (h : permits m .wr = true) : m = .W := by cases m <;> simp [permits] at h ⊢

theorem cur_permits {s : State Λ L S} (hi : Inv s) {t : Tid} {a : Acc L S} (h : (s.thr t).pc.cur = some a) :
    permits (s.thr t).pc.mode a.kind = true := by
  have hok := hi.pcOk t
  cases hpc : (s.thr t).pc with
  | idle => simp [hpc, Pc.cur] at h
  | held sec rest => simp [hpc, Pc.cur] at h
  | inAcc sec b rest =>
    rw [hpc] at hok h
    cases h
    exact hok.1

theorem others_none (s : State Λ L S) (hi : Inv s) (t x : Tid) (hw : s.writer = some t) (hx : x ≠ t) :
    (s.thr x).pc.mode = .none := by
  cases hm : (s.thr x).pc.mode with
  | none => rfl
  | R => have := hi.rHolds x hm; rw [hi.wExcl t hw] at this; simp at this
  | W => have := hi.wHolds x hm; rw [hw] at this; exact absurd (Option.some.inj this).symm hx

/-- a thread inside a write is the writer, so nobody else holds the lock, and an access under no lock
is not permitted -/
theorem inv_no_conflict (s : State Λ L S) (hi : Inv s) (t1 t2 : Tid) : ¬ Conflict s t1 t2 := by
  rintro ⟨hne, a1, a2, h1, h2, -, hk⟩
  have excl : ∀ t u a b, t ≠ u → (s.thr t).pc.cur = some a → (s.thr u).pc.cur = some b →
      a.kind = .wr → False := by
    intro t u a b hne ha hb hk
    have hw := hi.wHolds t (permits_wr (hk ▸ cur_permits hi ha))
    have hp := cur_permits hi hb
    rw [others_none s hi t u hw (Ne.symm hne), permits_none] at hp
    cases hp
  rcases hk with hk | hk
  · exact excl t1 t2 a1 a2 hne h1 h2 hk
  · exact excl t2 t1 a2 a1 (Ne.symm hne) h2 h1 hk

/-- the witness behind `RW_exclusion_counterexample` and `C10_path_exclusion_needs_lock`: two threads that write map `m`
under `RLock` are both inside the write after four steps -/
theorem wr_under_RLock_conflict (m : MapId) :
    Conflict (run (mkInit () (fun _ => ())
      (fun t => if t < 2 then [(⟨(), .R, [.wr m (fun l s => (l, s))]⟩ : Sec Unit Unit Unit)] else [])) [0, 1, 0, 1]) 0 1 :=
  ⟨by decide, .wr m (fun l s => (l, s)), .wr m (fun l s => (l, s)), rfl, rfl, rfl, .inl rfl⟩

end Proofs.RW
