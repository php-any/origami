import Proofs.Lemmas.RW
/-! C10: sections of a disciplined program are atomic — the linearization invariant of `Model.RW`
(witness = the ghost log, i.e. release order); progress; programs whose sections are calls of a
sequential machine. -/
namespace Proofs.RW
open Model.RW
variable {Λ L S : Type}

theorem execAccs_rdonly (accs : List (Acc L S)) (h : ∀ a ∈ accs, a.kind = .rd) (l : L) (σ : S) :
    (execAccs accs (l, σ)).2 = σ := by
  induction accs generalizing l with
  | nil => rfl
  | cons a rest ih =>
    have ha := h a (by simp)
    cases a with
    | rd m f => simp only [execAccs, Acc.apply]; exact ih (fun b hb => h b (by simp [hb])) _
    | wr m f => simp [Acc.kind] at ha

theorem restOk_none {rest : List (Acc L S)} (h : restOk .none rest) : rest = [] := by
  cases rest with
  | nil => rfl
  | cons a r =>
    have := h a (by simp)
    rw [permits_none] at this
    cases this

theorem ok_none_nil (sec : Sec Λ L S) (h : sec.ok) (hm : sec.mode = .none) : sec.accs = [] :=
  restOk_none (hm ▸ h)

theorem ok_notW_store (sec : Sec Λ L S) (h : sec.ok) (hm : sec.mode ≠ .W) (l : L) (σ : S) :
    (execAccs sec.accs (l, σ)).2 = σ := by
  apply execAccs_rdonly
  intro a ha
  have := h a ha
  cases hmm : sec.mode with
  | none => rw [hmm, permits_none] at this; exact absurd this (by simp)
  | R => rw [hmm] at this; exact permits_R this
  | W => exact absurd hmm hm

theorem todo_of_none {pc : Pc Λ L S} (hok : PcOk pc) (h : pc.mode = .none) : pc.todo = [] := by
  cases pc with
  | idle => rfl
  | held sec rest =>
    have hm : sec.mode = .none := h
    exact restOk_none (rest := rest) (hm ▸ hok)
  | inAcc sec a rest =>
    have := hok.1
    rw [show sec.mode = .none from h, permits_none] at this
    cases this

theorem mode_of_sec (pc : Pc Λ L S) (sec : Sec Λ L S) (h : sec ∈ pc.sec) : pc.mode = sec.mode := by
  cases pc <;> simp [Pc.sec] at h <;> simp [Pc.mode, h]

theorem seqExec_snoc (log : List (Tid × Sec Λ L S)) (e : Tid × Sec Λ L S) (p : S × (Tid → L)) :
    seqExec (log ++ [e]) p = seqStep (seqExec log p) e := by
  simp [seqExec, List.foldl_append]

theorem logOf_snoc (log : List (Tid × Sec Λ L S)) (t u : Tid) (sec : Sec Λ L S) :
    logOf (log ++ [(t, sec)]) u = if t = u then logOf log u ++ [sec] else logOf log u :=
  filter_fst_snoc log t u sec

/-- What linearization says about one thread, given the store `σ` and the witness's store `wσ` and private
state `wl` of the thread: what it still has to run, on `σ`, gives what the whole section gives on the witness. -/
structure LinAt (th : Thread Λ L S) (σ wσ : S) (wl : L) : Prop where
  idle : th.pc = .idle → th.loc = wl
  loc : ∀ sec ∈ th.pc.sec, (execAccs th.pc.todo (th.loc, σ)).1 = (execAccs sec.accs (wl, wσ)).1
  store : ∀ sec ∈ th.pc.sec, sec.mode = .W →
    (execAccs th.pc.todo (th.loc, σ)).2 = (execAccs sec.accs (wl, wσ)).2

/-- The threads that do not move when `t` does: either the stores they see are unchanged, or `t` is the
writer; then they hold no lock, have nothing left to run and their section (if any) has no access at
all, so `LinAt` does not depend on the stores. -/
theorem LinAt.frame {s : State Λ L S} (hi : Inv s) {t x : Tid} {σ wσ σ' wσ' : S} {wl : L}
    (h : LinAt (s.thr x) σ wσ wl) (hx : x ≠ t) (hc : σ' = σ ∧ wσ' = wσ ∨ s.writer = some t) :
    LinAt (s.thr x) σ' wσ' wl := by
  rcases hc with ⟨rfl, rfl⟩ | hw
  · exact h
  · have hm := others_none s hi t x hw hx
    refine ⟨h.idle, fun sec hs => ?_, fun sec hs hW => ?_⟩
    · have htodo : (s.thr x).pc.todo = [] := todo_of_none (hi.pcOk x) hm
      have haccs : sec.accs = [] := ok_none_nil sec (hi.curOk x sec hs) (mode_of_sec _ sec hs ▸ hm)
      have := h.loc sec hs
      rw [htodo, haccs] at this ⊢
      exact this
    · rw [← mode_of_sec _ sec hs, hm] at hW; cases hW

/-- The linearization invariant against the witness `seqExec s.log (σi, li)`: the logged sections run one after the other
from the initial store `σi` and private states `li`. `order`: per thread, logged ++ current ++ remaining sections are its
program `prog0 t`; `store`: while no writer is inside, the store is the witness's. -/
structure Lin (σi : S) (li : Tid → L) (prog0 : Tid → List (Sec Λ L S)) (s : State Λ L S) : Prop where
  order : ∀ t, logOf s.log t ++ (s.thr t).pc.sec ++ (s.thr t).prog = prog0 t
  store : s.writer = none → s.store = (seqExec s.log (σi, li)).1
  thr : ∀ t, LinAt (s.thr t) s.store (seqExec s.log (σi, li)).1 ((seqExec s.log (σi, li)).2 t)

theorem lin_init (σi : S) (li : Tid → L) (prog0 : Tid → List (Sec Λ L S)) :
    Lin σi li prog0 (mkInit σi li prog0) :=
  ⟨fun _ => rfl, fun _ => rfl, fun _ => ⟨fun _ => rfl, fun _ h => (nomatch h), fun _ h => (nomatch h)⟩⟩

variable {σi : S} {li : Tid → L} {prog0 : Tid → List (Sec Λ L S)} {s : State Λ L S}

theorem lin_set (hl : Lin σi li prog0 s) (t : Tid) (th' : Thread Λ L S) (w' : Option Tid) (r' : List Tid)
    (σ' : S) (log' : List (Tid × Sec Λ L S))
    (hord : logOf log' t ++ th'.pc.sec ++ th'.prog = prog0 t)
    (hlog : ∀ x, x ≠ t → logOf log' x = logOf s.log x)
    (hst : w' = none → σ' = (seqExec log' (σi, li)).1)
    (ht : LinAt th' σ' (seqExec log' (σi, li)).1 ((seqExec log' (σi, li)).2 t))
    (ho : ∀ x, x ≠ t → LinAt (s.thr x) σ' (seqExec log' (σi, li)).1 ((seqExec log' (σi, li)).2 x)) :
    Lin σi li prog0 { writer := w', readers := r', store := σ', thr := upd s.thr t th', log := log' } where
  order := forall_upd (P := fun x (th : Thread Λ L S) => logOf log' x ++ th.pc.sec ++ th.prog = prog0 x) hord
    fun x hx => hlog x hx ▸ hl.order x
  store := hst
  thr := forall_upd
    (P := fun x (th : Thread Λ L S) => LinAt th σ' (seqExec log' (σi, li)).1 ((seqExec log' (σi, li)).2 x)) ht ho

/-- a step inside a section (an access begins or ends): what is left to run gives what it gave before -/
theorem lin_local (hi : Inv s) (hl : Lin σi li prog0 s) (t : Tid) (pc' : Pc Λ L S) (loc' : L) (σ' : S)
    (hsec : pc'.sec = (s.thr t).pc.sec) (hne : pc' ≠ .idle)
    (hex : execAccs pc'.todo (loc', σ') = execAccs (s.thr t).pc.todo ((s.thr t).loc, s.store))
    (hst : σ' = s.store ∨ s.writer = some t) :
    Lin σi li prog0 { s with store := σ', thr := upd s.thr t { (s.thr t) with pc := pc', loc := loc' } } := by
  refine lin_set hl t _ s.writer s.readers σ' s.log ?_ (fun _ _ => rfl) (fun hw => ?_)
    ⟨fun h => absurd h hne, fun sec hs => ?_, fun sec hs => ?_⟩
    (fun x hx => (hl.thr x).frame hi hx (hst.imp_left fun h => ⟨h, rfl⟩))
  · show logOf s.log t ++ pc'.sec ++ (s.thr t).prog = prog0 t
    rw [hsec]; exact hl.order t
  · rcases hst with h | h
    · rw [h]; exact hl.store hw
    · rw [h] at hw; cases hw
  · show (execAccs pc'.todo (loc', σ')).1 = _
    rw [hex]; exact (hl.thr t).loc sec (hsec ▸ hs)
  · show _ → (execAccs pc'.todo (loc', σ')).2 = _
    rw [hex]; exact (hl.thr t).store sec (hsec ▸ hs)

/-- the section starts on the witness's state: the thread was idle and no writer is inside — or the
section has no access at all -/
theorem lin_enter_core (hi : Inv s) (hl : Lin σi li prog0 s) (t : Tid) (sec : Sec Λ L S)
    (more : List (Sec Λ L S)) (hpc : (s.thr t).pc = .idle) (hprog : (s.thr t).prog = sec :: more)
    (wn : Option Tid) (rn : List Tid)
    (hst : sec.mode = .none ∨ s.writer = none) (hwn : wn = none → s.writer = none) :
    Lin σi li prog0
      { s with writer := wn, readers := rn, thr := upd s.thr t { (s.thr t) with pc := .held sec sec.accs, prog := more } } := by
  have hsec : sec.ok := hi.progOk t sec (by simp [hprog])
  have hloc := (hl.thr t).idle hpc
  have hrun : sec.mode = .none ∨ ((s.thr t).loc, s.store) =
      ((seqExec s.log (σi, li)).2 t, (seqExec s.log (σi, li)).1) :=
    hst.imp_right fun h => by rw [hloc, hl.store h]
  refine lin_set hl t _ wn rn s.store s.log ?_ (fun _ _ => rfl) (fun h => hl.store (hwn h))
    ⟨fun h => (nomatch h), fun sec' hs => ?_, fun sec' hs hm => ?_⟩ (fun x _ => hl.thr x)
  · have := hl.order t
    rw [hpc, hprog] at this
    simpa [Pc.sec] using this
  · cases List.mem_singleton.mp hs
    show (execAccs sec.accs ((s.thr t).loc, s.store)).1 = _
    rcases hrun with h | h
    · rw [ok_none_nil sec hsec h]; exact hloc
    · rw [h]
  · cases List.mem_singleton.mp hs
    show (execAccs sec.accs ((s.thr t).loc, s.store)).2 = _
    rcases hrun with h | h
    · rw [h] at hm; cases hm
    · rw [h]

theorem lin_enter (hi : Inv s) (hl : Lin σi li prog0 s) (t : Tid) (sec : Sec Λ L S)
    (more : List (Sec Λ L S)) (hpc : (s.thr t).pc = .idle) (hprog : (s.thr t).prog = sec :: more) :
    Lin σi li prog0 (enter s t sec more) := by
  -- the arms of `enter`: no lock; `RLock` granted, refused; `Lock` granted, refused
  fun_cases enter s t sec more
  case case1 th s' hm => exact lin_enter_core hi hl t sec more hpc hprog s.writer s.readers (.inl hm) id
  case case2 th s' hm hw => exact lin_enter_core hi hl t sec more hpc hprog s.writer (t :: s.readers) (.inr hw) id
  case case3 => exact hl
  case case4 th s' hm hw =>
    exact lin_enter_core hi hl t sec more hpc hprog (some t) s.readers (.inr hw.1) (fun h => nomatch h)
  case case5 => exact hl

/-- the witness store changes only for a `Lock` section, and then the others hold nothing -/
theorem lin_leave_core (hi : Inv s) (hl : Lin σi li prog0 s) (t : Tid) (sec : Sec Λ L S)
    (hpc : (s.thr t).pc = .held sec []) (wn : Option Tid) (rn : List Tid)
    (hwn : wn = none → sec.mode = .W ∨ s.writer = none) :
    Lin σi li prog0
      { s with writer := wn, readers := rn, thr := upd s.thr t { (s.thr t) with pc := .idle }, log := s.log ++ [(t, sec)] } := by
  have hmem : sec ∈ (s.thr t).pc.sec := by rw [hpc]; exact List.mem_singleton.mpr rfl
  have hsec : sec.ok := hi.curOk t sec hmem
  have hL := (hl.thr t).loc sec hmem
  have hS := (hl.thr t).store sec hmem
  simp only [hpc, Pc.todo, execAccs] at hL hS
  have hcase : (seqExec (s.log ++ [(t, sec)]) (σi, li)).1 = (seqExec s.log (σi, li)).1 ∨ s.writer = some t := by
    by_cases hm : sec.mode = .W
    · exact .inr (hi.wHolds t (by simp [hpc, Pc.mode, hm]))
    · exact .inl (by rw [seqExec_snoc]; exact ok_notW_store sec hsec hm _ _)
  refine lin_set hl t _ wn rn s.store _ ?_ (fun x hx => by rw [logOf_snoc, if_neg (Ne.symm hx)]) (fun h => ?_)
    ⟨fun _ => ?_, fun _ h => (nomatch h), fun _ h => (nomatch h)⟩ (fun x hx => ?_)
  · have := hl.order t
    rw [hpc] at this
    simpa [Pc.sec, logOf_snoc] using this
  · -- the store when no writer is left: the witness's after the section (`Lock`), or both unchanged
    by_cases hm : sec.mode = .W
    · rw [seqExec_snoc]; exact hS hm
    · rcases hcase with h' | h'
      · rw [h']; exact hl.store ((hwn h).resolve_left hm)
      · have := hi.wIs t h'; rw [hpc] at this; exact absurd this hm
  · show (s.thr t).loc = _
    simp [seqExec_snoc, seqStep, hL]
  · have hx2 : (seqExec (s.log ++ [(t, sec)]) (σi, li)).2 x = (seqExec s.log (σi, li)).2 x := by
      rw [seqExec_snoc]; exact upd_other _ hx _
    rw [hx2]
    exact (hl.thr x).frame hi hx (hcase.imp_left fun h => ⟨rfl, h⟩)

theorem lin_leave (hi : Inv s) (hl : Lin σi li prog0 s) (t : Tid) (sec : Sec Λ L S)
    (hpc : (s.thr t).pc = .held sec []) : Lin σi li prog0 (leave s t sec) := by
  unfold leave
  cases hm : sec.mode with
  | none => exact lin_leave_core hi hl t sec hpc s.writer s.readers .inr
  | R => exact lin_leave_core hi hl t sec hpc s.writer (s.readers.erase t) .inr
  | W => exact lin_leave_core hi hl t sec hpc none s.readers (fun _ => .inl hm)

theorem lin_step (hi : Inv s) (hl : Lin σi li prog0 s) (t : Tid) : Lin σi li prog0 (step s t) := by
  -- the arms of `step`: finished; enters a section; begins an access; leaves the section; ends an access
  fun_cases step s t
  case case1 th hpc hprog => exact hl
  case case2 th hpc sec more hprog => exact lin_enter hi hl t sec more hpc hprog
  case case3 th sec a rest hpc =>
    exact lin_local hi hl t (.inAcc sec a rest) (s.thr t).loc s.store (by rw [hpc]; rfl) (fun h => nomatch h)
      (by rw [hpc]; rfl) (.inl rfl)
  case case4 th sec hpc => exact lin_leave hi hl t sec hpc
  case case5 th sec a rest hpc p =>
    refine lin_local hi hl t (.held sec rest) _ _ (by rw [hpc]; rfl) (fun h => nomatch h) (by rw [hpc]; rfl) ?_
    -- the store changes only if the access is a write, and then `t` is the writer
    cases a with
    | rd m f => exact .inl rfl
    | wr m f =>
      have hp := cur_permits hi (t := t) (a := .wr m f) (by rw [hpc]; rfl)
      exact .inr (hi.wHolds t (permits_wr hp))

theorem reach (store : S) (loc : Tid → L) (prog : Tid → List (Sec Λ L S))
    (hd : ∀ t, ∀ sec ∈ prog t, sec.ok) (sched : List Tid) :
    Inv (run (mkInit store loc prog) sched) ∧ Lin store loc prog (run (mkInit store loc prog) sched) :=
  List.foldlRecOn (motive := fun s => Inv s ∧ Lin store loc prog s) sched step
    ⟨inv_init store loc prog hd, lin_init store loc prog⟩
    fun s h t _ => ⟨inv_step s t h.1, lin_step h.1 h.2 t⟩

theorem exists_enabled (s : State Λ L S) (hi : Inv s) (t : Tid)
    (hun : (s.thr t).pc ≠ .idle ∨ (s.thr t).prog ≠ []) :
    ∃ u, enabled s u = true := by
  -- nobody inside a section: the lock is free and `t` can enter; otherwise whoever is inside can move
  by_cases hall : ∀ x, (s.thr x).pc = .idle
  · refine ⟨t, ?_⟩
    have hnone : ∀ u, (s.thr u).pc.mode = .none := fun u => by rw [hall u]; rfl
    have hw : s.writer = none := by
      cases h : s.writer with
      | none => rfl
      | some u => exact absurd h (not_holder hi (hnone u)).1
    have hr : s.readers = [] := by
      cases h : s.readers with
      | nil => rfl
      | cons u r => exact absurd (h ▸ List.mem_cons_self) (not_holder hi (hnone u)).2
    have hp : (s.thr t).prog ≠ [] := by
      rcases hun with h | h
      · exact absurd (hall t) h
      · exact h
    unfold enabled
    rw [hall t]
    cases hprog : (s.thr t).prog with
    | nil => exact absurd hprog hp
    | cons sec more => simp only []; cases hm : sec.mode <;> simp [hw, hr]
  · have ⟨x, hx⟩ := Classical.not_forall.mp hall
    refine ⟨x, ?_⟩
    unfold enabled
    cases hpc : (s.thr x).pc with
    | idle => exact absurd hpc hx
    | held _ _ => rfl
    | inAcc _ _ _ => rfl

theorem mem_logOf (log : List (Tid × Sec Λ L S)) (e : Tid × Sec Λ L S) (h : e ∈ log) :
    e.2 ∈ logOf log e.1 := by
  simp only [logOf, List.mem_map, List.mem_filter]
  exact ⟨e, ⟨h, by simp⟩, rfl⟩

theorem logOf_map_lbl (log : List (Tid × Sec Λ L S)) (t : Tid) :
    (logOf log t).map (·.lbl) =
      ((log.map (fun e => (e.1, e.2.lbl))).filter (fun e => e.1 == t)).map (·.2) := by
  simp only [logOf, List.filter_map, List.map_map]; rfl

/-- One call of a sequential machine `f` by thread `e.1`: the store moves, the answer is appended to the thread's results.
`Proofs.RegConc.regStep` and `Proofs.CpmConc.cpmStep d` (in the modules of the two machines, which do not import this
one) are `callStep Model.Reg.step` and `callStep (Model.Cpm.step d)` written out, so `regRun lin` and `cpmRun d lin`
unfold to `lin.foldl (callStep _)`: that is how the property file reads `calls_linearizable` in their terms. -/
def callStep {R : Type} (f : S → Λ → S × R) (p : S × (Tid → List R)) (e : Tid × Λ) : S × (Tid → List R) :=
  ((f p.1 e.2).1, upd p.2 e.1 (p.2 e.1 ++ [(f p.1 e.2).2]))

/-- Calls under the lock are atomic.  Every section is the image `mk op` of a call `op` (its label), and
running a whole section on the witness is one call of the sequential machine `f`: then the witness is the
run of `f` over `lin`, the completed calls in release order. -/
theorem calls_linearizable {R : Type} (mk : Λ → Sec Λ (List R) S) (hlbl : ∀ op, (mk op).lbl = op)
    (hok : ∀ op, (mk op).ok) (f : S → Λ → S × R)
    (hstp : ∀ p t op, seqStep p (t, mk op) = callStep f p (t, op))
    (σ : S) (l : Tid → List R) (progs : Tid → List Λ) (sched : List Tid) :
    let s := run (mkInit σ l (fun t => (progs t).map mk)) sched
    let lin := s.log.map (fun e => (e.1, e.2.lbl))
    (∀ t, ((lin.filter (fun e => e.1 == t)).map (·.2)) ++ (s.thr t).pc.sec.map (·.lbl) ++
        (s.thr t).prog.map (·.lbl) = progs t) ∧
    (∀ t, (s.thr t).pc = .idle → (s.thr t).loc = (lin.foldl (callStep f) (σ, l)).2 t) ∧
    (s.writer = none → s.store = (lin.map (·.2)).foldl (fun a op => (f a op).1) σ) ∧
    (∀ t1 t2, ¬ Conflict s t1 t2) := by
  intro s lin
  obtain ⟨hi, hl⟩ := reach σ l (fun t => (progs t).map mk) (fun t sec hs => by
    obtain ⟨op, _, rfl⟩ := List.mem_map.mp hs
    exact hok op) sched
  -- the log is the image of `lin`: a logged section comes from its thread's program, so it is `mk` of its label
  have hlog : lin.map (fun e => (e.1, mk e.2)) = s.log := by
    rw [List.map_map]
    refine (List.map_congr_left fun e he => ?_).trans (List.map_id _)
    have h2 : e.2 ∈ (progs e.1).map mk := by
      rw [← hl.order e.1]
      exact List.mem_append_left _ (List.mem_append_left _ (mem_logOf s.log e he))
    obtain ⟨op, _, hop⟩ := List.mem_map.mp h2
    show (e.1, mk e.2.lbl) = e
    rw [← hop, hlbl, hop]
  have hw : seqExec s.log (σ, l) = lin.foldl (callStep f) (σ, l) := by
    rw [← hlog, seqExec, List.foldl_map]
    exact congrArg (fun g => lin.foldl g (σ, l)) (funext fun p => funext fun e => hstp p e.1 e.2)
  refine ⟨fun t => ?_, fun t h => hw ▸ (hl.thr t).idle h, fun h => ?_, inv_no_conflict s hi⟩
  · have h := congrArg (List.map (·.lbl)) (hl.order t)
    simp only [List.map_append, List.map_map] at h
    rw [← logOf_map_lbl]
    rwa [show (progs t).map ((fun x => x.lbl) ∘ mk) = progs t by simp [Function.comp_def, hlbl]] at h
  · rw [hl.store h, hw]
    exact (List.foldl_hom Prod.fst fun _ _ => rfl).symm.trans List.foldl_map.symm

end Proofs.RW
