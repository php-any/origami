import Model.ReaderOrder
/-! A decoder as a list of readers tried in order (`Model.ReaderOrder.decode`): a value answer of `unserializeT` is
`parseAll`'s on the trimmed input — so readers placed after the exact one have no say where it answers; a reader table
that passes `orderOK` denotes a list that starts with the exact reader. -/
namespace Proofs.ReaderOrder
open Model.Ser Model.ReaderOrder

theorem decode_append {T R : Type} (pre rs : List (T → Option R)) (d : R) (t : T) :
    decode (pre ++ rs) d t = decode pre (decode rs d t) t := by
  induction pre with
  | nil => rfl
  | cons r rest ih =>
      simp only [List.cons_append, decode]
      cases r t with
      | some x => rfl
      | none => exact ih

theorem decode_cons_some {T R : Type} (r : T → Option R) (rest : List (T → Option R)) (d x : R) (t : T)
    (h : r t = some x) : decode (r :: rest) d t = x := by
  simp [decode, h]

theorem decode_cons_none {T R : Type} (r : T → Option R) (rest : List (T → Option R)) (d : R) (t : T)
    (h : r t = none) : decode (r :: rest) d t = decode rest d t := by
  simp [decode, h]

theorem legacyStr_ne_value (raw : Bytes) (v : PV) : legacyStr raw ≠ .value v := by
  fun_cases legacyStr raw
  all_goals nofun

theorem value_is_parseAll (raw : Bytes) (w : PV) (h : unserializeT raw = .value w) :
    raw ≠ [] ∧ (if knownPrefix raw then parseAll raw else none) = some w := by
  revert h
  fun_cases unserializeT raw
  all_goals intro h
  · cases h
  · next he v hv =>
    cases h
    exact ⟨he, hv⟩
  · exact absurd h (legacyStr_ne_value raw w)
  · cases h

theorem parseAll_some {s : Bytes} {v : PV} (h : parseAll s = some v) :
    pValue (2 * s.length + 1) s = some (v, []) := by
  revert h
  fun_cases parseAll s
  all_goals intro h
  all_goals cases h
  next hw => exact hw

theorem exact_first_decides (rest : List (Bytes → Option Out)) (raw : Bytes) (w : PV)
    (h : unserializeT raw = .value w) : decode (emptyR :: exactR :: rest) .false raw = .value w := by
  obtain ⟨hne, hp⟩ := value_is_parseAll raw w h
  rw [decode_cons_none emptyR _ _ _ (if_neg hne), decode_cons_some _ _ _ _ _ (by rw [exactR, hp])]

theorem map_denote_of_ok (sn : ReaderStep → Bytes → Option Out) (rs : List ReaderStep) (h : orderOK rs = true) :
    ∃ rest, rs.map (denote sn) = exactR :: rest := by
  cases rs with
  | nil => simp [orderOK] at h
  | cons r rest =>
      simp only [orderOK, Bool.and_eq_true, beq_iff_eq] at h
      exact ⟨rest.map (denote sn), by simp [List.map, denote, h.1.1.1]⟩

end Proofs.ReaderOrder
