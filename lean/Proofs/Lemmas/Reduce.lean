import Model.Reduce
/-!
The first-of-ties loop (`Model.Reduce.firstBest`): `Maximal` (a candidate that nothing beats) is the
invariant of the loop over the candidates seen so far, so its result is one; a candidate that nothing
beats stays when it comes first; what all such candidates agree on does not depend on the order.
-/
namespace Proofs.Reduce
open Model.Reduce

variable {α : Type}

/-- the strict comparisons a reduction uses (`>` / `<` on float64 — NaN included —, on integers, on
strings): nothing beats itself, and beating is transitive. Totality is *not* assumed: candidates
that do not beat each other tie. This is `SortTie.StrictTotal` without `connected`: sorting needs
totality, the first-of-ties loop does not. -/
structure StrictOrder (gt : α → α → Bool) : Prop where
  irrefl : ∀ a, gt a a = false
  trans : ∀ a b c, gt a b = true → gt b c = true → gt a c = true

theorem step_maximal {gt : α → α → Bool} (h : StrictOrder gt) {seen : List α} {m : α}
    (hm : Maximal gt seen m) (v : α) : Maximal gt (seen ++ [v]) (step gt m v) := by
  unfold step
  split
  · next hv =>
    refine ⟨by simp, fun x hx => ?_⟩
    rcases List.mem_append.1 hx with hx | hx
    · -- `x` beating `v` would beat `m` through `v`
      apply Bool.eq_false_iff.2
      intro e
      have := h.trans x v m e hv
      rw [hm.2 x hx] at this; cases this
    · rw [List.mem_singleton.1 hx]; exact h.irrefl v
  · next hv =>
    refine ⟨List.mem_append_left _ hm.1, fun x hx => ?_⟩
    rcases List.mem_append.1 hx with hx | hx
    · exact hm.2 x hx
    · rw [List.mem_singleton.1 hx]; exact Bool.eq_false_iff.2 hv

theorem fold_maximal {gt : α → α → Bool} (h : StrictOrder gt) :
    ∀ (l seen : List α) (m : α), Maximal gt seen m → Maximal gt (seen ++ l) (l.foldl (step gt) m)
  | [], seen, m, hm => by rwa [List.append_nil]
  | v :: l, seen, m, hm => by
    have := fold_maximal h l (seen ++ [v]) (step gt m v) (step_maximal h hm v)
    rwa [List.append_assoc] at this

theorem firstBest_maximal {gt : α → α → Bool} (h : StrictOrder gt) {l : List α} {r : α}
    (hr : firstBest gt l = some r) : Maximal gt l r := by
  cases l with
  | nil => cases hr
  | cons a l =>
    obtain rfl : l.foldl (step gt) a = r := Option.some.inj hr
    exact fold_maximal h l [a] a ⟨List.mem_singleton_self a, fun x hx => List.mem_singleton.1 hx ▸ h.irrefl a⟩

theorem maximal_perm {gt : α → α → Bool} {xs ys : List α} (hp : ys.Perm xs) {a : α}
    (m : Maximal gt ys a) : Maximal gt xs a :=
  ⟨hp.mem_iff.1 m.1, fun x hx => m.2 x (hp.mem_iff.2 hx)⟩

theorem fold_keeps (gt : α → α → Bool) (a : α) (l : List α) (hm : ∀ x ∈ l, gt x a = false) :
    l.foldl (step gt) a = a :=
  List.foldlRecOn l (step gt) (motive := (· = a)) rfl fun _ hb x hx => by rw [hb, step, hm x hx]; rfl

theorem firstBest_head (gt : α → α → Bool) (a : α) (l : List α) (hm : ∀ x ∈ l, gt x a = false) :
    firstBest gt (a :: l) = some a := by
  simp only [firstBest, fold_keeps gt a l hm]

theorem firstBest_isSome (gt : α → α → Bool) {l : List α} (h : l ≠ []) : ∃ r, firstBest gt l = some r := by
  cases l with
  | nil => exact absurd rfl h
  | cons a l => exact ⟨_, rfl⟩

theorem firstBest_map_perm {β : Type} {gt : α → α → Bool} (h : StrictOrder gt) (f : α → β) {xs ys : List α}
    (uniq : ∀ a b, Maximal gt xs a → Maximal gt xs b → f a = f b) (hp : ys.Perm xs) :
    (firstBest gt ys).map f = (firstBest gt xs).map f := by
  rcases ys with _ | ⟨y, ys⟩
  · rw [hp.symm.eq_nil]
  · have hne : xs ≠ [] := fun e => List.cons_ne_nil y ys (e ▸ hp).eq_nil
    obtain ⟨r, hx⟩ := firstBest_isSome gt hne
    obtain ⟨r', hy⟩ := firstBest_isSome gt (List.cons_ne_nil y ys)
    rw [hy, hx, Option.map_some, Option.map_some,
      uniq r' r (maximal_perm hp (firstBest_maximal h hy)) (firstBest_maximal h hx)]

theorem numGt_strict : StrictOrder numGt :=
  ⟨fun a => by simp [numGt], fun a b c h1 h2 => by simp [numGt] at *; omega⟩

theorem numLt_strict : StrictOrder numLt :=
  ⟨fun a => by simp [numLt], fun a b c h1 h2 => by simp [numLt] at *; omega⟩

theorem strict_comap {β : Type} {gt : β → β → Bool} (h : StrictOrder gt) (f : α → β) :
    StrictOrder (fun a b => gt (f a) (f b)) :=
  ⟨fun _ => h.irrefl _, fun _ _ _ => h.trans _ _ _⟩

end Proofs.Reduce
