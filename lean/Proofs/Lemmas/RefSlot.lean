import Model.RefSlot
import Spec.RefVal
import Proofs.Lemmas.RefSlotBasic
import Proofs.Lemmas.WSum
/-!
C06 — lemmas about `Model.RefSlot` under `Cfg.counted` (the mark on a slot counts its live binders).

* `WF`: the mark of every cell IS the number of its live binders — an invariant of every program (`wf_run`).
* `Sim L`: the simulation of `Spec.RefVal` for programs that keep the discipline `disc`
  (`sim_run`): a marked cell sits at exactly one position of one array, the position its binders name.
  `L` lists the reference variables that may be live, an over-approximation that lets `disc` be
  checked on the program text. `disc` asks for `L = []` at `lit` and `copy` (`sim_lit`, `sim_copy`
  take `Sim []`): a copy hands over the very cells, so a marked cell would sit in two arrays.
-/
namespace Proofs.RefSlot
open Model.RefSlot

structure WF (s : St) : Prop where
  slots : ∀ a ∈ s.arrs, ∀ c ∈ a, c < s.heap.length
  bound : ∀ (r c : Nat) (k : Kind), s.bnd[r]? = some (some (c, k)) → c < s.heap.length
  count : ∀ (c : Nat) (cl : Cell), s.heap[c]? = some cl → cl.cnt = binders s c

theorem WF.slot {s : St} (h : WF s) {x i c : Nat} {a : List Nat} (hx : s.arrs[x]? = some a) (hi : a[i]? = some c) :
    c < s.heap.length := h.slots a (List.mem_of_getElem? hx) c (List.mem_of_getElem? hi)

theorem WF.bound_cell {s : St} (h : WF s) {r c : Nat} {k : Kind} (hb : s.bnd[r]? = some (some (c, k))) :
    ∃ cl, s.heap[c]? = some cl ∧ 0 < cl.cnt := by
  refine ⟨_, List.getElem?_eq_getElem (h.bound r c k hb), ?_⟩
  rw [h.count c _ (List.getElem?_eq_getElem (h.bound r c k hb))]
  exact binders_pos s r c k hb

theorem wf_init (nv nr : Nat) : WF (init nv nr) := by
  refine ⟨?_, ?_, ?_⟩
  · intro a ha c hc
    cases List.eq_of_mem_replicate ha
    cases hc
  · intro r c k hr
    cases List.eq_of_mem_replicate (List.mem_of_getElem? hr)
  · intro c cl hc
    simp [init] at hc

theorem wf_grow (s : St) (h : WF s) (extra : List Cell) (arrs' : List (List Nat))
    (hex : ∀ cl, cl ∈ extra → cl.cnt = 0)
    (hsl : ∀ a ∈ arrs', ∀ c ∈ a, c < s.heap.length + extra.length) :
    WF ⟨s.heap ++ extra, arrs', s.bnd⟩ := by
  refine ⟨?_, ?_, ?_⟩
  · show ∀ a ∈ arrs', ∀ c ∈ a, c < (s.heap ++ extra).length
    rw [List.length_append]
    exact hsl
  · intro r c k hr
    have := h.bound r c k hr
    show c < (s.heap ++ extra).length
    rw [List.length_append]; omega
  · intro c cl hc
    rcases get_append _ _ _ _ hc with ⟨_, hc'⟩ | ⟨hge, hm⟩
    · exact h.count c cl hc'
    · rw [hex cl hm]
      exact (binders_eq_zero _ c fun r k hr => by have := h.bound r c k hr; omega).symm

theorem wf_replace (s : St) (h : WF s) (x i : Nat) (a : List Nat) (v : Int) (hx : s.arrs[x]? = some a) :
    WF ⟨s.heap ++ [⟨v, 0⟩], s.arrs.set x (a.set i s.heap.length), s.bnd⟩ := by
  apply wf_grow s h
  · intro cl hcl
    simp only [List.mem_singleton] at hcl
    subst hcl; rfl
  · intro a1 h1 c1 h2
    show c1 < s.heap.length + 1
    rcases List.mem_or_eq_of_mem_set h1 with h1 | rfl
    · exact Nat.lt_succ_of_lt (h.slots a1 h1 c1 h2)
    · rcases List.mem_or_eq_of_mem_set h2 with h2 | rfl
      · exact Nat.lt_succ_of_lt (h.slots a (List.mem_of_getElem? hx) c1 h2)
      · exact Nat.lt_succ_self _

theorem wf_inplace (s : St) (h : WF s) (c : Nat) (cl : Cell) (v : Int) (hc : s.heap[c]? = some cl) :
    WF ⟨s.heap.set c ⟨v, cl.cnt⟩, s.arrs, s.bnd⟩ := by
  refine ⟨?_, ?_, ?_⟩
  · show ∀ a ∈ s.arrs, ∀ c1 ∈ a, c1 < (s.heap.set c _).length
    rw [List.length_set]; exact h.slots
  · intro r c1 k hr
    show c1 < (s.heap.set c _).length
    rw [List.length_set]; exact h.bound r c1 k hr
  · intro d cd hd
    rcases get_set _ _ _ _ hc _ _ hd with ⟨h1, h2⟩ | ⟨_, h2⟩
    · subst h1; subst h2; exact h.count d cl hc
    · exact h.count d cd h2

/-- re-pointing the binder `r` from `old` to `new`, both naming no cell but `c`, with the mark of `c` adjusted -/
theorem wf_rebind (s : St) (h : WF s) (r c n : Nat) (cl : Cell) (old new : Option (Nat × Kind))
    (hcl : s.heap[c]? = some cl) (hr : s.bnd[r]? = some old)
    (hold : ∀ d, d ≠ c → bpred d old = false) (hnew : ∀ d, d ≠ c → bpred d new = false)
    (hn : n + (if bpred c old then 1 else 0) = cl.cnt + (if bpred c new then 1 else 0)) :
    WF ⟨s.heap.set c ⟨cl.val, n⟩, s.arrs, s.bnd.set r new⟩ := by
  refine ⟨?_, ?_, ?_⟩
  · show ∀ a ∈ s.arrs, ∀ c1 ∈ a, c1 < (s.heap.set c _).length
    rw [List.length_set]; exact h.slots
  · intro r1 c1 k1 hr1
    show c1 < (s.heap.set c _).length
    rw [List.length_set]
    rcases get_set _ _ _ _ hr _ _ hr1 with ⟨_, e⟩ | ⟨_, h1⟩
    · by_cases hc1 : c1 = c
      · subst hc1; exact lt_of_getElem?_eq_some _ _ _ hcl
      · have := hnew c1 hc1
        rw [← e] at this
        simp [bpred] at this
    · exact h.bound r1 c1 k1 h1
  · intro d cd hd
    have hset := countP_set_add (bpred d) s.bnd r new old hr
    show cd.cnt = (s.bnd.set r new).countP (bpred d)
    rcases get_set _ _ _ _ hcl _ _ hd with ⟨h1, h2⟩ | ⟨h1, h2⟩
    · subst h1; subst h2
      have := h.count d cl hcl
      rw [binders_def] at this
      show n = _
      omega
    · have := h.count d cd h2
      rw [binders_def] at this
      rw [hold d h1, hnew d h1] at hset
      omega

theorem wf_release (s : St) (r : Nat) (h : WF s) : WF (release .counted s r) := by
  fun_cases release Cfg.counted s r
  case case1 c k hb =>
    obtain ⟨cl, hcl, hpos⟩ := h.bound_cell hb
    show WF ⟨decCnt s.heap c, _, _⟩
    rw [decCnt_of_get _ _ _ hcl]
    exact wf_rebind s h r c _ cl _ none hcl hb (fun d hd => by simp [bpred, Ne.symm hd]) (fun _ _ => rfl)
      (by simp only [bpred, beq_self_eq_true, if_true, Bool.false_eq_true, if_false]; omega)
  case case2 => exact h

theorem wf_ownSlot (s s1 : St) (x i c : Nat) (h : WF s) (ho : ownSlot s x i = some (s1, c)) :
    WF s1 ∧ c < s1.heap.length ∧ s1.bnd = s.bnd := by
  revert ho
  -- the arms of `ownSlot`, and of `storeSlot` below: 1–3 refuse (no array `x`, no slot `i`, no cell), 4 the cell is marked, 5 it is not
  fun_cases ownSlot s x i
  case case4 a hx c0 hi cl hcl _ =>
    intro ho; cases ho
    exact ⟨h, lt_of_getElem?_eq_some _ _ _ hcl, rfl⟩
  case case5 a hx c0 hi cl hcl _ =>
    intro ho; cases ho
    exact ⟨wf_replace s h x i a cl.val hx, by show s.heap.length < (s.heap ++ [_]).length; simp, rfl⟩
  all_goals nofun

theorem wf_step (s : St) (op : Op) (h : WF s) : WF (step .counted s op) := by
  unfold step
  -- 1 `lit`, 3 `copy`, 6 `store`, 8 `bind` (where `ownSlot` answers), 10 `wr` through a bound reference, 13 `release`;
  -- 11 (`wr` through an unbound one) answers `s`, the rest refuse
  fun_cases stepOpt Cfg.counted s op
  case case1 x vs hx =>
    refine wf_grow s h _ _ (fun cl hcl => ?_) fun a ha c hc => ?_
    · obtain ⟨v, _, rfl⟩ := List.mem_map.1 hcl; rfl
    · rcases List.mem_or_eq_of_mem_set ha with ha | rfl
      · exact Nat.lt_add_right _ (h.slots a ha c hc)
      · have := List.mem_range'_1.1 hc
        rw [List.length_map]; omega
  case case3 x y hx a hy =>
    refine ⟨fun a1 h1 => ?_, h.bound, h.count⟩
    rcases List.mem_or_eq_of_mem_set h1 with h1 | rfl
    · exact h.slots a1 h1
    · exact h.slots a1 (List.mem_of_getElem? hy)
  case case6 x i v =>
    fun_cases storeSlot s x i v
    case case4 a hx c hi cl hc _ => exact wf_inplace s h c cl v hc
    case case5 a hx c hi cl hc _ => exact wf_replace s h x i a v hx
    all_goals exact h
  case case8 k r x i hr s1 c ho =>
    obtain ⟨hw1, hc1, hb1⟩ := wf_ownSlot _ _ _ _ _ (wf_release s r h) ho
    have hrn : s1.bnd[r]? = some none := by rw [hb1]; exact release_bnd_self _ s r hr
    obtain ⟨cl, hcl⟩ : ∃ cl, s1.heap[c]? = some cl := ⟨_, List.getElem?_eq_getElem hc1⟩
    show WF ⟨incCnt s1.heap c, _, _⟩
    rw [incCnt_of_get _ _ _ hcl]
    exact wf_rebind s1 hw1 r c _ cl none _ hcl hrn (fun _ _ => rfl) (fun d hd => by simp [bpred, Ne.symm hd])
      (by simp only [bpred, beq_self_eq_true, if_true, Bool.false_eq_true, if_false])
  case case10 r v c k hb =>
    obtain ⟨cl, hcl, _⟩ := h.bound_cell hb
    show WF ⟨setVal s.heap c v, _, _⟩
    rw [setVal_of_get _ _ _ _ hcl]
    exact wf_inplace s h c cl v hcl
  case case13 r hr => exact wf_release s r h
  all_goals exact h

theorem wf_stepOpt (s s' : St) (op : Op) (h : WF s) (hs : stepOpt .counted s op = some s') : WF s' := by
  have := wf_step s op h
  rwa [step, hs] at this

theorem wf_run (nv nr : Nat) (ops : List Op) : WF (run .counted nv nr ops) := by
  unfold run
  exact List.foldlRecOn ops (step .counted) (wf_init nv nr) fun s h op _ => wf_step s op h

theorem unmarked_of_no_binder (s : St) (h : WF s)
    (hb : ∀ (r c : Nat) (k : Kind), s.bnd[r]? ≠ some (some (c, k))) :
    ∀ (c : Nat) (cl : Cell), s.heap[c]? = some cl → cl.cnt = 0 := by
  intro c cl hc
  rw [h.count c cl hc]
  exact binders_eq_zero s c (fun r k => hb r c k)

theorem copy_heap_bnd (cfg : Cfg) (s : St) (x y : Nat) :
    (step cfg s (.copy x y)).heap = s.heap ∧ (step cfg s (.copy x y)).bnd = s.bnd := by
  simp only [step, stepOpt]
  by_cases hx : x < s.arrs.length
  · simp only [hx, if_true]
    cases s.arrs[y]? <;> simp
  · simp [hx]

theorem map_cellVal_append (s : St) (hw : WF s) (extra : List Cell) (a : List Nat) (ha : a ∈ s.arrs) :
    a.map (cellVal (s.heap ++ extra)) = a.map (cellVal s.heap) :=
  List.map_congr_left fun c hc => cellVal_append_left _ _ _ (hw.slots a ha c hc)

theorem vals_append (s : St) (hw : WF s) (extra : List Cell) :
    s.arrs.map (fun a => a.map (cellVal (s.heap ++ extra))) = vals s :=
  List.map_congr_left fun a ha => map_cellVal_append s hw extra a ha

theorem store_local_of_unmarked (s : St) (hw : WF s)
    (hu : ∀ (c : Nat) (cl : Cell), s.heap[c]? = some cl → cl.cnt = 0)
    (z i : Nat) (v : Int) (w : Nat) (hwz : w ≠ z) :
    (vals (step .counted s (.store z i v)))[w]? = (vals s)[w]? := by
  show (vals ((storeSlot s z i v).getD s))[w]? = _
  fun_cases storeSlot s z i v
  case case4 a hx c hi cl hc hp => have := hu c cl hc; omega
  case case5 a hx c hi cl hc _ =>
    show ((s.arrs.set z _).map fun a => a.map (cellVal (s.heap ++ [⟨v, 0⟩])))[w]? = _
    rw [List.getElem?_map, List.getElem?_set_ne (Ne.symm hwz), ← List.getElem?_map, vals_append s hw]
  all_goals rfl

/-- `uniq`: a marked cell sits in one slot only, so writing it in place is the reference store to that slot (`sim_inplace`);
`live` / `dead`: a bound reference names, on the spec side, the slot that holds its cell; an unbound one is unbound there -/
structure Sim (L : List Nat) (s : St) (t : Spec.RefVal.St) : Prop where
  arrs : t.arrs = vals s
  len : t.bnd.length = s.bnd.length
  live : ∀ (r c : Nat) (k : Kind), s.bnd[r]? = some (some (c, k)) →
    r ∈ L ∧ ∃ (x i : Nat) (a : List Nat), t.bnd[r]? = some (some (x, i)) ∧ s.arrs[x]? = some a ∧ a[i]? = some c
  dead : ∀ (r : Nat), s.bnd[r]? = some none → t.bnd[r]? = some none
  uniq : ∀ (c : Nat) (cl : Cell), s.heap[c]? = some cl → 0 < cl.cnt →
    ∀ (x : Nat) (a : List Nat) (i x' : Nat) (a' : List Nat) (i' : Nat), s.arrs[x]? = some a → a[i]? = some c → s.arrs[x']? = some a' → a'[i']? = some c →
      x = x' ∧ i = i'

theorem sim_init (nv nr : Nat) : Sim [] (init nv nr) (Spec.RefVal.init nv nr) := by
  refine ⟨?_, ?_, ?_, ?_, ?_⟩
  · simp [vals, init, Spec.RefVal.init]
  · simp [init, Spec.RefVal.init]
  · intro r c k hr
    cases List.eq_of_mem_replicate (List.mem_of_getElem? hr)
  · intro r hr
    simp only [init, Spec.RefVal.init, List.getElem?_replicate] at hr ⊢
    split at hr
    · next hlt => simp only [hlt, if_true]
    · cases hr
  · intro c cl hc
    simp [init] at hc

theorem spec_arrs_get {L : List Nat} {s : St} {t : Spec.RefVal.St} (hs : Sim L s t) (x : Nat) :
    t.arrs[x]? = (s.arrs[x]?).map (fun a => a.map (cellVal s.heap)) := by
  rw [hs.arrs]; simp [vals]

theorem spec_arrs_len {L : List Nat} {s : St} {t : Spec.RefVal.St} (hs : Sim L s t) :
    t.arrs.length = s.arrs.length := by
  rw [hs.arrs]; simp [vals]

theorem spec_store_eq {L : List Nat} {s : St} {t : Spec.RefVal.St} (hs : Sim L s t) (x i : Nat) (v : Int) :
    Spec.RefVal.store t x i v = (s.arrs[x]?).bind fun a =>
      if i < a.length then some ⟨t.arrs.set x ((a.map (cellVal s.heap)).set i v), t.bnd⟩ else none := by
  unfold Spec.RefVal.store
  rw [spec_arrs_get hs x]
  cases s.arrs[x]? with
  | none => rfl
  | some a => simp only [Option.map_some, Option.bind_some, List.length_map]

theorem spec_store_some {L : List Nat} {s : St} {t : Spec.RefVal.St} (hs : Sim L s t)
    (x i c : Nat) (a : List Nat) (v : Int) (hx : s.arrs[x]? = some a) (hi : a[i]? = some c) :
    Spec.RefVal.store t x i v = some ⟨t.arrs.set x ((a.map (cellVal s.heap)).set i v), t.bnd⟩ := by
  rw [spec_store_eq hs, hx, Option.bind_some, if_pos (lt_of_getElem?_eq_some _ _ _ hi)]

theorem sim_mono (L L' : List Nat) (s : St) (t : Spec.RefVal.St) (hs : Sim L s t)
    (hsub : ∀ r, r ∈ L → (∃ c k, s.bnd[r]? = some (some (c, k))) → r ∈ L') : Sim L' s t := by
  refine ⟨hs.arrs, hs.len, ?_, hs.dead, hs.uniq⟩
  intro r c k hr
  obtain ⟨h1, h2⟩ := hs.live r c k hr
  exact ⟨hsub r h1 ⟨c, k, hr⟩, h2⟩

theorem sim_nobinder (s s' : St) (t t' : Spec.RefVal.St) (hs : Sim [] s t) (hw' : WF s')
    (hb : s'.bnd = s.bnd) (hb' : t'.bnd = t.bnd) (ha : t'.arrs = vals s') : Sim [] s' t' := by
  have hno : ∀ (r c : Nat) (k : Kind), s'.bnd[r]? ≠ some (some (c, k)) := by
    intro r c k hr
    rw [hb] at hr
    have := (hs.live r c k hr).1
    cases this
  refine ⟨ha, ?_, ?_, ?_, ?_⟩
  · rw [hb, hb']; exact hs.len
  · intro r c k hr; exact absurd hr (hno r c k)
  · intro r hr; rw [hb] at hr; rw [hb']; exact hs.dead r hr
  · intro c cl hc hpos
    have := unmarked_of_no_binder s' hw' hno c cl hc
    omega

theorem sim_inplace (L : List Nat) (s : St) (t : Spec.RefVal.St) (hs : Sim L s t)
    (x i c : Nat) (a : List Nat) (cl : Cell) (v : Int)
    (hx : s.arrs[x]? = some a) (hi : a[i]? = some c) (hc : s.heap[c]? = some cl) (hpos : 0 < cl.cnt) :
    Sim L ⟨s.heap.set c ⟨v, cl.cnt⟩, s.arrs, s.bnd⟩
      ⟨t.arrs.set x ((a.map (cellVal s.heap)).set i v), t.bnd⟩ := by
  refine ⟨?_, hs.len, hs.live, hs.dead, ?_⟩
  · show t.arrs.set x _ = s.arrs.map (fun a => a.map (cellVal (s.heap.set c ⟨v, cl.cnt⟩)))
    rw [hs.arrs]
    symm
    apply vals_set_unique s.arrs _ _ x i c a v hx hi
    · exact cellVal_set_self _ _ _ _ hc
    · intro c' hne; exact cellVal_set_ne _ _ _ _ hne
    · intro x' a' i' h1 h2
      exact hs.uniq c cl hc hpos x' a' i' x a i h1 h2 hx hi
  · intro d cd hd hp x1 a1 i1 x2 a2 i2 h1 h2 h3 h4
    rcases get_set _ _ _ _ hc _ _ hd with ⟨e1, _⟩ | ⟨_, e2⟩
    · subst e1
      exact hs.uniq d cl hc hpos x1 a1 i1 x2 a2 i2 h1 h2 h3 h4
    · exact hs.uniq d cd e2 hp x1 a1 i1 x2 a2 i2 h1 h2 h3 h4

theorem sim_replace (L : List Nat) (s : St) (t : Spec.RefVal.St) (hw : WF s) (hs : Sim L s t)
    (x i c : Nat) (a : List Nat) (cl : Cell) (v : Int)
    (hx : s.arrs[x]? = some a) (hi : a[i]? = some c) (hc : s.heap[c]? = some cl) (h0 : cl.cnt = 0) :
    Sim L ⟨s.heap ++ [⟨v, 0⟩], s.arrs.set x (a.set i s.heap.length), s.bnd⟩
      ⟨t.arrs.set x ((a.map (cellVal s.heap)).set i v), t.bnd⟩ := by
  refine ⟨?_, hs.len, ?_, hs.dead, ?_⟩
  · show t.arrs.set x _ =
      (s.arrs.set x (a.set i s.heap.length)).map (fun a => a.map (cellVal (s.heap ++ [⟨v, 0⟩])))
    simp only [List.map_set]
    rw [vals_append s hw, map_cellVal_append s hw _ a (List.mem_of_getElem? hx), cellVal_append_new, hs.arrs]
  · intro r c' k hr
    obtain ⟨hrL, x0, i0, a0, ht, h1, h2⟩ := hs.live r c' k hr
    refine ⟨hrL, x0, i0, ?_⟩
    have hne : ¬ (x0 = x ∧ i0 = i) := by
      rintro ⟨e1, e2⟩
      subst e1; subst e2
      rw [hx] at h1; cases h1
      rw [hi] at h2; cases h2
      obtain ⟨cl', hc', hp⟩ := hw.bound_cell hr
      rw [hc] at hc'; cases hc'
      omega
    obtain ⟨a1, h3, h4⟩ := (slot_set s.arrs x i s.heap.length c a hx hi x0 i0 c').mpr
      (by rw [if_neg hne]; exact ⟨a0, h1, h2⟩)
    exact ⟨a1, ht, h3, h4⟩
  · intro d cd hd hp x1 a1 i1 x2 a2 i2 h1 h2 h3 h4
    rcases get_append _ _ _ _ hd with ⟨e1, e2⟩ | ⟨_, hm⟩
    case inr => cases List.mem_singleton.1 hm; cases hp
    · -- `d` is not the fresh cell: both slots are old ones
      have old : ∀ (x' : Nat) (a' : List Nat) (i' : Nat), (s.arrs.set x (a.set i s.heap.length))[x']? = some a' → a'[i']? = some d →
          ∃ a0, s.arrs[x']? = some a0 ∧ a0[i']? = some d := by
        intro x' a' i' g1 g2
        have := (slot_set s.arrs x i s.heap.length c a hx hi x' i' d).mp ⟨a', g1, g2⟩
        split at this
        · omega
        · exact this
      obtain ⟨b1, g1, g2⟩ := old x1 a1 i1 h1 h2
      obtain ⟨b2, g3, g4⟩ := old x2 a2 i2 h3 h4
      exact hs.uniq d cd e2 hp x1 b1 i1 x2 b2 i2 g1 g2 g3 g4

/-- The simulation side of `wf_rebind`. `hlive` / `hdead`: `new'` is to `new` what `Sim.live` / `Sim.dead` ask for. -/
theorem sim_rebind (L L' : List Nat) (s : St) (t : Spec.RefVal.St) (hs : Sim L s t) (r c n : Nat) (cl : Cell)
    (old new : Option (Nat × Kind)) (new' : Option (Nat × Nat))
    (hcl : s.heap[c]? = some cl) (hr : s.bnd[r]? = some old)
    (hL : ∀ r1, r1 ∈ L → r1 ≠ r → r1 ∈ L')
    (hlive : ∀ c1 k1, new = some (c1, k1) →
      r ∈ L' ∧ ∃ (x i : Nat) (a : List Nat), new' = some (x, i) ∧ s.arrs[x]? = some a ∧ a[i]? = some c1)
    (hdead : new = none → new' = none)
    (hu : 0 < n → ∀ (x : Nat) (a : List Nat) (i x' : Nat) (a' : List Nat) (i' : Nat),
      s.arrs[x]? = some a → a[i]? = some c → s.arrs[x']? = some a' → a'[i']? = some c → x = x' ∧ i = i') :
    Sim L' ⟨s.heap.set c ⟨cl.val, n⟩, s.arrs, s.bnd.set r new⟩ ⟨t.arrs, t.bnd.set r new'⟩ := by
  have hrt : r < t.bnd.length := by
    have := hs.len
    have := lt_of_getElem?_eq_some _ _ _ hr
    omega
  refine ⟨?_, ?_, ?_, ?_, ?_⟩
  · show t.arrs = s.arrs.map (fun a => a.map (cellVal (s.heap.set c ⟨cl.val, n⟩)))
    have : cellVal (s.heap.set c ⟨cl.val, n⟩) = cellVal s.heap := funext (cellVal_set_same _ _ _ _ hcl)
    rw [this]; exact hs.arrs
  · show (t.bnd.set r _).length = (s.bnd.set r _).length
    rw [List.length_set, List.length_set]; exact hs.len
  · intro r1 c1 k1 hr1
    show r1 ∈ L' ∧ ∃ x0 i0 a0, (t.bnd.set r new')[r1]? = some (some (x0, i0)) ∧ _
    rcases get_set _ _ _ _ hr _ _ hr1 with ⟨rfl, e⟩ | ⟨hne, h1⟩
    · obtain ⟨hrL, x, i, a, e', hx, hi⟩ := hlive c1 k1 e.symm
      exact ⟨hrL, x, i, a, by rw [e']; exact List.getElem?_set_self hrt, hx, hi⟩
    · rw [List.getElem?_set_ne (Ne.symm hne)]
      obtain ⟨h1', h2⟩ := hs.live r1 c1 k1 h1
      exact ⟨hL r1 h1' hne, h2⟩
  · intro r1 hr1
    show (t.bnd.set r new')[r1]? = some none
    rcases get_set _ _ _ _ hr _ _ hr1 with ⟨rfl, e⟩ | ⟨hne, h1⟩
    · rw [hdead e.symm]; exact List.getElem?_set_self hrt
    · rw [List.getElem?_set_ne (Ne.symm hne)]; exact hs.dead r1 h1
  · intro d cd hd hp
    rcases get_set _ _ _ _ hcl _ _ hd with ⟨e1, e2⟩ | ⟨_, e2⟩
    · subst e1; subst e2; exact hu hp
    · exact hs.uniq d cd e2 hp

/-- the last stage of `bind`, after `ownSlot` -/
theorem sim_bind_final (L : List Nat) (s1 : St) (t : Spec.RefVal.St) (hw : WF s1) (hs : Sim L s1 t)
    (r c x i : Nat) (k : Kind) (a : List Nat) (hr : s1.bnd[r]? = some none)
    (hx : s1.arrs[x]? = some a) (hi : a[i]? = some c)
    (hu : ∀ (x' : Nat) (a' : List Nat) (i' : Nat), s1.arrs[x']? = some a' → a'[i']? = some c → x' = x ∧ i' = i) :
    Sim (r :: L) ⟨incCnt s1.heap c, s1.arrs, s1.bnd.set r (some (c, k))⟩
      ⟨t.arrs, t.bnd.set r (some (x, i))⟩ := by
  obtain ⟨cl, hcl⟩ : ∃ cl, s1.heap[c]? = some cl := ⟨_, List.getElem?_eq_getElem (hw.slot hx hi)⟩
  rw [incCnt_of_get _ _ _ hcl]
  refine sim_rebind L _ s1 t hs r c _ cl none (some (c, k)) (some (x, i)) hcl hr
    (fun r1 h1 _ => List.mem_cons_of_mem _ h1) ?_ (fun e => by cases e) ?_
  · intro c1 k1 e
    cases e
    exact ⟨List.mem_cons_self, x, i, a, rfl, hx, hi⟩
  · intro _ x1 a1 i1 x2 a2 i2 h1 h2 h3 h4
    obtain ⟨g1, g2⟩ := hu x1 a1 i1 h1 h2
    obtain ⟨g3, g4⟩ := hu x2 a2 i2 h3 h4
    exact ⟨g1.trans g3.symm, g2.trans g4.symm⟩

theorem sim_release (L : List Nat) (s : St) (t : Spec.RefVal.St) (hw : WF s) (hs : Sim L s t)
    (r : Nat) (hr : r < s.bnd.length) :
    Sim (L.filter (· != r)) (release .counted s r) ⟨t.arrs, t.bnd.set r none⟩ := by
  obtain ⟨b, hb⟩ : ∃ b, s.bnd[r]? = some b := ⟨_, List.getElem?_eq_getElem hr⟩
  cases b with
  | none =>
    rw [release_unbound _ _ _ hb, Proofs.Heap.list_set_same _ _ _ (hs.dead r hb)]
    apply sim_mono L _ s t hs
    intro r1 h1 ⟨c, k, h2⟩
    exact List.mem_filter.2 ⟨h1, bne_iff_ne.2 fun e => by subst e; rw [hb] at h2; cases h2⟩
  | some p =>
    obtain ⟨c, k⟩ := p
    obtain ⟨cl, hcl, _⟩ := hw.bound_cell hb
    rw [release_bound s r c k cl hb hcl]
    exact sim_rebind L _ s t hs r c _ cl _ none none hcl hb
      (fun r1 h1 hne => List.mem_filter.2 ⟨h1, bne_iff_ne.2 hne⟩) (fun _ _ e => by cases e) (fun _ => rfl)
      (fun hp => hs.uniq c cl hcl (by omega))

/-- `Option.Rel R a b`: two partial steps refuse together or go on to related states. Model and reference semantics are
`Option`-valued with the same guards and `step = getD`: `rel_ite` splits a guard of both at once, `rel_getD` gives the statement about `step`. -/
theorem rel_ite {σ τ : Type} {R : σ → τ → Prop} {p q : Prop} [Decidable p] [Decidable q]
    {a : Option σ} {b : Option τ} (hpq : p ↔ q) (h : p → Option.Rel R a b) :
    Option.Rel R (if p then a else none) (if q then b else none) := by
  by_cases hp : p
  · rw [if_pos hp, if_pos (hpq.1 hp)]; exact h hp
  · rw [if_neg hp, if_neg (fun hq => hp (hpq.2 hq))]; exact .none

theorem rel_getD {σ τ : Type} {R : σ → τ → Prop} {a : Option σ} {b : Option τ} {s : σ}
    {t : τ} (h : Option.Rel R a b) (h0 : a = none → R s t) : R (a.getD s) (b.getD t) := by
  cases h with
  | none => exact h0 rfl
  | some h => exact h

theorem rel_step {L' : List Nat} {s : St} {t : Spec.RefVal.St} {op : Op}
    (h : Option.Rel (Sim L') (stepOpt .counted s op) (Spec.RefVal.stepOpt t op))
    (h0 : stepOpt .counted s op = none → Sim L' s t) :
    Sim L' (Model.RefSlot.step .counted s op) (Spec.RefVal.step t op) := rel_getD h h0

theorem sim_lit (s : St) (t : Spec.RefVal.St) (x : Nat) (vs : List Int) (hw : WF s) (hs : Sim [] s t) :
    Sim [] (step .counted s (.lit x vs)) (Spec.RefVal.step t (.lit x vs)) := by
  refine rel_step (rel_ite (by rw [spec_arrs_len hs]) fun hx => .some ?_) fun _ => hs
  refine sim_nobinder s _ t ⟨t.arrs.set x vs, t.bnd⟩ hs
    (wf_stepOpt s _ (.lit x vs) hw (by simp only [stepOpt, hx, ↓reduceIte])) rfl rfl ?_
  show t.arrs.set x vs = (s.arrs.set x (List.range' s.heap.length vs.length)).map
    (fun a => a.map (cellVal (s.heap ++ vs.map (fun v => ⟨v, 0⟩))))
  simp only [List.map_set]
  rw [vals_append s hw, map_cellVal_range', hs.arrs]

theorem sim_copy (s : St) (t : Spec.RefVal.St) (x y : Nat) (hw : WF s) (hs : Sim [] s t) :
    Sim [] (step .counted s (.copy x y)) (Spec.RefVal.step t (.copy x y)) := by
  refine rel_step (rel_ite (by rw [spec_arrs_len hs]) fun hx => ?_) fun _ => hs
  rw [spec_arrs_get hs y]
  cases hy : s.arrs[y]? with
  | none => exact .none
  | some a =>
    refine .some (sim_nobinder s _ t ⟨t.arrs.set x (a.map (cellVal s.heap)), t.bnd⟩ hs
      (wf_stepOpt s _ (.copy x y) hw (by simp only [stepOpt, hx, hy, ↓reduceIte])) rfl rfl ?_)
    show t.arrs.set x _ = (s.arrs.set x a).map (fun a => a.map (cellVal s.heap))
    simp only [List.map_set]
    rw [hs.arrs]; rfl

theorem sim_release_step (L : List Nat) (s : St) (t : Spec.RefVal.St) (r : Nat)
    (hw : WF s) (hs : Sim L s t) :
    Sim (L.filter (· != r)) (step .counted s (.release r)) (Spec.RefVal.step t (.release r)) := by
  refine rel_step (rel_ite (by rw [hs.len]) fun hr => .some (sim_release L s t hw hs r hr)) fun hn => ?_
  have hr : ¬ r < s.bnd.length := fun hr => by simp only [stepOpt, hr, ↓reduceIte] at hn; cases hn
  refine sim_mono L _ s t hs fun r1 h1 ⟨c, k, h2⟩ => List.mem_filter.2 ⟨h1, bne_iff_ne.2 fun e => hr ?_⟩
  subst e; exact lt_of_getElem?_eq_some _ _ _ h2

theorem both_store (L : List Nat) (s : St) (t : Spec.RefVal.St) (x i : Nat) (v : Int) (hw : WF s) (hs : Sim L s t) :
    Option.Rel (Sim L) (storeSlot s x i v) (Spec.RefVal.store t x i v) := by
  rw [spec_store_eq hs]
  fun_cases storeSlot s x i v
  case case1 hx => rw [hx]; exact .none
  case case2 a hx hi => rw [hx, Option.bind_some, if_neg (Nat.not_lt.2 (List.getElem?_eq_none_iff.1 hi))]; exact .none
  case case3 a hx c hi hc => exact absurd (hw.slot hx hi) (Nat.not_lt.2 (List.getElem?_eq_none_iff.1 hc))
  case case4 a hx c hi cl hc hp =>
    rw [hx, Option.bind_some, if_pos (lt_of_getElem?_eq_some _ _ _ hi)]
    exact .some (sim_inplace L s t hs x i c a cl v hx hi hc hp)
  case case5 a hx c hi cl hc h0 =>
    rw [hx, Option.bind_some, if_pos (lt_of_getElem?_eq_some _ _ _ hi)]
    exact .some (sim_replace L s t hw hs x i c a cl v hx hi hc (Nat.eq_zero_of_not_pos h0))

theorem sim_store (L : List Nat) (s : St) (t : Spec.RefVal.St) (x i : Nat) (v : Int) (hw : WF s) (hs : Sim L s t) :
    Sim L (step .counted s (.store x i v)) (Spec.RefVal.step t (.store x i v)) :=
  rel_step (both_store L s t x i v hw hs) fun _ => hs

theorem sim_wr (L : List Nat) (s : St) (t : Spec.RefVal.St) (r : Nat) (v : Int) (hw : WF s) (hs : Sim L s t) :
    Sim L (step .counted s (.wr r v)) (Spec.RefVal.step t (.wr r v)) := by
  refine rel_step ?_ fun _ => hs
  simp only [stepOpt, Spec.RefVal.stepOpt]
  cases hb : s.bnd[r]? with
  | none =>
    have hb' : t.bnd[r]? = none := by
      have := hs.len
      simp only [List.getElem?_eq_none_iff] at hb ⊢
      omega
    rw [hb']; exact .none
  | some b =>
    cases b with
    | none => rw [hs.dead r hb]; exact .some hs
    | some p =>
      obtain ⟨c, k⟩ := p
      obtain ⟨_, x, i, a, hb', hx, hi⟩ := hs.live r c k hb
      obtain ⟨cl, hcl, hp⟩ := hw.bound_cell hb
      rw [hb']
      dsimp only
      rw [spec_store_some hs x i c a v hx hi, setVal_of_get _ _ _ _ hcl]
      exact .some (sim_inplace L s t hs x i c a cl v hx hi hcl hp)

theorem sim_bind (L : List Nat) (s : St) (t : Spec.RefVal.St) (k : Kind) (r x i : Nat)
    (hw : WF s) (hs : Sim L s t) (hrL : r ∉ L) :
    Sim (r :: L) (step .counted s (.bind k r x i)) (Spec.RefVal.step t (.bind k r x i)) := by
  refine rel_step (rel_ite (by rw [hs.len]) fun hr => ?_)
    fun _ => sim_mono L _ s t hs (fun r1 h1 _ => List.mem_cons_of_mem _ h1)
  obtain ⟨b, hb⟩ : ∃ b, s.bnd[r]? = some b := ⟨_, List.getElem?_eq_getElem hr⟩
  obtain rfl : b = none := by
    cases b with
    | none => rfl
    | some p => exact absurd (hs.live r p.1 p.2 hb).1 hrL
  rw [release_unbound .counted s r hb, spec_arrs_get hs x]
  have hx' := spec_arrs_get hs x
  fun_cases ownSlot s x i
  case case1 hx => rw [hx]; exact .none
  case case2 a hx hi =>
    simp only [hx, Option.map_some, List.length_map, Nat.not_lt.2 (List.getElem?_eq_none_iff.1 hi), ↓reduceIte]
    exact .none
  case case3 a hx c hi hc => exact absurd (hw.slot hx hi) (Nat.not_lt.2 (List.getElem?_eq_none_iff.1 hc))
  case case4 a hx c hi cl hcl hp =>
    simp only [hx, Option.map_some, List.length_map, lt_of_getElem?_eq_some _ _ _ hi, ↓reduceIte]
    exact .some (sim_bind_final L s t hw hs r c x i k a hb hx hi fun x1 a1 i1 g1 g2 =>
      hs.uniq c cl hcl hp x1 a1 i1 x a i g1 g2 hx hi)
  case case5 a hx c0 hi cl hcl h0 =>
    have hlt := lt_of_getElem?_eq_some _ _ _ hi
    simp only [hx, Option.map_some, List.length_map, hlt, ↓reduceIte]
    refine .some ?_
    -- the cell is replaced by one of this array alone (a store of the value it holds), then bound
    have hs1 := sim_replace L s t hw hs x i c0 a cl cl.val hx hi hcl (Nat.eq_zero_of_not_pos h0)
    have ea : (a.map (cellVal s.heap)).set i cl.val = a.map (cellVal s.heap) := by
      apply Proofs.Heap.list_set_same
      rw [List.getElem?_map, hi, Option.map_some, cellVal_of_get _ _ _ hcl]
    rw [hx] at hx'
    rw [ea, Proofs.Heap.list_set_same _ _ _ hx'] at hs1
    apply sim_bind_final L _ t (wf_replace s hw x i a cl.val hx) hs1 r s.heap.length x i k _ hb
      (List.getElem?_set_self (lt_of_getElem?_eq_some _ _ _ hx)) (List.getElem?_set_self hlt)
    intro x1 a1 i1 g3 g4
    have := (slot_set s.arrs x i s.heap.length c0 a hx hi x1 i1 _).mp ⟨a1, g3, g4⟩
    split at this
    · assumption
    · obtain ⟨a0, f1, f2⟩ := this
      have := hw.slot f1 f2
      omega

/-- `disc` threads the list of binders that may be live; its own induction principle supplies that list statement by statement -/
theorem sim_fold (ops : List Op) (L : List Nat) (s : St) (t : Spec.RefVal.St)
    (hw : WF s) (hs : Sim L s t) (hd : disc L ops = true) :
    ∃ L', Sim L' (ops.foldl (step .counted) s) (ops.foldl Spec.RefVal.step t) := by
  fun_induction disc L ops generalizing s t
  case case1 L => exact ⟨L, hs⟩
  case case2 L x vs r ih =>
    simp only [Bool.and_eq_true, List.isEmpty_iff] at hd
    obtain ⟨rfl, hd⟩ := hd
    exact ih _ _ (wf_step s _ hw) (sim_lit s t x vs hw hs) hd
  case case3 L x y r ih =>
    simp only [Bool.and_eq_true, List.isEmpty_iff] at hd
    obtain ⟨rfl, hd⟩ := hd
    exact ih _ _ (wf_step s _ hw) (sim_copy s t x y hw hs) hd
  case case4 L k b x i r ih =>
    simp only [Bool.and_eq_true, Bool.not_eq_true', List.contains_eq_mem, decide_eq_false_iff_not] at hd
    exact ih _ _ (wf_step s _ hw) (sim_bind L s t k b x i hw hs hd.1) hd.2
  case case5 L b r ih => exact ih _ _ (wf_step s _ hw) (sim_release_step L s t b hw hs) hd
  case case6 L x i v r ih => exact ih _ _ (wf_step s _ hw) (sim_store L s t x i v hw hs) hd
  case case7 L r v r' ih => exact ih _ _ (wf_step s _ hw) (sim_wr L s t r v hw hs) hd

theorem sim_run (nv nr : Nat) (ops : List Op) (hd : disc [] ops = true) :
    ∃ L, Sim L (run .counted nv nr ops) (Spec.RefVal.run nv nr ops) :=
  sim_fold ops [] _ _ (wf_init nv nr) (sim_init nv nr) hd

end Proofs.RefSlot
