import Model.RefSlot
/-!
C06 — facts about lists and about the cells of `Model.RefSlot`, before any invariant: a cell's value is untouched by changes of
its mark (`cellVal_set_same`); revaluing a cell that sits in one slot is a `set` there (`vals_set_unique`).

`ownSlot_some` / `_none` and `storeSlot_some` / `_none` say what the two functions do, outcome by outcome, and the
`length_*` / `cellVal_incCnt` / `cellVal_decCnt` lemmas what the cell operations leave alone; no proof uses them
(`Proofs.Lemmas.RefSlot` takes the five arms of `ownSlot` / `storeSlot` from `fun_cases`, legend there).
-/
namespace Proofs.RefSlot
open Model.RefSlot

/-- `List.countP_set` without truncated subtraction -/
theorem countP_set_add {α : Type} (p : α → Bool) (l : List α) (i : Nat) (a old : α)
    (h : l[i]? = some old) :
    (l.set i a).countP p + (if p old then 1 else 0) = l.countP p + (if p a then 1 else 0) := by
  obtain ⟨hlt, rfl⟩ := List.getElem?_eq_some_iff.mp h
  have := List.boole_getElem_le_countP (p := p) hlt
  rw [List.countP_set hlt]; omega

theorem lt_of_getElem?_eq_some {α : Type} (l : List α) (i : Nat) (a : α) (h : l[i]? = some a) :
    i < l.length := (List.getElem?_eq_some_iff.mp h).1

theorem map_eq_set_map {α β : Type} (g g' : α → β) (l : List α) (i : Nat) (x : α) (hx : l[i]? = some x)
    (h : ∀ (j : Nat) (y : α), l[j]? = some y → j ≠ i → g' y = g y) :
    l.map g' = (l.map g).set i (g' x) := by
  apply List.ext_getElem?
  intro j
  rw [List.getElem?_set]
  simp only [List.getElem?_map, List.length_map]
  by_cases hij : i = j
  · subst hij
    simp only [hx, Option.map_some, if_true, (List.getElem?_eq_some_iff.mp hx).1]
  · simp only [hij, if_false]
    cases hy : l[j]? with
    | none => rfl
    | some y => simp only [Option.map_some]; rw [h j y hy (fun e => hij e.symm)]

theorem vals_set_unique (arrs : List (List Nat)) (f f' : Nat → Int) (x i c : Nat) (a : List Nat) (v : Int)
    (hx : arrs[x]? = some a) (hi : a[i]? = some c) (hv : f' c = v)
    (hne : ∀ c', c' ≠ c → f' c' = f c')
    (hu : ∀ (x' : Nat) (a' : List Nat) (i' : Nat), arrs[x']? = some a' → a'[i']? = some c → x' = x ∧ i' = i) :
    arrs.map (fun a => a.map f') = (arrs.map (fun a => a.map f)).set x ((a.map f).set i v) := by
  have inner : a.map f' = (a.map f).set i v := by
    rw [← hv]
    apply map_eq_set_map f f' a i c hi
    intro i' c' hc' hii
    exact hne c' (fun e => hii (hu x a i' hx (e ▸ hc')).2)
  rw [← inner]
  apply map_eq_set_map (fun a => a.map f) (fun a => a.map f') arrs x a hx
  intro x' a' hx' hxx
  apply List.map_congr_left
  intro c' hc'
  obtain ⟨i', hi'⟩ := List.getElem?_of_mem hc'
  exact hne c' (fun e => hxx (hu x' a' i' hx' (e ▸ hi')).1)

theorem slot_set (arrs : List (List Nat)) (x i n c : Nat) (a : List Nat) (hx : arrs[x]? = some a)
    (hi : a[i]? = some c) (x1 i1 d : Nat) :
    (∃ a1, (arrs.set x (a.set i n))[x1]? = some a1 ∧ a1[i1]? = some d) ↔
      if x1 = x ∧ i1 = i then d = n else ∃ a0, arrs[x1]? = some a0 ∧ a0[i1]? = some d := by
  have hxl := lt_of_getElem?_eq_some _ _ _ hx
  have hil := lt_of_getElem?_eq_some _ _ _ hi
  by_cases hxx : x1 = x
  · subst hxx
    by_cases hii : i1 = i
    · subst hii
      simp [List.getElem?_set_self hxl, List.getElem?_set_self hil, eq_comm]
    · simp [hii, List.getElem?_set_self hxl, List.getElem?_set_ne (Ne.symm hii), hx]
  · simp [hxx, List.getElem?_set_ne (Ne.symm hxx)]

theorem cellVal_append_left (h e : List Cell) (c : Nat) (hc : c < h.length) :
    cellVal (h ++ e) c = cellVal h c := by
  unfold cellVal
  rw [List.getElem?_append_left hc]

theorem cellVal_append_new (h : List Cell) (v : Int) (n : Nat) :
    cellVal (h ++ [⟨v, n⟩]) h.length = v := by
  unfold cellVal
  rw [List.getElem?_append_right (Nat.le_refl _)]
  simp

theorem cellVal_of_get (h : List Cell) (c : Nat) (cl : Cell) (hc : h[c]? = some cl) :
    cellVal h c = cl.val := by
  unfold cellVal; rw [hc]

theorem map_cellVal_range' (vs : List Int) : ∀ (h : List Cell),
    (List.range' h.length vs.length).map (cellVal (h ++ vs.map (fun v => ⟨v, 0⟩))) = vs := by
  induction vs with
  | nil => intro h; rfl
  | cons v vs ih =>
    intro h
    have := ih (h ++ [⟨v, 0⟩])
    simp only [List.length_append, List.length_cons, List.length_nil, List.append_assoc,
      List.cons_append, List.nil_append] at this
    simp only [List.length_cons, List.range'_succ, List.map_cons]
    rw [this]
    congr 1
    unfold cellVal
    rw [List.getElem?_append_right (Nat.le_refl _)]
    simp

theorem length_setVal (h : List Cell) (c : Nat) (v : Int) : (setVal h c v).length = h.length := by
  unfold setVal; split <;> simp

theorem length_incCnt (h : List Cell) (c : Nat) : (incCnt h c).length = h.length := by
  unfold incCnt; split <;> simp

theorem length_decCnt (h : List Cell) (c : Nat) : (decCnt h c).length = h.length := by
  unfold decCnt; split <;> simp

theorem incCnt_of_get (h : List Cell) (c : Nat) (cl : Cell) (hc : h[c]? = some cl) :
    incCnt h c = h.set c ⟨cl.val, cl.cnt + 1⟩ := by
  unfold incCnt; rw [hc]

theorem decCnt_of_get (h : List Cell) (c : Nat) (cl : Cell) (hc : h[c]? = some cl) :
    decCnt h c = h.set c ⟨cl.val, cl.cnt - 1⟩ := by
  unfold decCnt; rw [hc]

theorem setVal_of_get (h : List Cell) (c : Nat) (cl : Cell) (v : Int) (hc : h[c]? = some cl) :
    setVal h c v = h.set c ⟨v, cl.cnt⟩ := by
  unfold setVal; rw [hc]

theorem cellVal_set_same (h : List Cell) (c : Nat) (cl : Cell) (n : Nat) (hc : h[c]? = some cl) (d : Nat) :
    cellVal (h.set c ⟨cl.val, n⟩) d = cellVal h d := by
  unfold cellVal
  rw [List.getElem?_set]
  by_cases hcd : c = d
  · subst hcd
    have hlt := lt_of_getElem?_eq_some _ _ _ hc
    simp only [hlt, if_true, hc]
  · simp only [hcd, if_false]

theorem cellVal_set_self (h : List Cell) (c : Nat) (cl cl' : Cell) (hc : h[c]? = some cl) :
    cellVal (h.set c cl') c = cl'.val := by
  unfold cellVal
  have hlt := lt_of_getElem?_eq_some _ _ _ hc
  rw [List.getElem?_set]
  simp only [hlt, if_true]

theorem cellVal_set_ne (h : List Cell) (c d : Nat) (cl' : Cell) (hne : d ≠ c) :
    cellVal (h.set c cl') d = cellVal h d := by
  unfold cellVal
  rw [List.getElem?_set]
  have : ¬ c = d := fun e => hne e.symm
  simp only [this, if_false]

theorem cellVal_incCnt (h : List Cell) (c d : Nat) : cellVal (incCnt h c) d = cellVal h d := by
  cases hc : h[c]? with
  | none => unfold incCnt; rw [hc]
  | some cl => rw [incCnt_of_get h c cl hc]; exact cellVal_set_same h c cl _ hc d

theorem cellVal_decCnt (h : List Cell) (c d : Nat) : cellVal (decCnt h c) d = cellVal h d := by
  cases hc : h[c]? with
  | none => unfold decCnt; rw [hc]
  | some cl => rw [decCnt_of_get h c cl hc]; exact cellVal_set_same h c cl _ hc d

theorem get_set {α : Type} (l : List α) (c : Nat) (old x : α) (hc : l[c]? = some old) (d : Nat) (y : α)
    (hd : (l.set c x)[d]? = some y) :
    (d = c ∧ y = x) ∨ (d ≠ c ∧ l[d]? = some y) := by
  rw [List.getElem?_set] at hd
  split at hd
  · next hcd =>
    subst hcd
    simp only [lt_of_getElem?_eq_some _ _ _ hc, if_true] at hd
    cases hd
    exact Or.inl ⟨rfl, rfl⟩
  · next hcd => exact Or.inr ⟨fun e => hcd e.symm, hd⟩

theorem get_append {α : Type} (h e : List α) (d : Nat) (cd : α) (hd : (h ++ e)[d]? = some cd) :
    (d < h.length ∧ h[d]? = some cd) ∨ (h.length ≤ d ∧ cd ∈ e) := by
  rw [List.getElem?_append] at hd
  split at hd
  · next hlt => exact .inl ⟨hlt, hd⟩
  · next hlt => exact .inr ⟨Nat.le_of_not_lt hlt, List.mem_of_getElem? hd⟩

def bpred (d : Nat) (b : Option (Nat × Kind)) : Bool :=
  match b with
  | some (c', _) => c' == d
  | none => false

theorem binders_def (s : St) (d : Nat) : binders s d = s.bnd.countP (bpred d) := rfl

theorem binders_eq_zero (s : St) (c : Nat) (h : ∀ (r : Nat) (k : Kind), s.bnd[r]? ≠ some (some (c, k))) :
    binders s c = 0 := by
  unfold binders
  rw [List.countP_eq_zero]
  intro b hb
  obtain ⟨r, hr⟩ := List.getElem?_of_mem hb
  cases b with
  | none => simp
  | some p =>
    obtain ⟨c', k⟩ := p
    simp only [beq_iff_eq]
    intro hc
    subst hc
    exact h r k hr

theorem binders_pos (s : St) (r c : Nat) (k : Kind) (h : s.bnd[r]? = some (some (c, k))) :
    0 < binders s c := by
  unfold binders
  rw [List.countP_pos_iff]
  exact ⟨some (c, k), List.mem_of_getElem? h, by simp⟩

theorem ownSlot_some (s s1 : St) (x i c : Nat) (h : ownSlot s x i = some (s1, c)) :
    ∃ (a : List Nat) (c0 : Nat) (cl : Cell), s.arrs[x]? = some a ∧ a[i]? = some c0 ∧ s.heap[c0]? = some cl ∧
      ((0 < cl.cnt ∧ s1 = s ∧ c = c0) ∨
       (cl.cnt = 0 ∧ s1 = ⟨s.heap ++ [⟨cl.val, 0⟩], s.arrs.set x (a.set i s.heap.length), s.bnd⟩ ∧
         c = s.heap.length)) := by
  revert h
  fun_cases ownSlot s x i
  case case4 a hx c0 hi cl hc hpos => intro h; cases h; exact ⟨a, _, cl, hx, hi, hc, .inl ⟨hpos, rfl, rfl⟩⟩
  case case5 a hx c0 hi cl hc h0 => intro h; cases h; exact ⟨a, c0, cl, hx, hi, hc, .inr ⟨by omega, rfl, rfl⟩⟩
  all_goals nofun

theorem ownSlot_none (s : St) (x i : Nat)
    (hsl : ∀ a c, s.arrs[x]? = some a → a[i]? = some c → c < s.heap.length) (h : ownSlot s x i = none) :
    ∀ a, s.arrs[x]? = some a → a[i]? = none := by
  revert h
  fun_cases ownSlot s x i
  case case1 hx => intro _ a ha; rw [hx] at ha; cases ha
  case case2 a hx hi => intro _ a' ha'; rw [hx] at ha'; cases ha'; exact hi
  case case3 a hx c hi hc => exact absurd (hsl a c hx hi) (Nat.not_lt.2 (List.getElem?_eq_none_iff.1 hc))
  all_goals nofun

theorem storeSlot_some (s s1 : St) (x i : Nat) (v : Int) (h : storeSlot s x i v = some s1) :
    ∃ (a : List Nat) (c0 : Nat) (cl : Cell), s.arrs[x]? = some a ∧ a[i]? = some c0 ∧ s.heap[c0]? = some cl ∧
      ((0 < cl.cnt ∧ s1 = ⟨s.heap.set c0 ⟨v, cl.cnt⟩, s.arrs, s.bnd⟩) ∨
       (cl.cnt = 0 ∧ s1 = ⟨s.heap ++ [⟨v, 0⟩], s.arrs.set x (a.set i s.heap.length), s.bnd⟩)) := by
  revert h
  fun_cases storeSlot s x i v
  case case4 a hx c0 hi cl hc hpos => intro h; cases h; exact ⟨a, c0, cl, hx, hi, hc, .inl ⟨hpos, rfl⟩⟩
  case case5 a hx c0 hi cl hc h0 => intro h; cases h; exact ⟨a, c0, cl, hx, hi, hc, .inr ⟨by omega, rfl⟩⟩
  all_goals nofun

theorem storeSlot_none (s : St) (x i : Nat) (v : Int)
    (hsl : ∀ a c, s.arrs[x]? = some a → a[i]? = some c → c < s.heap.length) (h : storeSlot s x i v = none) :
    ∀ a, s.arrs[x]? = some a → a[i]? = none := by
  revert h
  fun_cases storeSlot s x i v
  case case1 hx => intro _ a ha; rw [hx] at ha; cases ha
  case case2 a hx hi => intro _ a' ha'; rw [hx] at ha'; cases ha'; exact hi
  case case3 a hx c hi hc => exact absurd (hsl a c hx hi) (Nat.not_lt.2 (List.getElem?_eq_none_iff.1 hc))
  all_goals nofun

theorem release_unbound (cfg : Cfg) (s : St) (r : Nat) (h : s.bnd[r]? = some none) : release cfg s r = s := by
  unfold release; rw [h]

theorem release_bound (s : St) (r c : Nat) (k : Kind) (cl : Cell) (h : s.bnd[r]? = some (some (c, k)))
    (hc : s.heap[c]? = some cl) :
    release .counted s r = ⟨s.heap.set c ⟨cl.val, cl.cnt - 1⟩, s.arrs, s.bnd.set r none⟩ := by
  unfold release; rw [h]
  simp only [Cfg.counted, if_true]
  rw [decCnt_of_get _ _ _ hc]

theorem release_bnd_self (cfg : Cfg) (s : St) (r : Nat) (h : r < s.bnd.length) :
    (release cfg s r).bnd[r]? = some none := by
  obtain ⟨b, hb⟩ : ∃ b, s.bnd[r]? = some b := ⟨_, List.getElem?_eq_getElem h⟩
  cases b with
  | none => rw [release_unbound _ _ _ hb]; exact hb
  | some p =>
    obtain ⟨c, k⟩ := p
    unfold release
    rw [hb]
    exact List.getElem?_set_self h

end Proofs.RefSlot
