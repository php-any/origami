import Model.Reg
import Proofs.Lemmas.RW
/-! C10: the sequential registry `Model.Reg` — bindings are never removed or replaced by any call, what each
registration binds and what each lookup makes of a binding — and the registry behind the lock. -/
namespace Proofs.Reg
open Model.Reg

theorem look_append {α : Type} (m : List (Name × α)) (k : Name) (v : α) (n : Name) :
    look (m ++ [(k, v)]) n = match look m n with
      | some x => some x
      | none => if k = n then some v else none := by
  induction m with
  | nil => simp [look]
  | cons p rest ih =>
    obtain ⟨k', v'⟩ := p
    simp only [List.cons_append, look]
    split
    · rfl
    · exact ih

theorem look_append_new {α : Type} (m : List (Name × α)) (k : Name) (v : α)
    (h : look m k = none) : look (m ++ [(k, v)]) k = some v := by
  rw [look_append, h]; simp

/-- what a call can do to the five maps -/
structure Ext (s s' : State) : Prop where
  classes : s'.classes = s.classes ∨ ∃ k v, s'.classes = s.classes ++ [(k, v)]
  ifaces : s'.ifaces = s.ifaces ∨ ∃ k v, s'.ifaces = s.ifaces ++ [(k, v)]
  funcs : s'.funcs = s.funcs ∨ ∃ k v, s'.funcs = s.funcs ++ [(k, v)]
  consts : s'.consts = s.consts ∨ ∃ k v, s'.consts = s.consts ++ [(k, v)]
  globals : s'.globals = s.globals ∨ ∃ k v, s'.globals = s.globals ++ [(k, v)]

theorem Ext.refl (s : State) : Ext s s := ⟨.inl rfl, .inl rfl, .inl rfl, .inl rfl, .inl rfl⟩

theorem step_read (s : State) (op : Op) (h : op.writes = false) : (step s op).1 = s := by
  cases op <;> simp [Op.writes] at h <;> rfl

theorem step_ext (s : State) (op : Op) : Ext s (step s op).1 := by
  -- a writer extends its map in one arm of its definition (the one named) and returns the state as it is in the others
  cases op with
  | addClass d =>
    show Ext s (addClass s d).1
    fun_cases addClass s d
    case case5 => exact ⟨.inr ⟨_, _, rfl⟩, .inl rfl, .inl rfl, .inl rfl, .inl rfl⟩
    all_goals exact Ext.refl s
  | addIface d =>
    show Ext s (addIface s d).1
    fun_cases addIface s d
    case case5 => exact ⟨.inl rfl, .inr ⟨_, _, rfl⟩, .inl rfl, .inl rfl, .inl rfl⟩
    all_goals exact Ext.refl s
  | addFunc n id =>
    show Ext s (addFunc s n id).1
    fun_cases addFunc s n id
    case case2 => exact ⟨.inl rfl, .inl rfl, .inr ⟨_, _, rfl⟩, .inl rfl, .inl rfl⟩
    all_goals exact Ext.refl s
  | setConst n v =>
    show Ext s (setConst s n v).1
    fun_cases setConst s n v
    case case2 => exact ⟨.inl rfl, .inl rfl, .inl rfl, .inr ⟨_, _, rfl⟩, .inl rfl⟩
    all_goals exact Ext.refl s
  | ensureGlobal n =>
    show Ext s (ensureGlobal s n).1
    fun_cases ensureGlobal s n
    case case2 => exact ⟨.inl rfl, .inl rfl, .inl rfl, .inl rfl, .inr ⟨_, _, rfl⟩⟩
    all_goals exact Ext.refl s
  | setFile f =>
    show Ext s (setFile s f).1
    fun_cases setFile s f
    -- only `files` grows, and `Ext` speaks of the five maps
    case case3 => exact ⟨.inl rfl, .inl rfl, .inl rfl, .inl rfl, .inl rfl⟩
    all_goals exact Ext.refl s
  | _ => exact Ext.refl s

theorem look_of_ext {α : Type} (m m' : List (Name × α)) (h : m' = m ∨ ∃ k v, m' = m ++ [(k, v)])
    (n : Name) (x : α) (hl : look m n = some x) : look m' n = some x := by
  rcases h with h | ⟨k, v, h⟩
  · rw [h]; exact hl
  · rw [h, look_append, hl]

structure Keeps (s s' : State) : Prop where
  classes : ∀ n x, look s.classes n = some x → look s'.classes n = some x
  ifaces : ∀ n x, look s.ifaces n = some x → look s'.ifaces n = some x
  funcs : ∀ n x, look s.funcs n = some x → look s'.funcs n = some x
  consts : ∀ n x, look s.consts n = some x → look s'.consts n = some x
  globals : ∀ n x, look s.globals n = some x → look s'.globals n = some x

theorem keeps_step (s : State) (op : Op) : Keeps s (step s op).1 :=
  have e := step_ext s op
  ⟨fun n x => look_of_ext _ _ e.classes n x, fun n x => look_of_ext _ _ e.ifaces n x,
   fun n x => look_of_ext _ _ e.funcs n x, fun n x => look_of_ext _ _ e.consts n x,
   fun n x => look_of_ext _ _ e.globals n x⟩

theorem Keeps.trans {a b c : State} (h1 : Keeps a b) (h2 : Keeps b c) : Keeps a c :=
  ⟨fun n x h => h2.classes n x (h1.classes n x h), fun n x h => h2.ifaces n x (h1.ifaces n x h),
   fun n x h => h2.funcs n x (h1.funcs n x h), fun n x h => h2.consts n x (h1.consts n x h),
   fun n x h => h2.globals n x (h1.globals n x h)⟩

theorem keeps_run (s : State) (ops : List Op) : Keeps s (runOps s ops) :=
  List.foldlRecOn (motive := Keeps s) ops _
    ⟨fun _ _ h => h, fun _ _ h => h, fun _ _ h => h, fun _ _ h => h, fun _ _ h => h⟩
    fun s' h op _ => h.trans (keeps_step s' op)

theorem addClass_bound (s : State) (d : Decl) :
    (∃ x, look (addClass s d).1.classes d.name = some x) ∨
    (look s.ifaces d.name ≠ none ∧ ∃ x, look (addClass s d).1.ifaces d.name = some x) := by
  fun_cases addClass s d
  -- the name is a class already (same file or not); it is an interface; it is free and bound now
  case case1 has hc _ | case2 has hc _ => exact .inl ⟨has, hc⟩
  case case3 hc has hi _ | case4 hc has hi _ => exact .inr ⟨by simp [hi], has, hi⟩
  case case5 hc hi => exact .inl ⟨d, look_append_new _ _ _ hc⟩

theorem addIface_bound (s : State) (d : Decl) :
    (look s.classes d.name ≠ none ∧ ∃ x, look (addIface s d).1.classes d.name = some x) ∨
    (∃ x, look (addIface s d).1.ifaces d.name = some x) := by
  fun_cases addIface s d
  case case1 has hc _ | case2 has hc _ => exact .inl ⟨by simp [hc], has, hc⟩
  case case3 hc has hi _ | case4 hc has hi _ => exact .inr ⟨has, hi⟩
  case case5 hc hi => exact .inr ⟨d, look_append_new _ _ _ hi⟩

theorem addFunc_ok {s : State} {n : Name} {id : Nat} (h : (addFunc s n id).2 = .ok) :
    look (addFunc s n id).1.funcs n = some id := by
  unfold addFunc at h ⊢
  cases hf : look s.funcs n with
  | some x => simp [hf] at h
  | none => exact look_append_new _ _ _ hf

theorem setConst_ok {s : State} {n : Name} {v : Nat} (h : (setConst s n v).2 = .ok) :
    look (setConst s n v).1.consts n = some v := by
  unfold setConst at h ⊢
  cases hf : look s.consts n with
  | some x => simp [hf] at h
  | none => exact look_append_new _ _ _ hf

theorem ensureGlobal_hit {s : State} {n : Name} {z : Nat} (h : (ensureGlobal s n).2 = .hit z) :
    look (ensureGlobal s n).1.globals n = some z := by
  unfold ensureGlobal at h ⊢
  cases hg : look s.globals n with
  | some x => simp only [hg] at h ⊢; simpa using h
  | none =>
    simp only [hg, Res.hit.injEq] at h ⊢
    exact h ▸ look_append_new _ _ _ hg

theorem lookPkg_class {s : State} {n : Name} {x : Decl} (h : look s.classes n = some x) :
    isFound (lookPkg s n) = true := by
  simp [lookPkg, h, isFound]

theorem lookPkg_iface {s : State} {n : Name} {x : Decl} (h : look s.ifaces n = some x) :
    isFound (lookPkg s n) = true := by
  unfold lookPkg
  cases look s.classes n <;> simp [h, isFound]

theorem getFunc_bound {s : State} {n : Name} {id : Nat} (h : look s.funcs n = some id) :
    getFunc s n = .hit id := by
  simp [getFunc, h]

theorem getConst_bound {s : State} {q : Name} {v : Nat} (h : look s.consts (strip q) = some v) :
    getConst s q = .hit v := by
  simp [getConst, h]

theorem ensureGlobal_bound {s : State} {n : Name} {z : Nat} (h : look s.globals n = some z) :
    ensureGlobal s n = (s, .hit z) := by
  simp [ensureGlobal, h]

theorem addFunc_bound {s : State} {n : Name} {x : Nat} (h : look s.funcs n = some x) (id : Nat) :
    addFunc s n id = (s, .errFunc) := by
  simp [addFunc, h]

theorem setConst_bound {s : State} {n : Name} {x : Nat} (h : look s.consts n = some x) (v : Nat) :
    setConst s n v = (s, .errConst) := by
  simp [setConst, h]

end Proofs.Reg

/-! Behind the lock: the sequential reading of the log of `Model.RW` instantiated with `Model.Reg.secOf` is
`Model.Reg.step` call by call. -/
namespace Proofs.RegConc
open Model.RW Model.Reg Proofs.RW

/-- every method that writes a map holds `Lock`, every reader holds `RLock` or `Lock` -/
def Disc (lockOf : String → Mode) : Prop :=
  ∀ op : Op, permits (lockOf op.method) (if op.writes then .wr else .rd) = true

/-- the finitely many (method, writes?) pairs behind `Op` -/
def methodTable : List (String × Bool) :=
  [("AddClass", true), ("AddInterface", true), ("AddFunc", true), ("GetClass", false),
   ("GetOrLoadClass", false), ("GetInterface", false), ("GetOrLoadInterface", false), ("LoadPkg", false),
   ("GetFunc", false), ("SetConstant", true), ("GetConstant", false), ("EnsureGlobalZVal", true),
   ("SetPhpFileCache", true), ("GetPhpFileCache", false)]

def discB (lockOf : String → Mode) : Bool :=
  methodTable.all (fun p => permits (lockOf p.1) (if p.2 then .wr else .rd))

def row : Op → Nat
  | .addClass _ => 0 | .addIface _ => 1 | .addFunc _ _ => 2 | .getClass _ => 3 | .getOrLoadClass _ => 4
  | .getIface _ => 5 | .getOrLoadIface _ => 6 | .loadPkg _ | .lookPkg _ => 7 | .getFunc _ => 8
  | .setConst _ _ => 9 | .getConst _ => 10 | .ensureGlobal _ => 11 | .setFile _ => 12 | .getFile _ => 13

theorem methodTable_row (op : Op) : methodTable[row op]? = some (op.method, op.writes) := by
  cases op <;> rfl

theorem disc_of_discB (lockOf : String → Mode) (h : discB lockOf = true) : Disc lockOf :=
  fun op => List.all_eq_true.mp h _ (List.mem_of_getElem? (methodTable_row op))

theorem secOf_ok (lockOf : String → Mode) (hd : Disc lockOf) (op : Op) : (secOf lockOf op).ok := by
  intro a ha
  have := hd op
  simp only [secOf] at ha ⊢
  cases hw : op.writes <;> simp [hw] at ha this <;> subst ha <;> simpa [Acc.kind] using this

theorem rdSec_ok (op : Op) (cond : List Res → Bool) : (rdSec op cond).ok := ok_single rfl

theorem wrSec_ok (op : Op) (cond : List Res → Bool) : (wrSec op cond).ok := ok_single rfl

theorem loadCall_ok (d : Decl) (f : Nat) : ∀ sec ∈ loadCall d f, sec.ok := by
  simp only [loadCall, List.forall_mem_cons, rdSec_ok, wrSec_ok, and_self, List.not_mem_nil, false_imp_iff,
    implies_true]

/-- unfolds to `callStep step`, the instance for the registry of `Proofs.RW.callStep` (`RWLin`) -/
def regStep (p : State × (Tid → List Res)) (e : Tid × Op) : State × (Tid → List Res) :=
  ((step p.1 e.2).1, upd p.2 e.1 (p.2 e.1 ++ [(step p.1 e.2).2]))

def regRun (lin : List (Tid × Op)) (p : State × (Tid → List Res)) : State × (Tid → List Res) :=
  lin.foldl regStep p

theorem seqStep_secOf (lockOf : String → Mode) (p : State × (Tid → List Res)) (t : Tid) (op : Op) :
    seqStep p (t, secOf lockOf op) = regStep p (t, op) := by
  simp only [seqStep, regStep, secOf]
  cases hw : op.writes
  · simp [execAccs, Acc.apply, Proofs.Reg.step_read p.1 op hw]
  · simp [execAccs, Acc.apply]

end Proofs.RegConc
