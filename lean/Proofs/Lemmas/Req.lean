import Spec.Req
import Proofs.Lemmas.Sched
/-!
Lemmas for C11 (`Model.Req`): a request's step is a function of its own state and the
cells it sees (by construction of `stepReq`); steps of other requests leave its state and
its per-request cells alone (frame); hence the projection of any schedule onto one
request whose remaining steps touch only per-request cells equals its solo run.  A solo run
is an iteration of `localStep` on (its state, the cells it sees), which refines
`Spec.Req.exec`; after a leading `reset` it does not depend on what the caches held before.
-/
namespace Proofs.Req
open Model.Req

def AgreeP (w : World) (c c' : Cells) : Prop := ∀ k, w.scope k = .perRequest → c k = c' k

def PrivPc (w : World) (pc : List Step) : Prop := ∀ st ∈ pc, ∀ k ∈ st.kinds, w.scope k = .perRequest

theorem agree_refl (w : World) (c : Cells) : AgreeP w c c := fun _ _ => rfl

theorem agree_set {w : World} {c c' : Cells} (h : AgreeP w c c') (k : Kind) (v : Content) :
    AgreeP w (c.set k v) (c'.set k v) := by
  intro k' hk'
  unfold Cells.set
  split
  · rfl
  · exact h k' hk'

theorem ensureBasic_agree {w : World} (env : Content) (d : ReqData) (parsed : Bool) {c c' : Cells}
    (k : Kind) (h : AgreeP w c c') (hk : w.scope k = .perRequest) :
    (ensureBasic env d parsed c k).2 = (ensureBasic env d parsed c' k).2 ∧
    AgreeP w (ensureBasic env d parsed c k).1 (ensureBasic env d parsed c' k).1 := by
  have hkk := h k hk
  unfold ensureBasic
  rw [← hkk]
  cases c k with
  | some v => exact ⟨rfl, h⟩
  | none => exact ⟨rfl, agree_set h k _⟩

theorem kinds_writeSG (k : Kind) (key : Key) (v : Val) : (Step.writeSG k key v).kinds = (Step.readSG k key).kinds := by
  cases k <;> rfl

/-- only `$_REQUEST` is built from other superglobals -/
theorem ensure_of_ne (env : Content) (d : ReqData) (parsed : Bool) (c : Cells) {k : Kind} (hk : k ≠ .request) :
    ensure env d parsed c k = ensureBasic env d parsed c k := by
  cases k <;> first | rfl | exact absurd rfl hk

theorem mem_kinds_readSG (k : Kind) (key : Key) : k ∈ (Step.readSG k key).kinds := by
  cases k <;> exact List.mem_cons_self

theorem ensure_agree {w : World} (env : Content) (d : ReqData) (parsed : Bool) {c c' : Cells}
    (k : Kind) (key : Key) (h : AgreeP w c c') (hk : ∀ k' ∈ (Step.readSG k key).kinds, w.scope k' = .perRequest) :
    (ensure env d parsed c k).2 = (ensure env d parsed c' k).2 ∧
    AgreeP w (ensure env d parsed c k).1 (ensure env d parsed c' k).1 := by
  by_cases hr : k = .request
  · subst hr
    have hk' : ∀ k' ∈ [Kind.request, .get, .post, .cookie], w.scope k' = .perRequest := hk
    simp only [List.mem_cons, List.not_mem_nil, or_false, forall_eq_or_imp, forall_eq] at hk'
    obtain ⟨hr, hg, hp, hc⟩ := hk'
    have hrr := h _ hr
    unfold ensure
    simp only
    rw [← hrr]
    cases c .request with
    | some v => exact ⟨rfl, h⟩
    | none =>
      have h1 := ensureBasic_agree env d parsed .get h hg
      have h2 := ensureBasic_agree env d parsed .post h1.2 hp
      have h3 := ensureBasic_agree env d parsed .cookie h2.2 hc
      simp only
      rw [h1.1, h2.1, h3.1]
      exact ⟨rfl, agree_set h3.2 _ _⟩
  · rw [ensure_of_ne env d parsed c hr, ensure_of_ne env d parsed c' hr]
    exact ensureBasic_agree env d parsed k h (hk k (mem_kinds_readSG k key))

theorem localStep_pc (env : Content) (d : ReqData) (q : ReqSt) (c : Cells) :
    (localStep env d q c).1.pc = q.pc.tail := by
  -- every arm of `localStep` but the first (program over) goes on from `{ q with pc := rest }`, and neither
  -- `observe` nor the arm's own update touches `pc`
  fun_cases localStep env d q c <;> rename_i hpc <;> rw [hpc] <;> rfl

theorem localStep_agree {w : World} (env : Content) (d : ReqData) (q : ReqSt) {c c' : Cells}
    (h : AgreeP w c c') (hp : PrivPc w q.pc) :
    (localStep env d q c).1 = (localStep env d q c').1 ∧
    AgreeP w (localStep env d q c).2 (localStep env d q c').2 := by
  unfold localStep
  split
  · exact ⟨rfl, h⟩
  · rename_i st rest hpc
    have hst : ∀ k ∈ st.kinds, w.scope k = .perRequest := hp st (by simp [hpc])
    cases st with
    | reset => exact ⟨rfl, agree_refl w _⟩
    | readSG k key =>
      have he := ensure_agree env d q.parsed k key h hst
      simp only
      rw [he.1]
      exact ⟨rfl, he.2⟩
    | writeSG k key v =>
      have he := ensure_agree env d q.parsed k key h (kinds_writeSG k key v ▸ hst)
      simp only
      rw [he.1]
      exact ⟨by trivial, agree_set he.2 _ _⟩
    | writeLocal slot s => cases s <;> exact ⟨rfl, h⟩
    | _ => exact ⟨rfl, h⟩

theorem step_req_self (w : World) (s : State) (r : Rid) :
    (stepReq w s r).req r = (localStep w.env (w.data r) (s.req r) (cellView w s r)).1 := by
  simp [stepReq]

theorem step_view_self (w : World) (s : State) (r : Rid) :
    cellView w (stepReq w s r) r = (localStep w.env (w.data r) (s.req r) (cellView w s r)).2 := by
  funext k
  simp only [cellView, stepReq]
  cases w.scope k <;> simp

theorem step_req_other (w : World) (s : State) {r r' : Rid} (h : r' ≠ r) :
    (stepReq w s r').req r = s.req r := by
  simp [stepReq, Ne.symm h]

theorem step_view_other (w : World) (s : State) {r r' : Rid} (h : r' ≠ r) :
    AgreeP w (cellView w (stepReq w s r') r) (cellView w s r) := by
  intro k hk
  simp [cellView, stepReq, hk, Ne.symm h]

/-- request `r` cannot tell `s` from `s'` -/
def Sim (w : World) (r : Rid) (s s' : State) : Prop :=
  s.req r = s'.req r ∧ AgreeP w (cellView w s r) (cellView w s' r)

theorem sim_run {w : World} {r : Rid} (sched : List Rid) :
    ∀ {s s' : State}, Sim w r s s' → PrivPc w (s.req r).pc →
      Sim w r (run w s sched) (run w s' (List.replicate (sched.count r) r)) := by
  intro s s' h hp
  refine (Sched.project (stepReq w) r (fun s s' => Sim w r s s' ∧ PrivPc w (s.req r).pc)
    ?_ sched ?_ s s' ⟨h, hp⟩).1
  · intro s s' ⟨⟨h1, h2⟩, hp⟩
    have ha := localStep_agree w.env (w.data r) (s.req r) h2 hp
    rw [Sim, step_req_self, step_req_self, step_view_self, step_view_self, localStep_pc, ← h1]
    exact ⟨ha, fun st hst => hp st (List.mem_of_mem_tail hst)⟩
  · intro a _ ha s s' ⟨⟨h1, h2⟩, hp⟩
    rw [Sim, step_req_other w s ha]
    exact ⟨⟨h1, fun k hk => (step_view_other w s ha k hk).trans (h2 k hk)⟩, hp⟩

theorem run_saturate (w : World) (r : Rid) (n : Nat) (s : State) (h : (s.req r).pc.length ≤ n) :
    (run w s (List.replicate n r)).req r = (run w s (List.replicate (s.req r).pc.length r)).req r :=
  Sched.saturate (stepReq w) r (fun s => (s.req r).pc.length) (fun s => s.req r)
    (fun s => by rw [step_req_self, localStep_pc, List.length_tail]; exact Nat.le_refl _)
    (fun s h => by rw [step_req_self, localStep, List.length_eq_zero_iff.mp h]) n _ s h (Nat.le_refl _)

/-- `n` turns of a request served alone, on (its state, the cells it sees): `run_solo_iter` -/
def iter (env : Content) (d : ReqData) : Nat → ReqSt × Cells → ReqSt × Cells
  | 0, x => x
  | n + 1, x => iter env d n (localStep env d x.1 x.2)

theorem run_solo_iter (w : World) (r : Rid) : ∀ (n : Nat) (s : State),
    ((run w s (List.replicate n r)).req r, cellView w (run w s (List.replicate n r)) r)
      = iter w.env (w.data r) n (s.req r, cellView w s r) := by
  intro n
  induction n with
  | zero => intro s; rfl
  | succ n ih =>
    intro s
    have := ih (stepReq w s r)
    simp only [run, List.replicate_succ, List.foldl_cons] at this ⊢
    rw [this, step_req_self, step_view_self]
    rfl

/-- a request's state and the cells it sees, read as the specification's `Own`: the cells are its arrays -/
def abs (q : ReqSt) (c : Cells) : Spec.Req.Own :=
  { arr := c, parsed := q.parsed, locals := q.locals, last := q.last, pending := q.pending, body := q.body }

theorem arrayOf_abs (env : Content) (d : ReqData) (q : ReqSt) (c : Cells) (k : Kind) :
    Spec.Req.arrayOf env d (abs q c) k
      = (abs q (ensureBasic env d q.parsed c k).1, (ensureBasic env d q.parsed c k).2) := by
  unfold Spec.Req.arrayOf ensureBasic
  simp only [abs]
  cases hc : c k with
  | some v => rfl
  | none =>
    have : Spec.Req.source env d q.parsed k = fillBasic env d q.parsed k := by
      cases k <;> rfl
    simp only [this, Spec.Req.setArr]
    rfl

theorem superglobal_abs (env : Content) (d : ReqData) (q : ReqSt) (c : Cells) (k : Kind) :
    Spec.Req.superglobal env d (abs q c) k
      = (abs q (ensure env d q.parsed c k).1, (ensure env d q.parsed c k).2) := by
  -- the arms of `ensure`: `$_REQUEST` already built; built from `$_GET`, `$_POST`, `$_COOKIE`; any other kind
  fun_cases ensure env d q.parsed c k
  case case1 v hc =>
    have hc' : (abs q c).arr .request = some v := hc
    simp only [Spec.Req.superglobal, if_true, Spec.Req.requestOf, hc']
  case case2 hc c1 g h1 c2 p h2 c3 ck h3 v =>
    have hc' : (abs q c).arr .request = none := hc
    simp only [Spec.Req.superglobal, if_true, Spec.Req.requestOf, hc', arrayOf_abs, h1, h2, h3]
    rfl
  case case3 hk => rw [Spec.Req.superglobal, if_neg hk, arrayOf_abs]

theorem abs_observe (q : ReqSt) (c : Cells) (o : Obs) :
    abs (observe q o) c = Spec.Req.see (abs q c) o := rfl

theorem localStep_abs (env : Content) (d : ReqData) (q : ReqSt) (c : Cells) (st : Step) (rest : List Step)
    (h : q.pc = st :: rest) :
    abs (localStep env d q c).1 (localStep env d q c).2 = Spec.Req.exec env d (abs q c) st := by
  unfold localStep
  simp only [h]
  cases st with
  | readSG k key =>
    simp only [Spec.Req.exec]
    have := superglobal_abs env d { q with pc := rest } c k
    simp only [abs] at this ⊢
    rw [this]
    rfl
  | writeSG k key v =>
    simp only [Spec.Req.exec]
    have := superglobal_abs env d { q with pc := rest } c k
    simp only [abs] at this ⊢
    rw [this]
    rfl
  | writeLocal slot s => cases s <;> rfl
  | _ => rfl

theorem iter_abs (env : Content) (d : ReqData) : ∀ (pc : List Step) (q : ReqSt) (c : Cells), q.pc = pc →
    abs (iter env d pc.length (q, c)).1 (iter env d pc.length (q, c)).2
      = pc.foldl (Spec.Req.exec env d) (abs q c) := by
  intro pc
  induction pc with
  | nil => intro q c _; rfl
  | cons st rest ih =>
    intro q c h
    have hpc : (localStep env d q c).1.pc = rest := by rw [localStep_pc, h]; rfl
    have := ih (localStep env d q c).1 (localStep env d q c).2 hpc
    simp only [List.length_cons, iter, List.foldl_cons]
    rw [this, localStep_abs env d q c st rest h]

theorem abs_init (w : World) (r : Rid) : abs ((init w).req r) (cellView w (init w) r) = {} := by
  simp only [abs, init]
  congr 1
  funext k
  simp only [cellView, Cells.empty]
  cases w.scope k <;> rfl

theorem iter_reset_first (env : Content) (d : ReqData) (q : ReqSt) (rest : List Step) (h : q.pc = .reset :: rest)
    (c c' : Cells) (n : Nat) : iter env d (n + 1) (q, c) = iter env d (n + 1) (q, c') := by
  have : ∀ c, localStep env d q c = ({ q with pc := rest }, Cells.empty) := by
    intro c; unfold localStep; simp [h]
  simp only [iter, this]

theorem iter_fst_zero (env : Content) (d : ReqData) (q : ReqSt) (c : Cells) : (iter env d 0 (q, c)).1 = q := rfl

end Proofs.Req
