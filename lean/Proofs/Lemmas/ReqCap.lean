import Model.ReqCap
import Spec.ReqCap
/-!
Lemmas for `Model.ReqCap`: with a private binding (`bindsPrivate`) no request ever touches the
value of the definition-time environment, so a request's state after any schedule is the iterate
of its own step over the boot value, and that iterate is what `Spec.ReqCap` says.
-/
namespace Proofs.ReqCap
open Model.ReqCap

/-- the last summand of `captureViolations` lists the mutable value types the slot store does not clone -/
theorem copiedOf_of_nil (f : Model.Req.Facts) (h : f.captureViolations = []) (k : Kind) : copiedOf f k = true := by
  have hc : ∀ t ∈ Model.Req.mutableValueTypes, f.slotClones t = true := by
    simp only [Model.Req.Facts.captureViolations, List.append_eq_nil_iff, List.map_eq_nil_iff,
      List.filter_eq_nil_iff] at h
    intro t ht
    simpa using h.2 t ht
  simp only [copiedOf, h, List.isEmpty_nil, Bool.true_and]
  cases k
  · rfl
  · exact hc _ (by simp [Model.Req.mutableValueTypes])
  · exact hc _ (by simp [Model.Req.mutableValueTypes])

/-- `Spec.ReqCap` has its own copy of the operations (it does not import the model) -/
def toOp : Step → Spec.ReqCap.Op
  | .set i => .set i
  | .push => .push
  | .rewind => .rewind
  | .next => .next
  | .readAll => .readAll
  | .gate => .gate
  | .write => .write

/-- `n`-fold iterate; `Model.ReqCap.run` is a recursion, not a fold, so a request's own turns are counted with this -/
def iter {α : Type} : Nat → (α → α) → α → α
  | 0, _, x => x
  | n + 1, f, x => iter n f (f x)

theorem iter_succ {α : Type} (n : Nat) (f : α → α) (x : α) : iter (n + 1) f x = iter n f (f x) := rfl

theorem iter_fix {α : Type} (f : α → α) (x : α) (h : f x = x) : ∀ n, iter n f x = x := by
  intro n
  induction n with
  | zero => rfl
  | succ n ih => simp [iter, h, ih]

theorem iter_add {α : Type} (f : α → α) : ∀ (m n : Nat) (x : α), iter (m + n) f x = iter n f (iter m f x) := by
  intro m
  induction m with
  | zero => intro n x; simp [iter]
  | succ m ih => intro n x; rw [Nat.succ_add]; simp only [iter]; exact ih n (f x)

theorem iter_stable {α : Type} (f : α → α) (P : α → Prop) (hfix : ∀ x, P x → f x = x) (x : α) (a b : Nat)
    (ha : P (iter a f x)) (hb : P (iter b f x)) : iter a f x = iter b f x := by
  rcases Nat.le_total a b with h | h
  · obtain ⟨c, rfl⟩ := Nat.exists_eq_add_of_le h
    rw [iter_add, iter_fix f _ (hfix _ ha)]
  · obtain ⟨c, rfl⟩ := Nat.exists_eq_add_of_le h
    rw [iter_add, iter_fix f _ (hfix _ hb)]

/-- a turn of `r` with the environment's value held at `sh` (under a private binding it never changes: `run_private`) -/
def ownStep (w : World) (r : Rid) (sh : Val) (rs : ReqSt) : ReqSt := (localStep w (w.datum r) rs sh).1

def NoAlias (s : State) : Prop := ∀ r, (s.reqs r).loc ≠ .alias

theorem localStep_private (w : World) (hp : bindsPrivate w = true) (d : Nat) (rs : ReqSt) (sh : Val)
    (h : rs.loc ≠ .alias) :
    (localStep w d rs sh).2 = sh ∧ (localStep w d rs sh).1.loc ≠ .alias := by
  -- the arms of `localStep`: 1 body written; 2, 3 `unbound`, the binding private or not; 4–6 `own` at the end of
  -- the program, at `write`, at another step; 7–9 the same for `alias`
  fun_cases localStep w d rs sh
  case case2 | case6 => exact ⟨rfl, nofun⟩
  case case3 hn => exact absurd hp hn
  case case7 | case8 | case9 => exact absurd ‹rs.loc = .alias› h
  case case1 | case4 | case5 => exact ⟨rfl, h⟩

theorem stepReq_private (w : World) (hp : bindsPrivate w = true) (s : State) (hs : NoAlias s) (q : Rid) :
    (stepReq w s q).shared = s.shared ∧ NoAlias (stepReq w s q) := by
  have h := localStep_private w hp (w.datum q) (s.reqs q) s.shared (hs q)
  refine ⟨h.1, ?_⟩
  intro r
  by_cases hr : r = q
  · subst hr; simp only [stepReq, if_pos]; exact h.2
  · simp only [stepReq, if_neg hr]; exact hs r

theorem run_private (w : World) (hp : bindsPrivate w = true) : ∀ (sched : List Rid) (s : State), NoAlias s →
    (run w s sched).shared = s.shared ∧
    ∀ r, (run w s sched).reqs r = iter (sched.count r) (ownStep w r s.shared) (s.reqs r) := by
  intro sched
  induction sched with
  | nil => intro s _; simp [run, iter]
  | cons q rest ih =>
    intro s hs
    have h1 := stepReq_private w hp s hs q
    have h2 := ih (stepReq w s q) h1.2
    simp only [run]
    refine ⟨h2.1.trans h1.1, ?_⟩
    intro r
    rw [h2.2 r, h1.1]
    by_cases hr : q = r
    · subst hr
      have : (stepReq w s q).reqs q = ownStep w q s.shared (s.reqs q) := by simp [stepReq, ownStep]
      rw [this, List.count_cons_self]
      rfl
    · have : (stepReq w s q).reqs r = s.reqs r := by simp [stepReq, Ne.symm hr]
      rw [this, List.count_cons_of_ne hr]

theorem init_noAlias (w : World) : NoAlias (init w) := by
  intro r; simp [init]

theorem ownStep_done (w : World) (r : Rid) (sh : Val) (rs : ReqSt) (h : rs.body.isSome = true) :
    ownStep w r sh rs = rs := by
  unfold ownStep localStep
  cases hb : rs.body with
  | none => simp [hb] at h
  | some b => rfl

theorem exec_spec (d : Nat) (st : Step) (hw : st ≠ .write) (rest : List Step) (v : Val) (obs : List Nat) :
    Spec.ReqCap.go d (toOp st :: rest.map toOp) v.items v.cur obs =
      Spec.ReqCap.go d (rest.map toOp) (exec st d v).1.items (exec st d v).1.cur (obs ++ (exec st d v).2) := by
  cases st with
  | write => exact absurd rfl hw
  -- a step that observes nothing appends `[]`
  | _ => simp only [exec, List.append_nil]; rfl

/-- `+ 1`: after the last step one more turn, at empty `pc`, stores the body -/
theorem own_run (w : World) (r : Rid) (sh : Val) : ∀ (p : List Step) (rs : ReqSt) (v : Val),
    rs.body = none → rs.loc = .own v → rs.pc = p →
    (iter (p.length + 1) (ownStep w r sh) rs).body =
      some (Spec.ReqCap.go (w.datum r) (p.map toOp) v.items v.cur rs.obs) := by
  intro p
  induction p with
  | nil =>
    intro rs v hb hl hpc
    simp [iter, ownStep, localStep, hb, hl, hpc, Spec.ReqCap.go]
  | cons st rest ih =>
    intro rs v hb hl hpc
    by_cases hw : st = .write
    · subst hw
      have h1 : ownStep w r sh rs = { rs with pc := [], body := some rs.obs } := by
        simp [ownStep, localStep, hb, hl, hpc]
      rw [List.length_cons, iter_succ, h1, iter_fix _ _ (ownStep_done w r sh _ (by simp))]
      simp [toOp, Spec.ReqCap.go]
    · have h1 : ownStep w r sh rs =
          { rs with pc := rest, loc := .own (exec st (w.datum r) v).1, obs := rs.obs ++ (exec st (w.datum r) v).2 } := by
        simp only [ownStep, localStep, hb, hl, hpc]
      have h2 := ih { rs with pc := rest, loc := .own (exec st (w.datum r) v).1, obs := rs.obs ++ (exec st (w.datum r) v).2 }
        (exec st (w.datum r) v).1 hb rfl rfl
      rw [List.length_cons, iter_succ, h1, h2]
      simp only [List.map_cons]
      rw [exec_spec _ st hw]

/-- `+ 2`: the first turn only binds the capture (`unbound` becomes `own`), then `own_run` -/
theorem solo_spec (w : World) (hp : bindsPrivate w = true) (r : Rid) :
    (iter ((w.prog r).length + 2) (ownStep w r (init w).shared) ((init w).reqs r)).body =
      some (Spec.ReqCap.respond w.boot (w.datum r) ((w.prog r).map toOp)) := by
  have h1 : ownStep w r (init w).shared ((init w).reqs r) =
      { pc := w.prog r, loc := .own { items := w.boot, cur := 0 }, obs := [], body := none } := by
    simp [ownStep, localStep, init, hp]
  rw [iter_succ, h1, own_run w r _ (w.prog r) _ { items := w.boot, cur := 0 } rfl rfl rfl]
  rfl

theorem run_solo (w : World) (hp : bindsPrivate w = true) (r : Rid) (n : Nat) :
    (run w (init w) (List.replicate n r)).reqs r = iter n (ownStep w r (init w).shared) ((init w).reqs r) := by
  rw [(run_private w hp (List.replicate n r) _ (init_noAlias w)).2 r, List.count_replicate_self]

/-- with a private binding a request that has finished, under any schedule, answers
`Spec.ReqCap.respond` of the boot content, its datum and its program.  (Finished states are fixed points of
`ownStep`, so any two numbers of own turns that finish agree: `iter_stable`.) -/
theorem isolated (w : World) (hp : bindsPrivate w = true) (r : Rid) (sched : List Rid)
    (hdone : finished (run w (init w) sched) r = true) :
    response (run w (init w) sched) r = Spec.ReqCap.respond w.boot (w.datum r) ((w.prog r).map toOp) := by
  have h := (run_private w hp sched _ (init_noAlias w)).2 r
  unfold finished at hdone
  unfold response
  rw [h] at hdone ⊢
  rw [iter_stable (ownStep w r (init w).shared) (fun rs => rs.body.isSome = true)
    (fun rs hrs => ownStep_done w r _ rs hrs) _ _ ((w.prog r).length + 2) hdone
    (by rw [solo_spec w hp r]; rfl), solo_spec w hp r]
  rfl

end Proofs.ReqCap
