import Generated.C11Superglobals
/-!
Violation lists of the regenerated table that several obligations of C11 need empty, each
evaluated once.  They are built from `String`s, slow in the kernel and slower in the elaborator:
hence `decide +kernel`.
-/
namespace Proofs.ReqFacts
open Model.Req Generated.C11Superglobals

theorem nodeWriteViolations_nil : facts.nodeWriteViolations = [] := by decide +kernel

theorem captureViolations_nil : facts.captureViolations = [] := by decide +kernel

theorem registryViolations_nil : facts.registryViolations = [] := by decide +kernel

end Proofs.ReqFacts
