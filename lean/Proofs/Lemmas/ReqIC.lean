import Model.ReqIC
import Spec.ReqIC
import Proofs.Lemmas.Sched
/-!
Lemmas for the call-site-memory part of C11 (`Model.ReqIC`).  Here the shared state (the node caches) is written
by other requests' turns and read by `r`'s, so there is no projection onto `r`'s own turns.  Instead an invariant
along the whole schedule (`Inv`): the caches are `Coherent` (whatever is filed under a class was resolved on a
receiver of that class) and `r` is `OnTrack`; a hit of `r` then finds a method of a receiver of its own class, which
under `Apart` is its own.
-/
namespace Proofs.ReqIC
open Model.ReqIC
open Model.Req (Rid)

/-- no other request's receiver has the class identity of `r`'s receiver -/
def Apart (w : World) (r : Rid) : Prop := ∀ r', w.cls r' = w.cls r → r' = r

def Coherent (w : World) (c : Cache) : Prop :=
  ∀ s k, c.cls s = some k → ∃ m, c.meth s = some m ∧ w.cls m.owner = k

def OnTrack (w : World) (r : Rid) (q : ReqSt) : Prop :=
  Spec.ReqIC.go (w.env r) q.pc q.pending q.body = Spec.ReqIC.respond (w.env r) (w.prog r)

theorem publishOf_of_nil (f : Model.Req.Facts) (h : f.nodeWriteViolations = []) : publishOf f = .none := by
  simp [publishOf, h]

theorem localStep_nil {pub : Publish} {k : Cls} {self : Rid} {env : Rid → Val} {q : ReqSt} {c : Cache}
    (h : q.pc = []) : localStep pub k self env q c = (q, c) := by
  simp [localStep, h]

theorem localStep_cons {pub : Publish} {k : Cls} {self : Rid} {env : Rid → Val} {q : ReqSt} {c : Cache}
    {st : Step} {rest : List Step} (h : q.pc = st :: rest) :
    localStep pub k self env q c = exec pub k self env q rest c st := by
  simp [localStep, h]

/-- a turn of ANY request keeps the caches coherent, as long as fills are indivisible -/
theorem localStep_coherent (w : World) (hp : w.publish ≠ .torn) (r' : Rid) (q : ReqSt) (c : Cache)
    (hc : Coherent w c) : Coherent w (localStep w.publish (w.cls r') r' w.env q c).2 := by
  cases hpc : q.pc with
  | nil => rw [localStep_nil hpc]; exact hc
  | cons st rest =>
    rw [localStep_cons hpc]
    cases st with
    | gate => exact hc
    | write => exact hc
    | call s =>
      cases hpub : w.publish with
      | torn => exact absurd hpub hp
      | none => simp only [exec]; exact hc
      | atomic =>
        simp only [exec]
        split
        · exact hc
        · intro s' k hk
          simp only [Cache.setMeth, Cache.setCls] at hk ⊢
          by_cases hs : s' = s
          · simp only [hs, ↓reduceIte, Option.some.injEq] at hk ⊢
            exact ⟨⟨r'⟩, rfl, hk⟩
          · simp only [hs, ↓reduceIte] at hk ⊢
            exact hc s' k hk

theorem localStep_onTrack (w : World) (hp : w.publish ≠ .torn) (r : Rid) (ha : w.publish = .atomic → Apart w r)
    (q : ReqSt) (c : Cache)
    (hc : Coherent w c) (hq : OnTrack w r q) :
    OnTrack w r (localStep w.publish (w.cls r) r w.env q c).1 := by
  unfold OnTrack at hq ⊢
  cases hpc : q.pc with
  | nil => rw [localStep_nil hpc]; exact hq
  | cons st rest =>
    rw [localStep_cons hpc]
    rw [hpc] at hq
    cases st with
    | gate => simpa [exec, Spec.ReqIC.go] using hq
    | write => simpa [exec, Spec.ReqIC.go] using hq
    | call s =>
      simp only [Spec.ReqIC.go] at hq
      cases hpub : w.publish with
      | torn => exact absurd hpub hp
      | none => simpa [exec, invoke] using hq
      | atomic =>
        simp only [exec]
        split
        · rename_i hhit
          obtain ⟨m, hm, hk⟩ := hc s _ hhit
          have ho : m.owner = r := ha hpub _ hk
          simpa [invoke, hm, ho] using hq
        · simpa [invoke] using hq

structure Inv (w : World) (r : Rid) (s : State) : Prop where
  coherent : Coherent w s.cache
  onTrack  : OnTrack w r (s.req r)

theorem inv_init (w : World) (r : Rid) : Inv w r (init w) :=
  ⟨fun s k hk => by simp [init] at hk, rfl⟩

theorem stepReq_other (w : World) (s : State) (a r : Rid) (h : a ≠ r) : (stepReq w s a).req r = s.req r := by
  simp [stepReq, Ne.symm h]

theorem stepReq_self (w : World) (s : State) (r : Rid) :
    (stepReq w s r).req r = (localStep w.publish (w.cls r) r w.env (s.req r) s.cache).1 := by
  simp [stepReq]

theorem inv_step (w : World) (hp : w.publish ≠ .torn) (r : Rid) (ha : w.publish = .atomic → Apart w r)
    (s : State) (r' : Rid)
    (h : Inv w r s) : Inv w r (stepReq w s r') := by
  refine ⟨localStep_coherent w hp r' (s.req r') s.cache h.coherent, ?_⟩
  show OnTrack w r ((stepReq w s r').req r)
  by_cases hr : r = r'
  · subst hr
    rw [stepReq_self]
    exact localStep_onTrack w hp r ha (s.req r) s.cache h.coherent h.onTrack
  · rw [stepReq_other w s r' r (Ne.symm hr)]
    exact h.onTrack

theorem inv_run (w : World) (hp : w.publish ≠ .torn) (r : Rid) (ha : w.publish = .atomic → Apart w r)
    (sched : List Rid) :
    ∀ s, Inv w r s → Inv w r (run w s sched) := by
  intro s h
  unfold run
  exact List.foldlRecOn sched (stepReq w) h fun s h r' _ => inv_step w hp r ha s r' h

theorem onTrack_finished {w : World} {r : Rid} {q : ReqSt} (h : OnTrack w r q) (hf : q.pc = []) :
    q.body = Spec.ReqIC.respond (w.env r) (w.prog r) := by
  unfold OnTrack at h
  rw [hf] at h
  simpa [Spec.ReqIC.go] using h

/-- fails under `torn`: a call takes several turns there -/
theorem localStep_pc (w : World) (hp : w.publish ≠ .torn) (r : Rid) (q : ReqSt) (c : Cache) :
    (localStep w.publish (w.cls r) r w.env q c).1.pc = q.pc.tail := by
  cases hpc : q.pc with
  | nil => rw [localStep_nil hpc]; simp [hpc]
  | cons st rest =>
    rw [localStep_cons hpc]
    cases st with
    | gate => rfl
    | write => rfl
    | call s =>
      cases hpub : w.publish with
      | torn => exact absurd hpub hp
      | none => rfl
      | atomic => simp only [exec]; split <;> rfl

/-- `4`: `Model.ReqIC.solo` allows four turns per step (under `torn` a call takes up to three: look, class half,
method half and invoke); without `torn` a turn is a step (`localStep_pc`), so any bound ≥ the length of the program
exhausts it -/
theorem solo_finished (w : World) (hp : w.publish ≠ .torn) (r : Rid) : ((solo w r).req r).pc = [] := by
  have h := Sched.exhaust (stepReq w) r (fun s => (s.req r).pc.length)
    (fun s => by
      rw [stepReq_self, localStep_pc w hp r, List.length_tail]
      exact Nat.le_refl _)
    (4 * (w.prog r).length) (init w)
  have h0 : (w.prog r).length - 4 * (w.prog r).length = 0 :=
    Nat.sub_eq_zero_of_le (Nat.le_mul_of_pos_left _ (by decide))
  exact List.length_eq_zero_iff.mp (Nat.le_zero.mp (h0 ▸ h))

end Proofs.ReqIC
