import Model.ReqLimit
import Spec.ReqLimit
import Proofs.Lemmas.Sched
/-!
The limits part of C11 (`Model.ReqLimit`).  Two things differ from the other request models.  The shared
state is the VM's call counter, which a request does read: its step is independent of the counter only while
the counter is at least the request's own depth, so the projection relation carries `Inv` (`c = Σ dᵢ`) on both
sides.  And a refusal empties the program counter, so a request may take fewer turns than its program has steps:
`run_out` is an induction on the number of own turns, stated with `≤` (so `isolated` needs no saturation),
and each turn is one small step of the specification (`ownExec`, `exec_fst`), not an induction on the program.
`solo_spec` and `run_saturate` are the statements the sibling models have: `isolated` does not use them.
-/
namespace Proofs.ReqLimit
open Model.ReqLimit
open Model.Req (Rid)

theorem sum_range_succ (f : Nat → Nat) (n : Nat) :
    ((List.range (n + 1)).map f).sum = ((List.range n).map f).sum + f n := by
  simp [List.range_succ]

theorem sum_range_update (f f' : Nat → Nat) (r : Nat) : ∀ n, r < n → (∀ i, i ≠ r → f' i = f i) →
    ((List.range n).map f').sum + f r = ((List.range n).map f).sum + f' r := by
  intro n
  induction n with
  | zero => intro h; exact absurd h (Nat.not_lt_zero r)
  | succ n ih =>
    intro hr h
    rw [sum_range_succ, sum_range_succ]
    by_cases hn : r = n
    · subst hn
      rw [List.map_congr_left fun i hi => h i (Nat.ne_of_lt (List.mem_range.mp hi)), Nat.add_right_comm]
    · rw [h n (Ne.symm hn), Nat.add_right_comm, ih (Nat.lt_of_le_of_ne (Nat.le_of_lt_succ hr) hn) h,
        Nat.add_right_comm]

theorem le_sum_range (f : Nat → Nat) (r : Nat) (n : Nat) (hr : r < n) : f r ≤ ((List.range n).map f).sum := by
  have := sum_range_update f (fun i => if i = r then 0 else f i) r n hr fun i hi => if_neg hi
  rw [if_pos rfl, Nat.add_zero] at this
  exact this ▸ Nat.le_add_left ..

/-- the refusal of the guard is decided by frames of the calling request: frames that are all
counted in the process-wide number, against a limit not below the process-wide one -/
def GuardOK (g : Guards) (gd : Guard) : Prop :=
  match gd.on with
  | .never => True
  | .shared => False
  | .own => gd.limit ≤ gd.ownLimit ∧ ∀ j, gd.ownCounts.contains j = true → counted g j = true

def GoodGuards (g : Guards) : Prop := ∀ k gd, g k = some gd → GuardOK g gd

/-- `c = Σ d_i` -/
def Inv (w : World) (s : State) : Prop := s.cnt = total w.guards s w.n

theorem ownDepth_le (g : Guards) (gd : Guard) (k : Callee) (q : ReqSt)
    (h : ∀ j, gd.ownCounts.contains j = true → counted g j = true) :
    ownDepth gd k q ≤ depth g q + 1 := by
  unfold ownDepth depth
  have : (q.stack.filter fun j => gd.ownCounts.contains j).length ≤ (q.stack.filter (counted g)).length := by
    rw [← List.countP_eq_length_filter, ← List.countP_eq_length_filter]
    exact List.countP_mono_left fun j _ => h j
  split <;> omega

theorem refuse_own (g : Guards) (gd : Guard) (k : Callee) (q : ReqSt) (c : Nat)
    (hon : gd.on = .own) (hok : GuardOK g gd) (hc : depth g q ≤ c) :
    refuse gd (c + 1) (ownDepth gd k q) = decide (ownDepth gd k q > gd.ownLimit) := by
  unfold GuardOK at hok
  rw [hon] at hok
  obtain ⟨hlim, hcnt⟩ := hok
  have hle := ownDepth_le g gd k q hcnt
  unfold refuse
  rw [hon]
  by_cases h : ownDepth gd k q > gd.ownLimit
  · have : c + 1 > gd.limit := by omega
    simp [h, this]
  · simp [h]

theorem localStep_nil {g : Guards} {q : ReqSt} {c : Nat} (h : q.pc = []) : localStep g q c = (q, c) := by
  simp [localStep, h]

theorem localStep_cons {g : Guards} {q : ReqSt} {c : Nat} {st : Step} {rest : List Step}
    (h : q.pc = st :: rest) : localStep g q c = exec g { q with pc := rest } c st := by
  simp [localStep, h]

/-- one step as the specification takes it: the request's own frames against its own limits, no counter -/
def ownExec (lim : Callee → Option Spec.ReqLimit.Limit) (q : ReqSt) : Step → ReqSt
  | .enter k =>
    match lim k with
    | none => { q with stack := k :: q.stack }
    | some l =>
      let own := (q.stack.filter (fun j => l.counts.contains j)).length + (if l.counts.contains k then 1 else 0)
      if own > l.max then ⟨[], [], .refused own⟩ else { q with stack := k :: q.stack }
  | .leave => { q with stack := q.stack.tail }
  | .gate => q
  | .write => { q with out := .ok }

theorem go_ownExec (lim : Callee → Option Spec.ReqLimit.Limit) (q : ReqSt) (st : Step) :
    Spec.ReqLimit.go lim (ownExec lim q st).pc (ownExec lim q st).stack (ownExec lim q st).out
      = Spec.ReqLimit.go lim (st :: q.pc) q.stack q.out := by
  -- the arms of `ownExec`: `enter` without a limit, refused, let through; `leave`; `gate`; `write`
  fun_cases ownExec lim q st
  case case1 k hk => rw [Spec.ReqLimit.go, hk]
  case case2 k l hk own h => rw [Spec.ReqLimit.go, Spec.ReqLimit.go, hk]; exact (if_pos h).symm
  case case3 k l hk own h => rw [Spec.ReqLimit.go, hk]; exact (if_neg h).symm
  case case4 => rfl
  case case5 => rfl
  case case6 => rfl

theorem exec_fst (g : Guards) (hg : GoodGuards g) (q : ReqSt) (c : Nat) (hc : depth g q ≤ c) (st : Step) :
    (exec g q c st).1 = ownExec (Spec.ReqLimit.limitsOf g) q st := by
  cases st with
  | enter k =>
    simp only [exec, enter, ownExec, Spec.ReqLimit.limitsOf]
    cases hk : g k with
    | none => rfl
    | some gd =>
      simp only []
      have hok := hg k gd hk
      cases hon : gd.on with
      | shared => unfold GuardOK at hok; rw [hon] at hok; exact hok.elim
      | never => simp [refuse, hon]
      | own =>
        rw [refuse_own g gd k q c hon hok hc]
        simp only [decide_eq_true_eq, reported, hon]
        exact apply_ite Prod.fst ..
  | leave => obtain ⟨pc, stack, out⟩ := q; cases stack <;> rfl
  | _ => rfl

theorem localStep_indep (g : Guards) (hg : GoodGuards g) (q : ReqSt) (c c' : Nat)
    (hc : depth g q ≤ c) (hc' : depth g q ≤ c') : (localStep g q c).1 = (localStep g q c').1 := by
  cases hpc : q.pc with
  | nil => rw [localStep_nil hpc, localStep_nil hpc]
  | cons st rest =>
    rw [localStep_cons hpc, localStep_cons hpc, exec_fst g hg { q with pc := rest } c hc,
      exec_fst g hg { q with pc := rest } c' hc']

theorem depth_push (g : Guards) (pc : List Step) (k : Callee) (st : List Callee) (out : Outcome) :
    depth g { pc := pc, stack := k :: st, out := out }
      = depth g { pc := pc, stack := st, out := out } + if counted g k then 1 else 0 := by
  simp only [depth, List.filter_cons]
  split <;> rfl

theorem localStep_cnt (g : Guards) (q : ReqSt) (c : Nat) (hc : depth g q ≤ c) :
    (localStep g q c).2 + depth g q = c + depth g (localStep g q c).1 := by
  fun_cases localStep g q c
  case case1 => rfl
  case case2 st rest hpc =>
    -- the arms of `exec`: `enter k`, `leave`, `gate`, `write`
    fun_cases exec g _ c st
    case case1 k =>
      -- the arms of `enter`: not counted; refused (the request unwinds all its frames); counted and let through
      fun_cases enter g k _ c
      case case1 hk => simp [depth_push, counted, hk]; rfl
      case case2 => exact Nat.sub_add_cancel hc
      case case3 gd hk _ =>
        simp only []
        rw [depth_push, show counted g k = true by simp [counted, hk], if_pos rfl, Nat.add_right_comm]
        rfl
    case case2 =>
      -- the arms of `leave`: no frame held; the innermost frame `k` goes
      fun_cases leave g _ c
      case case1 => rfl
      case case2 k rest' hst =>
        have hq : depth g q = depth g { q with pc := rest, stack := rest' } + if counted g k then 1 else 0 := by
          rw [← depth_push, ← hst]; rfl
        simp only []
        rw [hq] at hc ⊢
        by_cases hck : counted g k = true
        · rw [if_pos hck] at hc
          rw [if_pos hck, if_pos hck, Nat.add_comm _ 1, ← Nat.add_assoc,
            Nat.sub_add_cancel (Nat.le_trans (Nat.le_add_left ..) hc)]
        · rw [if_neg hck, if_neg hck]; rfl
    case case3 => rfl
    case case4 => rfl

theorem stepReq_other (w : World) (s : State) (a r : Rid) (h : a ≠ r) : (stepReq w s a).req r = s.req r := by
  unfold stepReq
  split
  · simp [Ne.symm h]
  · rfl

theorem stepReq_self (w : World) (s : State) (r : Rid) (hr : r < w.n) :
    (stepReq w s r).req r = (localStep w.guards (s.req r) s.cnt).1 := by
  simp [stepReq, hr]

theorem stepReq_absent (w : World) (s : State) (r : Rid) (hr : ¬ r < w.n) : stepReq w s r = s := by
  simp [stepReq, hr]

theorem depth_le_cnt (w : World) (s : State) (r : Rid) (hr : r < w.n) (hi : Inv w s) :
    depth w.guards (s.req r) ≤ s.cnt := by
  unfold Inv at hi
  rw [hi]
  exact le_sum_range (fun i => depth w.guards (s.req i)) r w.n hr

theorem inv_step (w : World) (s : State) (r : Rid) (hi : Inv w s) : Inv w (stepReq w s r) := by
  by_cases hr : r < w.n
  · have hcnt := localStep_cnt w.guards (s.req r) s.cnt (depth_le_cnt w s r hr hi)
    have hupd : total w.guards (stepReq w s r) w.n + depth w.guards (s.req r)
        = total w.guards s w.n + depth w.guards ((stepReq w s r).req r) :=
      sum_range_update (fun i => depth w.guards (s.req i))
        (fun i => depth w.guards ((stepReq w s r).req i)) r w.n hr
        (fun i hne => by rw [stepReq_other w s r i (Ne.symm hne)])
    have hc : (stepReq w s r).cnt = (localStep w.guards (s.req r) s.cnt).2 := by simp [stepReq, hr]
    -- both the counter and the sum move by `depth after - depth before`
    unfold Inv at *
    apply Nat.add_right_cancel (m := depth w.guards (s.req r))
    rw [hc, hcnt, hupd, stepReq_self w s r hr, hi]
  · rw [stepReq_absent w s r hr]; exact hi

theorem inv_run (w : World) (sched : List Rid) : ∀ s, Inv w s → Inv w (run w s sched) := by
  intro s h
  unfold run
  exact List.foldlRecOn sched (stepReq w) h fun s h a _ => inv_step w s a h

theorem inv_init (w : World) : Inv w (init w) := by
  unfold Inv total init
  exact (List.sum_eq_zero_iff_forall_eq_nat.mpr fun x hx => by
    obtain ⟨i, _, rfl⟩ := List.mem_map.mp hx
    simp [depth]).symm

theorem sim_run (w : World) (hg : GoodGuards w.guards) (r : Rid) (sched : List Rid) :
    ∀ s s' : State, Inv w s → Inv w s' → s.req r = s'.req r →
      (run w s sched).req r = (run w s' (List.replicate (sched.count r) r)).req r := by
  intro s s' hi hi' h
  refine (Sched.project (stepReq w) r (fun s s' => Inv w s ∧ Inv w s' ∧ s.req r = s'.req r)
    ?_ sched ?_ s s' ⟨hi, hi', h⟩).2.2
  · intro s s' ⟨hi, hi', h⟩
    refine ⟨inv_step w s r hi, inv_step w s' r hi', ?_⟩
    by_cases hr : r < w.n
    · rw [stepReq_self w s r hr, stepReq_self w s' r hr, ← h]
      exact localStep_indep w.guards hg (s.req r) s.cnt s'.cnt (depth_le_cnt w s r hr hi)
        (h ▸ depth_le_cnt w s' r hr hi')
    · rwa [stepReq_absent w s r hr, stepReq_absent w s' r hr]
  · intro a _ har s s' ⟨hi, hi', h⟩
    exact ⟨inv_step w s a hi, hi', by rwa [stepReq_other w s a r har]⟩

theorem localStep_done (g : Guards) (q : ReqSt) (c : Nat) (h : q.pc = []) : (localStep g q c).1 = q := by
  rw [localStep_nil h]

/-- `≤`, not `=`: a refusal empties the program counter -/
theorem localStep_pc_length (g : Guards) (q : ReqSt) (c : Nat) :
    (localStep g q c).1.pc.length ≤ q.pc.length - 1 := by
  fun_cases localStep g q c
  case case1 hpc => rw [hpc]; exact Nat.le_refl _
  case case2 st rest hpc =>
    rw [hpc]
    fun_cases exec g _ c st
    case case1 k =>
      fun_cases enter g k _ c
      case case1 => exact Nat.le_refl _
      case case2 => exact Nat.zero_le _
      case case3 => exact Nat.le_refl _
    case case2 =>
      fun_cases leave g _ c
      case case1 => exact Nat.le_refl _
      case case2 => exact Nat.le_refl _
    case case3 => exact Nat.le_refl _
    case case4 => exact Nat.le_refl _

theorem stepReq_pc_length (w : World) (r : Rid) (hr : r < w.n) (s : State) :
    ((stepReq w s r).req r).pc.length ≤ (s.req r).pc.length - 1 := by
  rw [stepReq_self w s r hr]; exact localStep_pc_length ..

theorem run_saturate (w : World) (r : Rid) (hr : r < w.n) :
    ∀ (n m : Nat) (s : State), (s.req r).pc.length ≤ n → (s.req r).pc.length ≤ m →
      (run w s (List.replicate n r)).req r = (run w s (List.replicate m r)).req r :=
  Sched.saturate (stepReq w) r (fun s => (s.req r).pc.length) (fun s => s.req r) (stepReq_pc_length w r hr)
    (fun s h => by rw [stepReq_self w s r hr, localStep_done _ _ _ (List.length_eq_zero_iff.mp h)])

/-- what the specification makes of the rest of the request's program, from where the request stands
(the function of which `ReqIC.OnTrack` is the predicate "… is the specified response") -/
def onTrack (g : Guards) (q : ReqSt) : Outcome := Spec.ReqLimit.go (Spec.ReqLimit.limitsOf g) q.pc q.stack q.out

theorem localStep_onTrack (g : Guards) (hg : GoodGuards g) (q : ReqSt) (c : Nat) (hc : depth g q ≤ c) :
    onTrack g (localStep g q c).1 = onTrack g q := by
  cases hpc : q.pc with
  | nil => rw [localStep_nil hpc]
  | cons st rest =>
    rw [localStep_cons hpc, exec_fst g hg { q with pc := rest } c hc]
    unfold onTrack
    rw [hpc]
    exact go_ownExec (Spec.ReqLimit.limitsOf g) { q with pc := rest } st

theorem run_out (w : World) (hg : GoodGuards w.guards) (r : Rid) (hr : r < w.n) :
    ∀ (n : Nat) (s : State), (s.req r).pc.length ≤ n → Inv w s →
      ((run w s (List.replicate n r)).req r).out = onTrack w.guards (s.req r) := by
  intro n
  induction n with
  | zero =>
    intro s hn _
    unfold onTrack
    rw [List.length_eq_zero_iff.mp (Nat.le_zero.mp hn)]
    rfl
  | succ n ih =>
    intro s hn hi
    rw [← localStep_onTrack w.guards hg _ _ (depth_le_cnt w s r hr hi), ← stepReq_self w s r hr]
    exact ih (stepReq w s r) (Nat.le_trans (stepReq_pc_length w r hr s) (Nat.sub_le_of_le_add hn)) (inv_step w s r hi)

theorem solo_spec (w : World) (hg : GoodGuards w.guards) (r : Rid) (hr : r < w.n) :
    ∀ (prog : List Step) (s : State), (s.req r).pc = prog → Inv w s →
      ((run w s (List.replicate prog.length r)).req r).out
        = Spec.ReqLimit.go (Spec.ReqLimit.limitsOf w.guards) prog (s.req r).stack (s.req r).out := by
  intro prog s hpc hi
  rw [run_out w hg r hr prog.length s (hpc ▸ Nat.le_refl _) hi, onTrack, hpc]

/-- when every guard decides on the request's own frames, a request is served or
refused, under every schedule that lets it finish, as the specification says of its own program -/
theorem isolated (w : World) (hg : GoodGuards w.guards) (r : Rid) (hr : r < w.n) (sched : List Rid)
    (hdone : (w.prog r).length ≤ sched.count r) :
    response (run w (init w) sched) r = Spec.ReqLimit.respond w.guards (w.prog r) := by
  unfold response
  rw [sim_run w hg r sched _ _ (inv_init w) (inv_init w) rfl]
  exact run_out w hg r hr _ (init w) hdone (inv_init w)

theorem goodGuards_of_facts (f : Model.Req.Facts) (h : f.guardsIsolated = true) : GoodGuards (guardsOf f) := by
  intro k gd hk
  obtain ⟨d, hf, rfl⟩ := Option.map_eq_some_iff.mp hk
  have hd : f.guardIsolated d = true := List.all_eq_true.mp h d (List.mem_of_find?_eq_some hf)
  unfold Model.Req.Facts.guardIsolated at hd
  unfold GuardOK guardOfFact
  by_cases h1 : (d.decidesOn == "own") = true
  · simp only [h1, if_true]
    simp only [h1, Bool.true_and, Bool.or_eq_true, Bool.and_eq_true, decide_eq_true_eq] at hd
    rcases hd with hn | ⟨hl, hall⟩
    · have e1 : d.decidesOn = "own" := by simpa using h1
      have e2 : d.decidesOn = "never" := by simpa using hn
      rw [e1] at e2
      exact absurd e2 (by decide)
    · refine ⟨hl, ?_⟩
      intro j hj
      have hjm : j ∈ d.ownCounts := List.contains_iff_mem.mp hj
      have := List.all_eq_true.mp hall j hjm
      simp only [counted, guardsOf, Option.isSome_map]
      exact this
  · have h1' : (d.decidesOn == "own") = false := by simpa using h1
    simp only [h1', Bool.false_and, Bool.or_false] at hd
    simp [h1', hd]

end Proofs.ReqLimit
