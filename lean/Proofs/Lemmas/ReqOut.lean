import Spec.ReqOut
/-!
Under `direct` the hook is never set and stdout is tagged by writer
(`direct_run`).  Under `swap` the hooks saved by the requests in flight form the stack of those
requests (`Chain`); start, echo and stop of a `nested` trace maintain it, so every echo lands in the
body of its writer (`swap_nested`).
-/
namespace Proofs.ReqOut
open Model.ReqOut
open Spec.ReqOut (echoes own)

theorem proj_append (r : Nat) (a b : List (Nat × Nat)) : proj r (a ++ b) = proj r a ++ proj r b := by
  simp [proj, List.filter_append]

theorem run_cons (d : Discipline) (s : St) (e : Ev) (t : List Ev) :
    run d s (e :: t) = run d (step d s e) t := rfl

theorem direct_run (t : List Ev) : ∀ (s : St), s.cur = none →
    (run .direct s t).cur = none ∧ (run .direct s t).body = s.body ∧
    ∀ r, proj r (run .direct s t).stdout = proj r s.stdout ++ echoes r t := by
  induction t with
  | nil => intro s h; simp [run, echoes, h]
  | cons e t ih =>
    intro s h
    rw [run_cons]
    cases e with
    | start q => exact ih s h
    | stop q => exact ih s h
    | echo q v =>
      have hs : step .direct s (.echo q v) = { s with stdout := s.stdout ++ [(q, v)] } := by
        simp [step, h]
      rw [hs]
      obtain ⟨h1, h2, h3⟩ := ih { s with stdout := s.stdout ++ [(q, v)] } h
      refine ⟨h1, h2, ?_⟩
      intro r
      rw [h3 r, proj_append]
      by_cases hq : q = r
      · subst hq; simp [echoes, proj]
      · simp [echoes, proj, hq]

theorem direct_attributed (t : List Ev) (r : Nat) :
    (run .direct init t).body r = [] ∧ attributed (run .direct init t) r = echoes r t := by
  obtain ⟨_, hb, hp⟩ := direct_run t init rfl
  have hb' : (run .direct init t).body r = [] := by rw [hb]; rfl
  refine ⟨hb', ?_⟩
  unfold attributed
  rw [hb', hp r]
  rfl

theorem echoes_own (r : Nat) (t : List Ev) : echoes r (own r t) = echoes r t := by
  induction t with
  | nil => rfl
  | cons e t ih =>
    cases e with
    | start q => by_cases hq : q = r <;> simp [own, echoes, hq, ih]
    | stop q => by_cases hq : q = r <;> simp [own, echoes, hq, ih]
    | echo q v => by_cases hq : q = r <;> simp [own, echoes, hq, ih]

/-- the innermost request is the current one, and each request saved the one below it -/
def Chain (saved : Nat → Option Nat) : List Nat → Option Nat → Prop
  | [], c => c = none
  | r :: rest, c => c = some r ∧ r ∉ rest ∧ Chain saved rest (saved r)

theorem chain_cons {saved : Nat → Option Nat} {r : Nat} {rest : List Nat} {c : Option Nat} :
    Chain saved (r :: rest) c ↔ c = some r ∧ r ∉ rest ∧ Chain saved rest (saved r) := Iff.rfl

theorem chain_update (saved : Nat → Option Nat) (r : Nat) (x : Option Nat) :
    ∀ (stk : List Nat) (c : Option Nat), r ∉ stk → Chain saved stk c →
      Chain (fun q => if q = r then x else saved q) stk c := by
  intro stk
  induction stk with
  | nil => intro c _ h; exact h
  | cons a rest ih =>
    intro c hr h
    obtain ⟨h1, h2, h3⟩ := chain_cons.1 h
    have har : ¬ a = r := fun e => hr (by simp [e])
    have hrr : r ∉ rest := fun e => hr (by simp [e])
    have h4 := ih (saved a) hrr h3
    show c = some a ∧ a ∉ rest ∧ Chain _ rest ((fun q => if q = r then x else saved q) a)
    refine ⟨h1, h2, ?_⟩
    simpa [har] using h4

/-- save/restore is right as long as requests nest -/
theorem swap_nested (stk : List Nat) (t : List Ev) : ∀ (s : St), Chain s.saved stk s.cur →
    nested stk t = true →
    (run .swap s t).stdout = s.stdout ∧ ∀ r, (run .swap s t).body r = s.body r ++ echoes r t := by
  -- the arms of `nested`: 1 end of trace; 2 `start`; 3 `echo` with nobody in flight, 4 with `top` innermost;
  -- 5, 6 `stop` likewise
  fun_induction nested stk t with
  | case1 stk => intro s _ _; simp [run, echoes]
  | case2 stk q t ih =>
    intro s hc hn
    simp only [Bool.and_eq_true, Bool.not_eq_true', List.contains_eq_mem, decide_eq_false_iff_not] at hn
    refine ih (step .swap s (.start q)) (chain_cons.2 ⟨rfl, hn.1, ?_⟩) hn.2
    simpa [step] using chain_update s.saved q s.cur stk s.cur hn.1 hc
  | case3 q v t => intro s _ hn; cases hn
  | case4 top stk q v t ih =>
    intro s hc hn
    simp only [Bool.and_eq_true, beq_iff_eq] at hn
    obtain ⟨rfl, hn⟩ := hn
    have hs : step .swap s (.echo q v) =
        { s with body := fun p => if p = q then s.body p ++ [v] else s.body p } := by
      simp [step, (chain_cons.1 hc).1]
    obtain ⟨h1, h2⟩ := ih (step .swap s (.echo q v)) (by rw [hs]; exact hc) hn
    rw [run_cons]
    rw [hs] at h1 h2 ⊢
    refine ⟨h1, fun r => ?_⟩
    rw [h2 r]
    by_cases hr : r = q
    · subst hr; simp [echoes]
    · have hr' : ¬ q = r := fun e => hr e.symm
      simp [echoes, hr, hr']
  | case5 q t => intro s _ hn; cases hn
  | case6 top stk q t ih =>
    intro s hc hn
    simp only [Bool.and_eq_true, beq_iff_eq] at hn
    obtain ⟨rfl, hn⟩ := hn
    exact ih (step .swap s (.stop q)) (chain_cons.1 hc).2.2 hn

end Proofs.ReqOut
