import Model.ReqReg
import Spec.ReqReg
import Proofs.Lemmas.Sched
/-!
The registry part of C11 (`Model.ReqReg`).  What a request observes here is `proj`: its state and the
registry entries under its key.  So a turn of another request is invisible only if that request has a
different key (`stepReq_other`), which is the hypothesis the isolation theorems carry.
-/
namespace Proofs.ReqReg
open Model.ReqReg
open Model.Req (Rid)

theorem keyOf_of_nil (f : Model.Req.Facts) (h : f.registryViolations = []) : keyOf f = fun r => r := by
  funext _
  simp [keyOf, h]

theorem localStep_nil {q : ReqSt} {v : View} (h : q.pc = []) : localStep q v = (q, v) := by
  simp [localStep, h]

theorem localStep_cons {q : ReqSt} {v : View} {st : Step} {rest : List Step} (h : q.pc = st :: rest) :
    localStep q v = exec { q with pc := rest } v st := by
  simp [localStep, h]

def proj (w : World) (s : State) (r : Rid) : ReqSt × View := (s.req r, view w s r)

theorem proj_eq {w : World} {r : Rid} {s s' : State} :
    proj w s r = proj w s' r ↔ s.req r = s'.req r ∧ view w s r = view w s' r := Prod.ext_iff

theorem stepReq_req (w : World) (s : State) (r : Rid) :
    (stepReq w s r).req r = (localStep (s.req r) (view w s r)).1 := by
  simp [stepReq]

theorem stepReq_view (w : World) (s : State) (r : Rid) :
    view w (stepReq w s r) r = (localStep (s.req r) (view w s r)).2 := by
  funext g; simp [view, stepReq]

theorem stepReq_proj (w : World) (s : State) (r : Rid) :
    proj w (stepReq w s r) r = localStep (s.req r) (view w s r) := by
  rw [proj, stepReq_req, stepReq_view]

theorem stepReq_other (w : World) (s : State) (a r : Rid) (hne : a ≠ r) (hk : w.key a ≠ w.key r) :
    proj w (stepReq w s a) r = proj w s r := by
  unfold proj
  have h1 : (stepReq w s a).req r = s.req r := by simp [stepReq, Ne.symm hne]
  have h2 : view w (stepReq w s a) r = view w s r := by
    funext g; simp [view, stepReq, Ne.symm hk]
  rw [h1, h2]

theorem sim_run (w : World) (r : Rid) (sched : List Rid) :
    ∀ s s' : State, proj w s r = proj w s' r → (∀ a ∈ sched, a ≠ r → w.key a ≠ w.key r) →
      proj w (run w s sched) r = proj w (run w s' (List.replicate (sched.count r) r)) r := by
  intro s s' h hk
  refine Sched.project (stepReq w) r (fun s s' => proj w s r = proj w s' r) ?_ sched ?_ s s' h
  · intro s s' h
    rw [stepReq_proj, stepReq_proj, (proj_eq.1 h).1, (proj_eq.1 h).2]
  · intro a ha har s s' h
    rwa [stepReq_other w s a r har (hk a ha har)]

theorem run_frame (w : World) (r : Rid) (sched : List Rid) :
    ∀ s : State, r ∉ sched → (run w s sched).req r = s.req r :=
  Sched.frame (stepReq w) r (fun s => s.req r) (fun a s har => by simp [stepReq, Ne.symm har]) sched

theorem run_append (w : World) (s : State) (a b : List Rid) : run w s (a ++ b) = run w (run w s a) b :=
  List.foldl_append

theorem localStep_pc (q : ReqSt) (v : View) : (localStep q v).1.pc = q.pc.tail := by
  cases hpc : q.pc with
  | nil => rw [localStep_nil hpc, hpc]; rfl
  | cons st rest => rw [localStep_cons hpc]; cases st <;> rfl

theorem run_saturate (w : World) (r : Rid) :
    ∀ (n : Nat) (s : State), (s.req r).pc.length ≤ n →
      proj w (run w s (List.replicate n r)) r = proj w (run w s (List.replicate (s.req r).pc.length r)) r :=
  fun n s h => Sched.saturate (stepReq w) r (fun s => (s.req r).pc.length) (fun s => proj w s r)
    (fun s => by
      rw [stepReq_req, localStep_pc, List.length_tail]
      exact Nat.le_refl _)
    (fun s h => by rw [stepReq_proj, localStep_nil (List.length_eq_zero_iff.mp h)]; rfl)
    n _ s h (Nat.le_refl _)

open Spec.ReqReg (find drop)

theorem find_drop (st : Spec.ReqReg.Store) (g g' : Reg) :
    find (drop st g) g' = if g' = g then none else find st g' := by
  induction st with
  | nil => simp [find, drop]
  | cons e rest ih =>
    obtain ⟨k, x⟩ := e
    by_cases hk : k = g
    · subst hk
      simp only [drop, if_true, ih, find]
      by_cases h2 : g' = k
      · simp [h2]
      · have : ¬ k = g' := fun h => h2 h.symm
        simp [h2, this]
    · simp only [drop, hk, if_false, find, ih]
      by_cases h2 : k = g'
      · subst h2; simp [hk]
      · simp [h2]

def Same (v : View) (st : Spec.ReqReg.Store) : Prop := ∀ g, v g = find st g

theorem same_attach {v : View} {st : Spec.ReqReg.Store} (hs : Same v st) (g : Reg) (x : Val) :
    Same (fun g' => if g' = g then some x else v g') ((g, x) :: drop st g) := by
  intro g'
  by_cases h : g' = g
  · simp [find, h]
  · simp [find, h, Ne.symm h, find_drop, hs g']

theorem same_detach {v : View} {st : Spec.ReqReg.Store} (hs : Same v st) (g : Reg) :
    Same (fun g' => if g' = g then none else v g') (drop st g) := by
  intro g'
  by_cases h : g' = g
  · simp [h, find_drop]
  · simp [h, find_drop, hs g']

/-- one step of the model is one unfolding of the specification, the entries under the request's key
being the specification's private store -/
theorem go_step (q : ReqSt) (v : View) (stp : Step) (rest : List Step) (st : Spec.ReqReg.Store)
    (hpc : q.pc = stp :: rest) (hs : Same v st) :
    ∃ st', Same (localStep q v).2 st' ∧
      Spec.ReqReg.go (stp :: rest) st q.pending q.body =
        Spec.ReqReg.go rest st' (localStep q v).1.pending (localStep q v).1.body := by
  rw [localStep_cons hpc]
  cases stp with
  | attach g x => exact ⟨_, same_attach hs g x, rfl⟩
  | attachNew g x =>
    cases hf : find st g with
    | some y =>
      refine ⟨st, fun g' => ?_, by simp [Spec.ReqReg.go, hf, exec]⟩
      by_cases h : g' = g
      · simp [exec, h, hs g, hf]
      · simp [exec, h, hs g']
    | none =>
      refine ⟨(g, x) :: drop st g, ?_, by simp [Spec.ReqReg.go, hf, exec]⟩
      have := same_attach hs g x
      simpa [exec, hs g, hf] using this
  | lookup g => exact ⟨st, hs, by simp [Spec.ReqReg.go, exec, hs g]⟩
  | detach g => exact ⟨_, same_detach hs g, rfl⟩
  | _ => exact ⟨st, hs, rfl⟩

theorem solo_spec (w : World) (r : Rid) :
    ∀ (prog : List Step) (s : State) (st : Spec.ReqReg.Store), (s.req r).pc = prog → Same (view w s r) st →
      ((run w s (List.replicate prog.length r)).req r).body
          = (Spec.ReqReg.go prog st (s.req r).pending (s.req r).body).1 ∧
      Same (view w (run w s (List.replicate prog.length r)) r)
          (Spec.ReqReg.go prog st (s.req r).pending (s.req r).body).2 := by
  intro prog
  induction prog with
  | nil => intro s st _ hs; exact ⟨rfl, hs⟩
  | cons stp rest ih =>
    intro s st hpc hs
    obtain ⟨st', hs', e⟩ := go_step (s.req r) (view w s r) stp rest st hpc hs
    rw [e, ← stepReq_req]
    exact ih (stepReq w s r) st' (by rw [stepReq_req, localStep_pc, hpc]; rfl) (stepReq_view w s r ▸ hs')

/-- **Isolation from any state** in which `r` stands at the start of its program with nothing attached
under its key (a fresh process, or a key whose previous holder has detached): under every schedule
that lets `r` finish and whose other requests use other keys, `r` writes what the specification says
and leaves attached what the specification says. -/
theorem isolated_from (w : World) (r : Rid) (s : State) (sched : List Rid)
    (hs : proj w s r = proj w (init w) r) (hk : ∀ a ∈ sched, a ≠ r → w.key a ≠ w.key r)
    (hdone : (w.prog r).length ≤ sched.count r) :
    ((run w s sched).req r).body = Spec.ReqReg.respond (w.prog r) ∧
    Same (view w (run w s sched) r) (Spec.ReqReg.leaves (w.prog r)) := by
  have h := proj_eq.1 ((sim_run w r sched s (init w) hs hk).trans (run_saturate w r (sched.count r) (init w) hdone))
  rw [h.1, h.2]
  exact solo_spec w r (w.prog r) (init w) [] rfl (fun _ => rfl)

end Proofs.ReqReg
