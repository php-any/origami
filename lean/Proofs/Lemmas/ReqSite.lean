import Model.ReqSite
import Spec.ReqSite
import Proofs.Lemmas.Sched
/-!
The per-evaluation-value part of C11 (`Model.ReqSite`).  The shared state is the fields of the syntax
nodes; the projection goes through because a `Good` request (every closure it makes or holds carries its
environment) neither reads nor changes them (`localStep_good`).
-/
namespace Proofs.ReqSite
open Model.ReqSite
open Model.Req (Rid)

/-- every closure literal the program evaluates keeps its environment per evaluation -/
def PrivProg (scope : Site → SiteScope) (prog : List Step) : Prop :=
  ∀ s slot, Step.mk s slot ∈ prog → scope s = .perEvaluation

def OwnLocals (l : List (Nat × Clo)) : Prop :=
  ∀ slot c, l.lookup slot = some c → ∃ e, c = .own e

def Good (scope : Site → SiteScope) (q : ReqSt) : Prop := PrivProg scope q.pc ∧ OwnLocals q.locals

theorem scopeOf_of_nil (f : Model.Req.Facts) (h : f.nodeWriteViolations = []) :
    scopeOf f = fun _ => .perEvaluation := by
  funext _
  simp [scopeOf, h]

theorem ownLocals_cons {l : List (Nat × Clo)} (slot : Nat) (e : Val) (h : OwnLocals l) :
    OwnLocals ((slot, .own e) :: l) := by
  intro k c hk
  simp only [List.lookup] at hk
  split at hk
  · exact ⟨e, by simpa using hk.symm⟩
  · exact h k c hk

theorem localStep_nil {scope : Site → SiteScope} {d : Val} {q : ReqSt} {f : Fields} (h : q.pc = []) :
    localStep scope d q f = (q, f) := by
  simp [localStep, h]

theorem localStep_cons {scope : Site → SiteScope} {d : Val} {q : ReqSt} {f : Fields} {st : Step} {rest : List Step}
    (h : q.pc = st :: rest) : localStep scope d q f = exec scope d { q with pc := rest } f st := by
  simp [localStep, h]

theorem localStep_good (scope : Site → SiteScope) (d : Val) (q : ReqSt) (f f' : Fields) (hg : Good scope q) :
    (localStep scope d q f).1 = (localStep scope d q f').1 ∧ (localStep scope d q f).2 = f ∧
      Good scope (localStep scope d q f).1 := by
  obtain ⟨hp, hl⟩ := hg
  cases hpc : q.pc with
  | nil =>
    rw [localStep_nil hpc, localStep_nil hpc]
    exact ⟨rfl, rfl, hp, hl⟩
  | cons st rest =>
    rw [localStep_cons hpc, localStep_cons hpc]
    have hp' : PrivProg scope (st :: rest) := hpc ▸ hp
    have ht : PrivProg scope rest := fun s slot hm => hp' s slot (List.mem_cons_of_mem _ hm)
    cases st with
    | mk s slot =>
      have hs : scope s = .perEvaluation := hp' s slot (List.mem_cons_self ..)
      simp only [exec, hs]
      exact ⟨True.intro, True.intro, ht, ownLocals_cons slot d hl⟩
    | call slot =>
      simp only [exec]
      cases hlk : q.locals.lookup slot with
      | none => exact ⟨rfl, rfl, ht, hl⟩
      | some c =>
        obtain ⟨e, rfl⟩ := hl slot c hlk
        exact ⟨rfl, rfl, ht, hl⟩
    | _ => exact ⟨rfl, rfl, ht, hl⟩

theorem stepReq_other (w : World) (s : State) (a r : Rid) (h : a ≠ r) : (stepReq w s a).req r = s.req r := by
  simp [stepReq, Ne.symm h]

theorem stepReq_self (w : World) (s : State) (r : Rid) :
    (stepReq w s r).req r = (localStep w.scope (w.env r) (s.req r) s.fields).1 := by
  simp [stepReq]

theorem sim_run (w : World) (r : Rid) (sched : List Rid) :
    ∀ s s' : State, s.req r = s'.req r → Good w.scope (s.req r) →
      (run w s sched).req r = (run w s' (List.replicate (sched.count r) r)).req r := by
  intro s s' h hg
  refine (Sched.project (stepReq w) r (fun s s' => s.req r = s'.req r ∧ Good w.scope (s.req r))
    ?_ sched ?_ s s' ⟨h, hg⟩).1
  · intro s s' ⟨h, hg⟩
    have h1 := localStep_good w.scope (w.env r) (s.req r) s.fields s'.fields hg
    rw [stepReq_self, stepReq_self, ← h]
    exact ⟨h1.1, h1.2.2⟩
  · intro a _ har s s' h
    rwa [stepReq_other w s a r har]

theorem exec_pc (scope : Site → SiteScope) (d : Val) (q : ReqSt) (f : Fields) (st : Step) :
    (exec scope d q f st).1.pc = q.pc := by
  fun_cases exec scope d q f st <;> rfl

theorem localStep_pc (scope : Site → SiteScope) (d : Val) (q : ReqSt) (f : Fields) :
    (localStep scope d q f).1.pc = q.pc.tail := by
  cases hpc : q.pc with
  | nil => rw [localStep_nil hpc, hpc]; rfl
  | cons st rest => rw [localStep_cons hpc, exec_pc]; rfl

theorem run_saturate (w : World) (r : Rid) :
    ∀ (n : Nat) (s : State), (s.req r).pc.length ≤ n →
      (run w s (List.replicate n r)).req r = (run w s (List.replicate (s.req r).pc.length r)).req r :=
  fun n s h => Sched.saturate (stepReq w) r (fun s => (s.req r).pc.length) (fun s => s.req r)
    (fun s => by rw [stepReq_self, localStep_pc, List.length_tail]; exact Nat.le_refl _)
    (fun s h => by rw [stepReq_self, localStep_nil (List.length_eq_zero_iff.mp h)])
    n _ s h (Nat.le_refl _)

/-- one step of the model is one unfolding of the specification, for a request that holds a closure
exactly in the slots `made`, each carrying `d` -/
theorem go_step (scope : Site → SiteScope) (d : Val) (q : ReqSt) (f : Fields) (st : Step) (rest : List Step)
    (made : List Nat) (hpc : q.pc = st :: rest) (hg : Good scope q)
    (hmade : ∀ slot, (q.locals.lookup slot).isSome = decide (slot ∈ made))
    (hown : ∀ slot c, q.locals.lookup slot = some c → c = Clo.own d) :
    ∃ made', (∀ slot, ((localStep scope d q f).1.locals.lookup slot).isSome = decide (slot ∈ made')) ∧
      (∀ slot c, (localStep scope d q f).1.locals.lookup slot = some c → c = Clo.own d) ∧
      Spec.ReqSite.go d (st :: rest) made q.pending q.body =
        Spec.ReqSite.go d rest made' (localStep scope d q f).1.pending (localStep scope d q f).1.body := by
  rw [localStep_cons hpc]
  cases st with
  | mk site slot =>
    have hsc : scope site = .perEvaluation := hg.1 site slot (hpc ▸ List.mem_cons_self ..)
    simp only [exec, hsc]
    refine ⟨slot :: made, ?_, ?_, rfl⟩
    · intro k
      simp only [List.lookup]
      split
      · rename_i heq; simp at heq; simp [heq]
      · rename_i hne; simp at hne; simp [hmade k, hne]
    · intro k c hk
      simp only [List.lookup] at hk
      split at hk
      · simpa using hk.symm
      · exact hown k c hk
  | call slot =>
    simp only [exec]
    cases hlk : q.locals.lookup slot with
    | none =>
      have hnm : slot ∉ made := by simpa [hlk] using hmade slot
      exact ⟨made, hmade, hown, by simp [Spec.ReqSite.go, hnm]⟩
    | some c =>
      obtain rfl := hown slot c hlk
      have hm : slot ∈ made := by simpa [hlk] using hmade slot
      exact ⟨made, hmade, hown, by simp [Spec.ReqSite.go, hm]⟩
  | _ => exact ⟨made, hmade, hown, rfl⟩

theorem solo_spec (scope : Site → SiteScope) (d : Val) :
    ∀ (prog : List Step) (q : ReqSt) (made : List Nat), q.pc = prog → Good scope q →
      (∀ slot, (q.locals.lookup slot).isSome = decide (slot ∈ made)) →
      (∀ slot c, q.locals.lookup slot = some c → c = Clo.own d) →
      ∀ w : World, w.scope = scope → ∀ r, w.env r = d → ∀ s : State, s.req r = q →
        ((run w s (List.replicate prog.length r)).req r).body = Spec.ReqSite.go d prog made q.pending q.body := by
  intro prog
  induction prog with
  | nil =>
    intro q made hpc _ _ _ w _ r _ s hs
    simp [run, hs, Spec.ReqSite.go]
  | cons st rest ih =>
    intro q made hpc hg hmade hown w hw r hr s hs
    obtain ⟨made', hm', ho', e⟩ := go_step scope d q s.fields st rest made hpc hg hmade hown
    have hself : (stepReq w s r).req r = (localStep scope d q s.fields).1 := by rw [stepReq_self, hs, hw, hr]
    rw [e]
    exact ih _ made' (by rw [localStep_pc, hpc]; rfl) (localStep_good scope d q s.fields s.fields hg).2.2
      hm' ho' w hw r hr (stepReq w s r) hself

theorem good_init (w : World) (r : Rid) (hp : PrivProg w.scope (w.prog r)) : Good w.scope ((init w).req r) :=
  ⟨hp, by intro slot c h; simp [init] at h⟩

/-- a request whose closure literals keep their environment per evaluation writes,
under every schedule that lets it finish, what the specification computes from its own datum -/
theorem isolated (w : World) (r : Rid) (hp : PrivProg w.scope (w.prog r)) (sched : List Rid)
    (hdone : (w.prog r).length ≤ sched.count r) :
    response (run w (init w) sched) r = Spec.ReqSite.respond (w.env r) (w.prog r) := by
  unfold response
  rw [sim_run w r sched _ _ rfl (good_init w r hp), run_saturate w r _ (init w) hdone]
  exact solo_spec w.scope (w.env r) (w.prog r) _ [] rfl (good_init w r hp) (by intro slot; simp [init])
    (by intro slot c h; simp [init] at h) w rfl r rfl (init w) rfl

end Proofs.ReqSite
