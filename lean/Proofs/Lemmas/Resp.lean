import Model.Resp
import Spec.Resp
/-!
C13: an operation list splits at its first committing operation. Before it only the staged status and the header
map move (`Pre`); it sends the head (`Post`); afterwards only the body grows.
-/
namespace Proofs.Resp
open Model.Resp Spec.Resp

abbrev Quiet (ops : List Op) : Prop := ∀ o ∈ ops, committing o = false

@[simp] theorem concat_nil : concat [] = "" := rfl

theorem concat_eq_join (l : List String) : concat l = String.join l := rfl

theorem concat_append (a b : List String) : concat (a ++ b) = concat a ++ concat b := String.join_append

theorem concat_cons (x : String) (a : List String) : concat (x :: a) = x ++ concat a := String.join_cons

theorem concat_snoc (a : List String) (x : String) : concat (a ++ [x]) = concat a ++ x := by
  rw [concat_append, concat_cons]; exact congrArg _ String.append_empty

theorem bodyAllowed_eq (c : Nat) : bodyAllowed c = !noContentStatus c := by
  unfold bodyAllowed noContentStatus
  by_cases h1 : 100 ≤ c ∧ c ≤ 199
  · rw [if_pos h1, decide_eq_true h1.1, decide_eq_true (Nat.lt_succ_of_le h1.2)]; rfl
  · have : (decide (100 ≤ c) && decide (c < 200)) = false := by
      rw [← Bool.decide_and]; exact decide_eq_false fun h => h1 ⟨h.1, Nat.le_of_lt_succ h.2⟩
    rw [if_neg h1, this]
    by_cases h2 : c = 204
    · subst h2; rfl
    · by_cases h3 : c = 304
      · subst h3; rfl
      · rw [if_neg h2, if_neg h3, beq_false_of_ne h2, beq_false_of_ne h3]; rfl

/-- what of the handler's body bytes `body` the wire keeps: a connection (`e`) keeps nothing when
    the committed status `st` forbids a body -/
def kept (e : Bool) (st : Nat) (body : String) : String := if e && !bodyAllowed st then "" else body

theorem kept_empty (e : Bool) (st : Nat) : kept e st "" = "" := by
  unfold kept; split <;> rfl

theorem kept_false (st : Nat) (body : String) : kept false st body = body := rfl

/-- enforcing write by write (`bodyAllowed`, net/http's switch) is the reference's cut by `noContentStatus`. -/
theorem kept_true (st : Nat) (body : String) : kept true st body = if noContentStatus st then "" else body := by
  rw [kept, bodyAllowed_eq, Bool.true_and, Bool.not_not]

theorem kept_of_allowed {st : Nat} (h : bodyAllowed st = true) (e : Bool) (body : String) : kept e st body = body := by
  rw [kept, h, Bool.not_true, Bool.and_false, if_neg Bool.false_ne_true]

theorem kept_append (e : Bool) (st : Nat) (x y : String) : kept e st (x ++ y) = kept e st x ++ kept e st y := by
  unfold kept; split
  · exact String.empty_append.symm
  · rfl

theorem Wire.write_of_committed {w : Wire} (hc : w.committed = true) (b : String) (h : Hdr) :
    ∃ body, w.write b h = { w with body := body } ∧ concat body = concat w.body ++ kept w.enforce w.status b := by
  cases w; cases hc
  simp only [Wire.write, if_true]
  unfold kept; split
  · exact ⟨_, rfl, String.append_empty.symm⟩
  · exact ⟨_, rfl, concat_snoc _ _⟩

section
variable {s : St}

theorem setStatus_of_sent (hs : s.headerSent = true) (c : Nat) : s.setStatus c = s := by
  simp only [St.setStatus, hs, if_true]

theorem sendHeader_of_sent (hs : s.headerSent = true) : s.sendHeader = s := by
  simp only [St.sendHeader, hs, if_true]

theorem writeHeader_of_sent (hs : s.headerSent = true) (c : Nat) : s.writeHeader c = s := by
  simp only [St.writeHeader, hs, if_true]

theorem finish_of_sent (hs : s.headerSent = true) : s.finish = s := by
  simp only [St.finish, hs, Bool.not_true, Bool.false_and, Bool.false_eq_true, if_false]

theorem finish_of_unset (hs : s.statusSet = false) : s.finish = s := by
  simp only [St.finish, hs, Bool.and_false, Bool.false_eq_true, if_false]

theorem finish_of_pending (hs : s.headerSent = false) (hp : s.statusSet = true) :
    s.finish = s.writeHeader s.status := by
  simp only [St.finish, hs, hp, Bool.not_false, Bool.and_self, if_true]

theorem writeHeader_headerSent (s : St) (c : Nat) : (s.writeHeader c).headerSent = true := by
  unfold St.writeHeader; split
  · assumption
  · rfl

theorem sendHeader_headerSent (s : St) : s.sendHeader.headerSent = true := by
  unfold St.sendHeader; split
  · assumption
  · exact writeHeader_headerSent _ _

theorem setStatus_headerSent (s : St) (c : Nat) : (s.setStatus c).headerSent = s.headerSent := by
  unfold St.setStatus; split <;> rfl

end

/-- the wire follows `headerSent`: committed exactly once after it, untouched before it -/
structure Inv (s : St) : Prop where
  sent : s.headerSent = true → s.wire.committed = true ∧ s.wire.commits = 1
  unsent : s.headerSent = false → s.wire.committed = false ∧ s.wire.commits = 0 ∧ s.wire.body = []

theorem inv_init (e : Bool) : Inv ({ wire := { enforce := e } } : St) := ⟨by simp, by simp⟩

/-- `s` is what the staging operations `ops` leave -/
structure Pre (e : Bool) (s : St) (ops : List Op) : Prop where
  unsent : s.headerSent = false
  wire : s.wire = { enforce := e }
  hdr : s.hdr = ops.foldl hdrEffect []
  statusSet : s.statusSet = (lastStatus ops).isSome
  status : s.status = (lastStatus ops).getD 200

theorem Pre.init (e : Bool) : Pre e ({ wire := { enforce := e } } : St) [] := ⟨rfl, rfl, rfl, rfl, rfl⟩

section
variable {e : Bool} {s : St} {ops : List Op} {o : Op}

theorem Pre.inv (h : Pre e s ops) : Inv s :=
  ⟨fun hs => (nomatch h.unsent.symm.trans hs), fun _ => by rw [h.wire]; exact ⟨rfl, rfl, rfl⟩⟩

theorem step_quiet (hs : s.headerSent = false) (hc : committing o = false) :
    step s o = { s with hdr := hdrEffect s.hdr o, status := (statusOf o).getD s.status,
                        statusSet := s.statusSet || (statusOf o).isSome } := by
  cases o with
  | status | header | cookie => simp [step, St.setHeader, St.setStatus, hs, hdrEffect, statusOf]
  | _ => cases hc

theorem lastStatus_snoc (ops : List Op) (o : Op) : lastStatus (ops ++ [o]) = (statusOf o).or (lastStatus ops) := by
  cases h : statusOf o <;> simp [lastStatus, List.filterMap_append, h]

theorem Pre.stage (h : Pre e s ops) (hc : committing o = false) : Pre e (step s o) (ops ++ [o]) := by
  rw [step_quiet h.unsent hc]
  refine ⟨h.unsent, h.wire, ?_, ?_, ?_⟩
  · rw [List.foldl_append, ← h.hdr]; rfl
  · rw [lastStatus_snoc, Option.isSome_or, ← h.statusSet, Bool.or_comm]
  · rw [lastStatus_snoc, Option.getD_or, ← h.status]

end

theorem Pre.foldl (e : Bool) (pre : List Op) (hall : Quiet pre)
    (s : St) (done : List Op) (h : Pre e s done) : Pre e (pre.foldl step s) (done ++ pre) := by
  induction pre generalizing s done with
  | nil => rw [List.append_nil]; exact h
  | cons o os ih =>
    have ⟨ho, hos⟩ := List.forall_mem_cons.mp hall
    rw [List.append_cons]; exact ih hos _ _ (Pre.stage h ho)

/-- the head went out, once, with status `st` and headers `h`; `body` is what the handler has written
since, of which the wire holds `kept e st body` -/
structure Post (e : Bool) (s : St) (st : Nat) (h : Hdr) (body : String) : Prop where
  sent : s.headerSent = true
  enforce : s.wire.enforce = e
  committed : s.wire.committed = true
  commits : s.wire.commits = 1
  status : s.wire.status = st
  hdr : s.wire.hdrAtCommit = h
  body : concat s.wire.body = kept e st body

section
variable {e : Bool} {s s' : St} {st : Nat} {h : Hdr} {body body' : String}

theorem Post.inv (hp : Post e s st h body) : Inv s :=
  ⟨fun _ => ⟨hp.committed, hp.commits⟩, fun hs => (nomatch hp.sent.symm.trans hs)⟩

theorem Post.of_wire (hp : Post e s st h body) {chunks : List String} (h1 : s'.headerSent = true)
    (h2 : s'.wire = { s.wire with body := chunks }) (hb : concat chunks = kept e st body') :
    Post e s' st h body' :=
  ⟨h1, h2 ▸ hp.enforce, h2 ▸ hp.committed, h2 ▸ hp.commits, h2 ▸ hp.status, h2 ▸ hp.hdr, h2 ▸ hb⟩

theorem Post.of_writeHeader (hs : s.headerSent = false) (hi : Inv s) (he : s.wire.enforce = e) (c : Nat) (hd : Hdr)
    (h1 : s'.headerSent = true) (h2 : s'.wire = s.wire.writeHeader c hd) : Post e s' c hd "" := by
  obtain ⟨c1, c2, c3⟩ := hi.unsent hs
  rw [Wire.writeHeader, c1, if_neg Bool.false_ne_true] at h2
  refine ⟨h1, ?_, by rw [h2], ?_, by rw [h2], by rw [h2], ?_⟩ <;> rw [h2]
  · exact he
  · exact congrArg (· + 1) c2
  · rw [kept_empty]; exact congrArg concat c3

theorem writeHeader_post (hs : s.headerSent = false) (hi : Inv s) (he : s.wire.enforce = e) (c : Nat) :
    Post e (s.writeHeader c) c s.hdr "" :=
  .of_writeHeader hs hi he c _ (writeHeader_headerSent s c)
    (by rw [St.writeHeader, hs, if_neg Bool.false_ne_true])

/-- A committing operation sends the head: `noContent` and `writeHeader` stop after the underlying `WriteHeader`;
    `write`, `json`, `html` go on to the underlying `Write`, and so does `redirect` with an empty body (`Write(nil)` in
    `Redirect`). -/
theorem step_commit_wire {o : Op} (hs : s.headerSent = false) (hc : committing o = true) :
    (step s o).headerSent = true ∧
    ((step s o).wire = s.wire.writeHeader ((statusOf o).getD s.status) (hdrEffect s.hdr o) ∧ bodyOf o = "" ∨
     (step s o).wire =
      (s.wire.writeHeader ((statusOf o).getD s.status) (hdrEffect s.hdr o)).write (bodyOf o) (hdrEffect s.hdr o)) := by
  -- the sixth constructor is `html`, split on its optional status (`statusOf` and `step` match on it)
  rcases o with _ | _ | _ | _ | _ | ⟨_, _ | _⟩ | _ | _ | _ <;> simp [committing] at hc <;>
    simp [step, St.write, St.rawWrite, St.sendHeader, St.writeHeader, St.setStatus, St.setHeader, hs, statusOf,
      hdrEffect, bodyOf]

/-- the head stays out and the wire sees an underlying `Write`, or nothing: what `step_commit_wire` and `step_sent`
    hand over -/
theorem Post.write (hp : Post e s st h body) {b : String} {hd : Hdr}
    (hw : s'.headerSent = true ∧ (s'.wire = s.wire ∧ b = "" ∨ s'.wire = s.wire.write b hd)) :
    Post e s' st h (body ++ b) := by
  obtain ⟨h1, h2⟩ := hw
  rcases h2 with ⟨h2, rfl⟩ | h2
  · exact hp.of_wire h1 h2 (by rw [String.append_empty]; exact hp.body)
  · obtain ⟨_, h3, hb⟩ := Wire.write_of_committed hp.committed b hd
    exact hp.of_wire h1 (h2.trans h3) (by rw [hb, hp.body, hp.enforce, hp.status, kept_append])

theorem step_commit {o : Op} (hs : s.headerSent = false) (hi : Inv s) (he : s.wire.enforce = e)
    (hc : committing o = true) :
    Post e (step s o) ((statusOf o).getD s.status) (hdrEffect s.hdr o) (bodyOf o) := by
  -- the state after the underlying `WriteHeader`
  have mid := Post.of_writeHeader (s' := { s with headerSent := true, wire := _ }) hs hi he
    ((statusOf o).getD s.status) (hdrEffect s.hdr o) rfl rfl
  have hp := mid.write (step_commit_wire hs hc)
  rwa [String.empty_append] at hp

theorem Pre.commit {ops : List Op} {o : Op} (h : Pre e s ops) (hc : committing o = true) :
    Post e (step s o) ((lastStatus (ops ++ [o])).getD 200) ((ops ++ [o]).foldl hdrEffect []) (bodyOf o) := by
  rw [lastStatus_snoc, Option.getD_or, ← h.status, List.foldl_append, ← h.hdr]
  exact step_commit h.unsent h.inv (by rw [h.wire]) hc

theorem step_sent (hs : s.headerSent = true) (o : Op) :
    (step s o).headerSent = true ∧
    ((step s o).wire = s.wire ∧ bodyOf o = "" ∨ (step s o).wire = s.wire.write (bodyOf o) (hdrEffect s.hdr o)) := by
  rcases o with _ | _ | _ | _ | _ | ⟨_, _ | _⟩ | _ | _ | _ <;>
    simp [step, St.write, St.rawWrite, St.setHeader, setStatus_of_sent, sendHeader_of_sent, writeHeader_of_sent, hs, hdrEffect,
      bodyOf]

theorem Post.after (hp : Post e s st h body) (o : Op) : Post e (step s o) st h (body ++ bodyOf o) :=
  hp.write (step_sent hp.sent o)

theorem Post.foldl (ops : List Op) (hp : Post e s st h body) :
    Post e (ops.foldl step s) st h (body ++ concat (ops.map bodyOf)) := by
  induction ops generalizing s body with
  | nil => rw [List.map_nil, concat_nil, String.append_empty]; exact hp
  | cons o os ih =>
    rw [List.map_cons, concat_cons, ← String.append_assoc]
    exact ih (Post.after hp o)

theorem Post.client (hp : Post e s st h body) :
    s.client = { status := st, hdr := h, body := kept e st body, commits := 1 } := by
  simp only [St.client, hp.committed, hp.status, hp.hdr, hp.body, hp.commits, if_true]

end

/-- the three normal forms `step_quiet`, `step_commit_wire`, `step_sent` cover every state and operation -/
theorem step_headerSent (s : St) (o : Op) : (step s o).headerSent = (s.headerSent || committing o) := by
  cases hs : s.headerSent with
  | true => exact (step_sent hs o).1
  | false =>
    cases hc : committing o with
    | true => exact (step_commit_wire hs hc).1
    | false => rw [step_quiet hs hc]; exact hs

theorem inv_step (s : St) (op : Op) (h : Inv s) : Inv (step s op) := by
  cases hs : s.headerSent with
  | false =>
    cases hc : committing op with
    | false => rw [step_quiet hs hc]; exact ⟨h.sent, h.unsent⟩
    | true => exact (step_commit hs h rfl hc).inv
  | true =>
    obtain ⟨h1, h2⟩ := step_sent hs op
    refine ⟨fun _ => ?_, fun hu => (nomatch h1.symm.trans hu)⟩
    rcases h2 with ⟨h2, _⟩ | h2
    · rw [h2]; exact h.sent hs
    · obtain ⟨_, h3, _⟩ := Wire.write_of_committed (h.sent hs).1 (bodyOf op) (hdrEffect s.hdr op)
      rw [h2, h3]; exact h.sent hs

theorem inv_finish {s : St} (h : Inv s) : Inv s.finish := by
  unfold St.finish; split
  · exact inv_step s (.writeHeader _) h
  · exact h

theorem Inv.commits_le {s : St} (h : Inv s) : s.wire.commits ≤ 1 := by
  cases hs : s.headerSent with
  | false => rw [(h.unsent hs).2.1]; exact Nat.zero_le 1
  | true => rw [(h.sent hs).2]; exact Nat.le_refl 1

theorem split_commit (ops : List Op) :
    Quiet ops ∨
      ∃ pre c rest, ops = pre ++ c :: rest ∧ Quiet pre ∧ committing c = true := by
  induction ops with
  | nil => exact .inl (fun _ h => nomatch h)
  | cons x xs ih =>
    cases hx : committing x with
    | true => exact .inr ⟨[], x, xs, rfl, (fun _ h => nomatch h), hx⟩
    | false =>
      rcases ih with hq | ⟨pre, c, rest, rfl, hq, hc⟩
      · exact .inl (List.forall_mem_cons.mpr ⟨hx, hq⟩)
      · exact .inr ⟨x :: pre, c, rest, rfl, List.forall_mem_cons.mpr ⟨hx, hq⟩, hc⟩

theorem span_commit {pre : List Op} (hq : Quiet pre) (tail : List Op)
    (ht : ∀ c ∈ tail.head?, committing c = true) :
    (pre ++ tail).takeWhile (fun o => !committing o) = pre ∧
      (pre ++ tail).dropWhile (fun o => !committing o) = tail := by
  have hq' : ∀ o ∈ pre, (!committing o) = true := fun o ho => by rw [hq o ho]; rfl
  rw [List.takeWhile_append_of_pos hq', List.dropWhile_append_of_pos hq']
  cases tail with
  | nil => simp
  | cons c rest => simp [ht c rfl]

theorem spec_run_quiet {ops : List Op} (hq : Quiet ops) :
    Spec.Resp.run ops = { status := (lastStatus ops).getD 200, hdr := ops.foldl hdrEffect [], body := "",
                          commits := if (lastStatus ops).isSome then 1 else 0 } := by
  have h := span_commit hq [] (fun _ h => nomatch h)
  rw [List.append_nil] at h
  simp only [Spec.Resp.run, h.1, h.2]

theorem spec_run_commit {pre : List Op} (hq : Quiet pre) {c : Op} (hc : committing c = true)
    (rest : List Op) :
    Spec.Resp.run (pre ++ c :: rest) =
      { status := (lastStatus (pre ++ [c])).getD 200, hdr := (pre ++ [c]).foldl hdrEffect [],
        body := concat ((pre ++ c :: rest).map bodyOf), commits := 1 } := by
  have h := span_commit hq (c :: rest) (fun _ h => Option.some.inj h ▸ hc)
  simp only [Spec.Resp.run, h.1, h.2]

theorem Pre.client {e : Bool} {s : St} {ops : List Op} (hp : Pre e s ops)
    (hq : Quiet ops) : s.finish.client = Spec.Resp.run ops := by
  have hi := hp.inv
  obtain ⟨h1, h2, h3, h4, h5⟩ := hp
  rw [spec_run_quiet hq, ← h3]
  cases hl : lastStatus ops with
  | none =>
    rw [hl] at h4
    rw [finish_of_unset h4]
    simp only [St.client, h2]; rfl
  | some c =>
    rw [hl] at h4 h5
    rw [finish_of_pending h1 h4, Post.client (writeHeader_post h1 hi (by rw [h2]) _), kept_empty, h5]; rfl

theorem bodyOf_quiet {o : Op} (hc : committing o = false) : bodyOf o = "" := by
  cases o <;> first | rfl | cases hc

theorem concat_map_bodyOf_pre (pre : List Op) (hall : Quiet pre) :
    concat (pre.map bodyOf) = "" := by
  induction pre with
  | nil => rfl
  | cons o os ih =>
    have ⟨ho, hos⟩ := List.forall_mem_cons.mp hall
    rw [List.map_cons, concat_cons, ih hos, bodyOf_quiet ho]; rfl

theorem model_run_quiet (e : Bool) {ops : List Op} (hq : Quiet ops) :
    Pre e (ops.foldl step { wire := { enforce := e } }) ops :=
  Pre.foldl e ops hq _ [] (Pre.init e)

theorem model_run_commit (e : Bool) {pre : List Op} (hq : Quiet pre) {c : Op}
    (hc : committing c = true) (rest : List Op) :
    Post e ((pre ++ c :: rest).foldl step { wire := { enforce := e } }) ((lastStatus (pre ++ [c])).getD 200)
      ((pre ++ [c]).foldl hdrEffect []) (concat ((pre ++ c :: rest).map bodyOf)) := by
  rw [List.foldl_append, List.foldl_cons, List.map_append, concat_append, concat_map_bodyOf_pre pre hq,
    String.empty_append, List.map_cons, concat_cons]
  exact Post.foldl rest (Pre.commit (model_run_quiet e hq) hc)

theorem spec_run_body (ops : List Op) : (Spec.Resp.run ops).body = concat (ops.map bodyOf) := by
  rcases split_commit ops with hq | ⟨pre, c, rest, rfl, hq, hc⟩
  · rw [spec_run_quiet hq, concat_map_bodyOf_pre ops hq]
  · rw [spec_run_commit hq hc]

theorem spec_runOn_eq (e : Bool) (ops : List Op) :
    Spec.Resp.runOn e ops =
      { Spec.Resp.run ops with body := kept e (Spec.Resp.run ops).status (Spec.Resp.run ops).body } := by
  cases e
  · rfl
  · simp only [Spec.Resp.runOn, Spec.Resp.runConn, if_true, kept_true]
    split <;> rfl

theorem spec_runOn_head (e : Bool) (ops : List Op) :
    (Spec.Resp.runOn e ops).status = (Spec.Resp.run ops).status ∧
    (Spec.Resp.runOn e ops).hdr = (Spec.Resp.run ops).hdr ∧
    (Spec.Resp.runOn e ops).commits = (Spec.Resp.run ops).commits := by
  rw [spec_runOn_eq]; exact ⟨rfl, rfl, rfl⟩

theorem refines_on (e : Bool) (ops : List Op) : (Model.Resp.runOn e ops).client = Spec.Resp.runOn e ops := by
  rw [spec_runOn_eq]
  rcases split_commit ops with hq | ⟨pre, c, rest, rfl, hq, hc⟩
  · rw [Model.Resp.runOn, Pre.client (model_run_quiet e hq) hq, spec_run_quiet hq, kept_empty]
  · have hp := model_run_commit e hq hc rest
    rw [Model.Resp.runOn, finish_of_sent hp.sent, Post.client hp, spec_run_commit hq hc]

end Proofs.Resp
