import Proofs.Lemmas.Resp
import Spec.RespLayer
/-! C13 — the layered run as a fold over its events, simulated by the lowered operation list. -/
namespace Proofs.RespLayer
open Model.Resp Model.RespLayer Spec.Resp Spec.RespLayer Proofs.Resp

theorem foldl_map_op (ops : List Op) (s : St) : (ops.map Ev.op).foldl stepEv s = ops.foldl step s := by
  rw [List.foldl_map]; rfl

theorem runLayers_eq (s : St) (ls : List Layer) : runLayers s ls = (events ls).foldl stepEv s := by
  induction ls generalizing s with
  | nil => rfl
  | cons l ls ih =>
    simp only [runLayers, events, List.foldl_append, foldl_map_op, List.foldl_cons, List.foldl_nil]
    cases hc : l.calls <;> cases hm : l.commits <;> simp [stepEv, ih]

/-- `pend`, `done` are the two accumulators of `Spec.RespLayer.lower` (the status staged and not yet sent; whether the
head went out) -/
structure Track (s : St) (pend : Option Nat) (done : Bool) : Prop where
  sent : s.headerSent = done
  set : done = false → s.statusSet = pend.isSome
  status : done = false → ∀ c, pend = some c → s.status = c

theorem track_init (e : Bool) : Track ({ wire := { enforce := e } } : St) none false :=
  ⟨rfl, fun _ => rfl, nofun⟩

theorem track_step {s : St} {pend : Option Nat} {done : Bool} (o : Op) (h : Track s pend done) :
    Track (step s o)
      (if done then pend else (match statusOf o with | some c => some c | none => pend))
      (done || committing o) := by
  have hsent : (step s o).headerSent = (done || committing o) := by rw [step_headerSent, h.sent]
  cases done with
  | true => exact ⟨hsent, nofun, nofun⟩
  | false =>
    cases hc : committing o with
    | true => exact ⟨hc ▸ hsent, nofun, nofun⟩
    | false =>
      rw [step_quiet h.sent hc]
      refine ⟨h.sent, fun _ => ?_, fun _ c hp => ?_⟩
      · show (s.statusSet || (statusOf o).isSome) = _
        rw [h.set rfl]
        cases statusOf o <;> simp
      · show (statusOf o).getD s.status = c
        cases hst : statusOf o with
        | none => rw [hst] at hp; exact h.status rfl c hp
        | some c' => rw [hst] at hp; exact Option.some.inj hp

theorem finish_idem (s : St) : s.finish.finish = s.finish := by
  cases hs : s.headerSent with
  | true => rw [finish_of_sent hs, finish_of_sent hs]
  | false =>
    cases hp : s.statusSet with
    | false => rw [finish_of_unset hp, finish_of_unset hp]
    | true => rw [finish_of_pending hs hp]; exact finish_of_sent (writeHeader_headerSent _ _)

/-- Under `Track s pend done` the return of a committing
layer (`ret true`, `finish`) is the terminal call `writeHeader c` when a status `c` is pending and nothing was sent, and
does nothing otherwise — which is what `lower` inserts. -/
theorem lower_sim (evs : List Ev) (hall : ∀ b, Ev.ret b ∈ evs → b = true)
    (s : St) (pend : Option Nat) (done : Bool) (h : Track s pend done) :
    evs.foldl stepEv s = (lower pend done evs).foldl step s := by
  induction evs generalizing s pend done with
  | nil => rfl
  | cons ev r ih =>
    have hr : ∀ b, Ev.ret b ∈ r → b = true := fun b hb => hall b (List.mem_cons_of_mem _ hb)
    cases ev with
    | op o => exact ih hr _ _ _ (track_step o h)
    | ret b =>
      cases hall b List.mem_cons_self
      simp only [List.foldl_cons, stepEv, lower]
      cases done with
      | true => rw [finish_of_sent h.sent]; exact ih hr s pend true h
      | false =>
        cases pend with
        | none => rw [finish_of_unset (h.set rfl)]; exact ih hr s none false h
        | some c =>
          rw [finish_of_pending h.sent (h.set rfl), h.status rfl c rfl]
          exact ih hr _ (some c) true ⟨writeHeader_headerSent s c, nofun, nofun⟩

theorem events_rets (ls : List Layer) (hall : ∀ l ∈ ls, l.commits = true) :
    ∀ b, Ev.ret b ∈ events ls → b = true := by
  induction ls with
  | nil => exact fun _ h => nomatch h
  | cons l ls ih =>
    have ⟨hl, hls⟩ := List.forall_mem_cons.mp hall
    intro b hb
    simp only [events, List.mem_append, List.mem_map, List.mem_singleton, Ev.ret.injEq, reduceCtorEq, and_false,
      exists_false, false_or, or_false] at hb
    rcases hb with hb | rfl
    · split at hb
      · exact ih hls b hb
      · cases hb
    · exact hl

theorem serve_finish (e : Bool) (l : Layer) (ls : List Layer) (hl : l.commits = true) :
    (serveOn e (l :: ls)).finish = serveOn e (l :: ls) := by
  simp only [serveOn, runLayers, hl, if_true]
  exact finish_idem _

theorem stepEv_inv (s : St) (ev : Ev) (h : Inv s) : Inv (stepEv s ev) := by
  match ev with
  | .op o => exact inv_step _ _ h
  | .ret false => exact h
  | .ret true => exact inv_finish h

/-- after `$next` outer layers only add body bytes; their commit finds nothing pending. -/
theorem post_of_calling {e : Bool} {st : Nat} {h : Hdr} (outers ls : List Layer)
    (hc : ∀ o ∈ outers, o.calls = true) (s : St)
    (hp : ∃ b, Post e (runLayers ((outers.flatMap (·.pre)).foldl step s) ls) st h b) :
    ∃ b, Post e (runLayers s (outers ++ ls)) st h b := by
  induction outers generalizing s with
  | nil => exact hp
  | cons o os ih =>
    have ⟨ho, hos⟩ := List.forall_mem_cons.mp hc
    rw [List.flatMap_cons, List.foldl_append] at hp
    obtain ⟨b, hb⟩ := ih hos _ hp
    have hb2 := Post.foldl o.post hb
    simp only [List.cons_append, runLayers, ho, if_true]
    split
    · rw [finish_of_sent hb2.sent]; exact ⟨_, hb2⟩
    · exact ⟨_, hb2⟩

end Proofs.RespLayer
