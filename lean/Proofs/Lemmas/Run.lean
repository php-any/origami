import Model.Run
/-!
A run that reads a possibly-dirty cell only after writing it itself
produces the same result from every two stores that agree on the clean cells.
-/
namespace Proofs.Run
open Model.Run

variable {C V O : Type} [DecidableEq C]

/-- the two stores agree on every cell that is clean (`¬ D c`) or already written by this run -/
def Agree (D : C → Prop) (W : List C) (s₁ s₂ : Store C V) : Prop :=
  ∀ c, (¬ D c ∨ c ∈ W) → s₁ c = s₂ c

theorem run_agree (D : C → Prop) (p : Prog C V O) :
    ∀ (W : List C) (s₁ s₂ : Store C V), Disc D W p → Agree D W s₁ s₂ → (run p s₁).1 = (run p s₂).1 := by
  induction p with
  | done o => intro _ _ _ _ _; rfl
  | read c k ih =>
    intro W s₁ s₂ hd ha
    have hc : s₁ c = s₂ c := by
      apply ha
      by_cases h : D c
      · exact .inr (hd.1 h)
      · exact .inl h
    simp only [run]
    rw [← hc]
    exact ih (s₁ c) W s₁ s₂ (hd.2 (s₁ c)) ha
  | write c v k ih =>
    intro W s₁ s₂ hd ha
    simp only [run]
    refine ih (c :: W) _ _ hd fun c' hc' => ?_
    simp only [Store.put]
    split
    · rfl
    · next e => exact ha c' (hc'.imp_right fun hm => (List.mem_cons.mp hm).resolve_left e)

end Proofs.Run
