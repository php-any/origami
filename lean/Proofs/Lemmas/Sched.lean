/-!
Schedules.  The request models of C11 (`Model.Req`, `ReqSite`, `ReqLimit`, `ReqReg`, `ReqIC`) run
their requests by folding one step function `step : σ → Nat → σ` (state, request id) over a
schedule, a list of request ids.  What their isolation proofs need of such folds is proved here
once, for any `step`; an invariant along a schedule needs no lemma of its own, it is core's
`List.foldlRecOn`.
-/
namespace Proofs.Sched

variable {σ : Type} (step : σ → Nat → σ) (r : Nat)

/-- `R s s'`: request `r` cannot tell `s` from `s'` (with whatever invariant the argument needs).  `r`'s turns
alone are the schedule filtered by `· == r`, and a fold over a filtered list is a fold that skips. -/
theorem project (R : σ → σ → Prop) (self : ∀ s s', R s s' → R (step s r) (step s' r))
    (sched : List Nat) (other : ∀ a ∈ sched, a ≠ r → ∀ s s', R s s' → R (step s a) s')
    (s s' : σ) (h : R s s') :
    R (sched.foldl step s) ((List.replicate (sched.count r) r).foldl step s') := by
  rw [← List.filter_beq, List.foldl_filter]
  refine List.foldl_rel h fun a ha s s' h => ?_
  cases hk : a == r
  · exact other a ha (ne_of_beq_false hk) s s' h
  · exact eq_of_beq hk ▸ self s s' h

theorem frame {β : Type} (obs : σ → β) (other : ∀ a s, a ≠ r → obs (step s a) = obs s)
    (sched : List Nat) (s : σ) (h : r ∉ sched) : obs (sched.foldl step s) = obs s :=
  List.foldlRecOn (motive := fun s' => obs s' = obs s) sched step rfl
    fun s' hs a ha => (other a s' (ne_of_mem_of_not_mem ha h)).trans hs

/-- `≤ … - 1`: at `len s = 0` this is `≤ 0` (an idle turn), and a turn may shorten the program by more than one
(`ReqLimit`: a refusal empties it) -/
theorem exhaust (len : σ → Nat) (dec : ∀ s, len (step s r) ≤ len s - 1) :
    ∀ (n : Nat) (s : σ), len ((List.replicate n r).foldl step s) ≤ len s - n := by
  intro n
  induction n with
  | zero => intro s; exact Nat.le_refl _
  | succ n ih =>
    intro s
    refine Nat.le_trans (ih _) ?_
    rw [Nat.add_comm, ← Nat.sub_sub]
    exact Nat.sub_le_sub_right (dec s) n

section Saturate
variable {β : Type} (len : σ → Nat) (obs : σ → β)
  (dec : ∀ s, len (step s r) ≤ len s - 1) (done : ∀ s, len s = 0 → obs (step s r) = obs s)
include dec done

theorem saturate_done : ∀ (n : Nat) (s : σ), len s = 0 → obs ((List.replicate n r).foldl step s) = obs s := by
  intro n
  induction n with
  | zero => intro s _; rfl
  | succ n ih =>
    intro s h
    have hd : len (step s r) ≤ 0 := by simpa [h] using dec s
    exact (ih _ (Nat.le_zero.mp hd)).trans (done s h)

/-- the first `len s` turns exhaust the program (`exhaust`), the others are idle (`saturate_done`) -/
theorem saturate (n m : Nat) (s : σ) (hn : len s ≤ n) (hm : len s ≤ m) :
    obs ((List.replicate n r).foldl step s) = obs ((List.replicate m r).foldl step s) := by
  have key : ∀ n, len s ≤ n →
      obs ((List.replicate n r).foldl step s) = obs ((List.replicate (len s) r).foldl step s) := by
    intro n hn
    obtain ⟨k, rfl⟩ := Nat.exists_eq_add_of_le hn
    rw [← List.replicate_append_replicate, List.foldl_append]
    exact saturate_done step r len obs dec done k _
      (Nat.le_zero.mp (Nat.sub_self (len s) ▸ exhaust step r len dec (len s) s))
  exact (key n hn).trans (key m hm).symm

end Saturate

end Proofs.Sched
