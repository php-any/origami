import Model.Ser
/-! Decimal rendering and scanning, and the non-recursive readers on what the writer emits.

Bytes by number: `:` 58, `;` 59, `"` 34, `{` 123, `}` 125, `-` 45, `+` 43, `0` 48; the tags `N` 78, `b` 98, `i` 105,
`d` 100, `s` 115, `a` 97. -/
namespace Proofs.Ser
open Model.Ser

def allDigits (l : Bytes) : Prop := ∀ c ∈ l, isDigit c = true

theorem digitsVal_append (xs : Bytes) (d : Nat) :
    digitsVal (xs ++ [d]) = 10 * digitsVal xs + (d - 48) := by
  simp [digitsVal, List.foldl_append]

theorem allDigits_digit {d : Nat} (h : d < 10) (l : Bytes) (hl : allDigits l) : allDigits (l ++ [48 + d]) := by
  intro c hc
  rcases List.mem_append.mp hc with hc | hc
  · exact hl c hc
  · rw [List.mem_singleton.mp hc]
    simp only [isDigit, Bool.and_eq_true, decide_eq_true_eq]
    omega

theorem decAux_eq (f n : Nat) (acc : Bytes) (h : n < 10 ^ f) :
    ∃ ds, decAux f n acc = ds ++ acc ∧ digitsVal ds = n ∧ allDigits ds ∧ (0 < f → ds ≠ []) := by
  -- arms: no fuel (`n = 0`, nothing written); `n < 10`, one digit; the last digit goes in front of `acc`, on with `n / 10`
  fun_induction decAux f n acc with
  | case1 n acc =>
    rw [Nat.pow_zero, Nat.lt_one_iff] at h
    exact ⟨[], rfl, h.symm, nofun, fun h => absurd h (Nat.lt_irrefl 0)⟩
  | case2 f n acc h10 =>
    exact ⟨[48 + n], rfl, (Nat.zero_add _).trans (Nat.add_sub_cancel_left ..), allDigits_digit h10 [] nofun,
      fun _ => List.cons_ne_nil _ _⟩
  | case3 f n acc h10 ih =>
    rw [Nat.pow_succ'] at h
    obtain ⟨ds, e, h1, h2, _⟩ := ih (Nat.div_lt_of_lt_mul h)
    refine ⟨ds ++ [48 + n % 10], by rw [e, List.append_assoc]; rfl, ?_, allDigits_digit (Nat.mod_lt n (by decide)) _ h2,
      fun _ => List.append_ne_nil_of_right_ne_nil _ (List.cons_ne_nil _ _)⟩
    rw [digitsVal_append, h1, Nat.add_sub_cancel_left]
    exact Nat.div_add_mod n 10

/-- the bound is `10^20`: `dec` is `decAux` with twenty digits' worth of fuel -/
theorem dec_spec (n : Nat) (h : n < 100000000000000000000) :
    digitsVal (dec n) = n ∧ allDigits (dec n) ∧ dec n ≠ [] := by
  obtain ⟨ds, e, h1, h2, h3⟩ := decAux_eq 20 n [] h
  rw [List.append_nil] at e
  rw [dec, e]
  exact ⟨h1, h2, h3 (by decide)⟩

theorem spanDigits_append (ds : Bytes) (c : Nat) (rest : Bytes) (hd : allDigits ds)
    (hc : isDigit c = false) : spanDigits (ds ++ c :: rest) = (ds, c :: rest) := by
  induction ds with
  | nil => simp [spanDigits, hc]
  | cons d ds ih =>
    have h1 : isDigit d = true := hd d (by simp)
    have := ih (fun x hx => hd x (by simp [hx]))
    simp [spanDigits, h1, this]

theorem span_dec (n : Nat) (hn : n ≤ maxInt) (rest : Bytes) :
    spanDigits (dec n ++ 58 :: rest) = (dec n, 58 :: rest) ∧ digitsVal (dec n) = n ∧ dec n ≠ [] := by
  obtain ⟨h1, h2, h3⟩ := dec_spec n (Nat.lt_of_le_of_lt hn (by decide))
  exact ⟨spanDigits_append _ _ _ h2 rfl, h1, h3⟩

theorem pStr_ser (s rest : Bytes) (hs : s.length ≤ maxInt) :
    pStr (58 :: (dec s.length ++ 58 :: 34 :: (s ++ 34 :: 59 :: rest))) = some (.str s, rest) := by
  obtain ⟨h1, h2, h3⟩ := span_dec s.length hs (34 :: (s ++ 34 :: 59 :: rest))
  simp only [pStr, h1, h2]
  rw [if_neg h3, if_neg (Nat.not_lt.mpr hs)]
  simp

theorem pArrHead_ser (n : Nat) (hn : n ≤ maxInt) (body : Bytes) :
    pArrHead (58 :: (dec n ++ 58 :: 123 :: body)) = some (n, body) := by
  obtain ⟨h1, h2, h3⟩ := span_dec n hn (123 :: body)
  simp only [pArrHead, h1, h2]
  rw [if_neg h3, if_neg (Nat.not_lt.mpr hn)]

theorem itoa_eq (n : Int) : itoa n = if n < 0 then 45 :: dec n.natAbs else dec n.natAbs := by
  cases n with
  | ofNat m => rfl
  | negSucc m => rw [itoa, if_pos (Int.negSucc_lt_zero m), if_pos (Int.negSucc_lt_zero m)]

theorem intOf_eq (neg : Bool) (ds : Bytes) : intOf neg ds = (intVal neg ds).map .int := by
  simp only [intOf, intVal, apply_ite (Option.map PV.int), Option.map_some, Option.map_none]

theorem intVal_dec (n : Int) (h1 : -9223372036854775808 ≤ n) (h2 : n ≤ 9223372036854775807) :
    allDigits (dec n.natAbs) ∧ intVal (decide (n < 0)) (dec n.natAbs) = some n := by
  have hb : n.natAbs ≤ maxInt + 1 ∧ (¬ n < 0 → n.natAbs ≤ maxInt) := by unfold maxInt; omega
  obtain ⟨d1, d2, d3⟩ := dec_spec n.natAbs (Nat.lt_of_le_of_lt hb.1 (by decide))
  refine ⟨d2, ?_⟩
  rw [intVal, if_neg d3, d1]
  by_cases hneg : n < 0
  · rw [decide_eq_true hneg, if_pos rfl, if_pos hb.1, Int.ofNat_natAbs_of_nonpos (Int.le_of_lt hneg), Int.neg_neg]
  · rw [decide_eq_false hneg, if_neg Bool.false_ne_true, if_pos (hb.2 hneg),
      Int.natAbs_of_nonneg (Int.not_lt.mp hneg)]

theorem int64_of_le_maxInt {i : Nat} (h : i ≤ maxInt) :
    -9223372036854775808 ≤ (i : Int) ∧ (i : Int) ≤ 9223372036854775807 := by
  unfold maxInt at h
  omega

theorem not_sign_of_isDigit {d : Nat} (h : isDigit d = true) : d ≠ 45 ∧ d ≠ 43 := by
  simp only [isDigit, Bool.and_eq_true, decide_eq_true_eq] at h
  omega

theorem pInt_signed (p : Prop) [Decidable p] {ds : Bytes} (hd : allDigits ds) (rest : Bytes) :
    pInt (58 :: ((if p then 45 :: ds else ds) ++ 59 :: rest)) = withRest (intOf (decide p) ds) rest := by
  have hsp := spanDigits_append ds 59 rest hd rfl
  by_cases hp : p
  · simp only [if_pos hp, decide_eq_true hp, pInt, List.cons_append, List.head?_cons, List.tail_cons,
      true_or, if_true, hsp, beq_self_eq_true]
  · have hh : ∃ d, (ds ++ 59 :: rest).head? = some d ∧ d ≠ 45 ∧ d ≠ 43 := by
      cases ds with
      | nil => exact ⟨59, rfl, by decide, by decide⟩
      | cons d tl => exact ⟨d, rfl, not_sign_of_isDigit (hd d List.mem_cons_self)⟩
    obtain ⟨d, hh, h45, h43⟩ := hh
    simp only [if_neg hp, decide_eq_false hp, pInt, hh, Option.some.injEq, h45, h43, or_self, if_false, hsp]
    rw [beq_false_of_ne (fun e => h45 (Option.some.inj e))]

/-- `ParseIntArrayKeyName` splits a key the way `pInt` splits its input -/
theorem key_signed (p : Prop) [Decidable p] {ds : Bytes} (hd : allDigits ds) :
    keyNeg (if p then 45 :: ds else ds) = decide p ∧ keyDigits (if p then 45 :: ds else ds) = ds := by
  by_cases hp : p
  · rw [if_pos hp, decide_eq_true hp]
    exact ⟨rfl, rfl⟩
  · have hN : keyNeg ds = false := by
      cases ds with
      | nil => rfl
      | cons d tl => exact beq_false_of_ne (fun e => (not_sign_of_isDigit (hd d List.mem_cons_self)).1 (Option.some.inj e))
    rw [if_neg hp, decide_eq_false hp, keyDigits, hN]
    exact ⟨rfl, rfl⟩

theorem pInt_ser (i : Int) (rest : Bytes) (h1 : -9223372036854775808 ≤ i) (h2 : i ≤ 9223372036854775807) :
    pInt (58 :: (itoa i ++ 59 :: rest)) = some (.int i, rest) := by
  obtain ⟨hd, hv⟩ := intVal_dec i h1 h2
  rw [itoa_eq, pInt_signed (i < 0) hd, intOf_eq, hv]
  rfl

theorem intKeyOf_itoa (n : Int) (h1 : -9223372036854775808 ≤ n) (h2 : n ≤ 9223372036854775807) :
    intKeyOf (itoa n) = some n := by
  obtain ⟨hd, hv⟩ := intVal_dec n h1 h2
  obtain ⟨hN, hD⟩ := key_signed (n < 0) hd
  rw [← itoa_eq] at hN hD
  rw [intKeyOf, hN, hD, hv]
  exact if_pos ⟨List.all_eq_true.mpr hd, rfl⟩

theorem splitSemi_append : (t : Bytes) → ∀ rest, 59 ∉ t → splitSemi (t ++ 59 :: rest) = some (t, rest)
  | [], rest, _ => by simp [splitSemi]
  | c :: tl, rest, h => by
    simp only [List.mem_cons, not_or] at h
    have := splitSemi_append tl rest h.2
    simp only [List.cons_append, splitSemi, this]
    rw [if_neg (fun e => h.1 e.symm)]

theorem pFloat_ser (t rest : Bytes) (hl : floatLex t = true) (h59 : 59 ∉ t) :
    pFloat (58 :: (t ++ 59 :: rest)) = some (.float t, rest) := by
  simp [pFloat, splitSemi_append t rest h59, hl]

end Proofs.Ser
