import Model.Ser
/-! The reader `pValue`/`pEntries` as a relation without fuel (`Reads`, `pValue_iff`): the fuel `2·len + 1` that
`parseAll` supplies is never the reason for an answer.

Byte numbers: see `SerDec`. -/
namespace Proofs.Ser
open Model.Ser

/-- the tags `pValue` reads without recursion; only `a` spends fuel -/
def pScalar (c : Nat) (rest : Bytes) : Option (PV × Bytes) :=
  if c = 78 then pNull rest
  else if c = 98 then pBool rest
  else if c = 105 then pInt rest
  else if c = 115 then pStr rest
  else if c = 100 then pFloat rest
  else none

theorem pScalar_int (rest : Bytes) : pScalar 105 rest = pInt rest := rfl
theorem pScalar_str (rest : Bytes) : pScalar 115 rest = pStr rest := rfl
theorem pScalar_float (rest : Bytes) : pScalar 100 rest = pFloat rest := rfl

theorem pValue_succ (f c : Nat) (rest : Bytes) :
    pValue (f + 1) (c :: rest) =
      if c = 97 then
        match pArrHead rest with
        | none => none
        | some (n, body) =>
            match pEntries f n body with
            | none => none
            | some (es, rest') => closeArr es rest'
      else pScalar c rest := by
  rw [pValue, pScalar]
  by_cases h : c = 97
  · subst h; rfl
  · simp only [if_neg h]

theorem pEntries_zero (f : Nat) (s : Bytes) : pEntries f 0 s = some ([], s) := by
  cases f <;> rfl

theorem keyFilter_some {o : Option (PV × Bytes)} {k : PV} {s : Bytes} (h : keyFilter o = some (k, s)) :
    o = some (k, s) ∧ keyOk k = true := by
  revert h
  fun_cases keyFilter o
  all_goals intro h
  all_goals cases h
  next hk => exact ⟨rfl, hk⟩

theorem pEntries_step {f n : Nat} {s s1 s2 s3 : Bytes} {k v : PV} {es : List (PV × PV)}
    (h1 : pValue f s = some (k, s1)) (hk : keyOk k = true) (h2 : pValue f s1 = some (v, s2))
    (h3 : pEntries f n s2 = some (es, s3)) : pEntries (f + 1) (n + 1) s = some ((k, v) :: es, s3) := by
  rw [pEntries, h1, keyFilter, if_pos hk]
  simp only [h2, h3]

theorem pEntries_succ_some {f n : Nat} {s r : Bytes} {es : List (PV × PV)}
    (h : pEntries (f + 1) (n + 1) s = some (es, r)) :
    ∃ k s1 v s2 es', pValue f s = some (k, s1) ∧ keyOk k = true ∧ pValue f s1 = some (v, s2) ∧
      pEntries f n s2 = some (es', r) ∧ es = (k, v) :: es' := by
  rw [pEntries] at h
  split at h
  · cases h
  · next k s1 hk =>
    split at h
    · cases h
    · next v s2 h2 =>
      split at h
      · cases h
      · next es' s3 h3 =>
        cases h
        exact ⟨k, s1, v, s2, es', (keyFilter_some hk).1, (keyFilter_some hk).2, h2, h3, rfl⟩

theorem spanDigits_len (b : Bytes) : (spanDigits b).2.length ≤ b.length := by
  fun_induction spanDigits b
  · exact Nat.le_refl _
  · next ih => exact Nat.le_succ_of_le ih
  · exact Nat.le_refl _

theorem spanDigits_rest {b r : Bytes} {c : Nat} (h : (spanDigits b).2 = c :: r) :
    r.length + 1 ≤ b.length := by
  have := spanDigits_len b
  rwa [h] at this

def Consuming {α : Type} (p : Bytes → Option (α × Bytes)) : Prop :=
  ∀ {rest a r}, p rest = some (a, r) → r.length + 1 ≤ rest.length

theorem pNull_lt : Consuming pNull := by
  intro rest v r
  fun_cases pNull rest
  all_goals intro h
  all_goals cases h
  exact Nat.le_refl _

theorem pBool_lt : Consuming pBool := by
  intro rest v r
  fun_cases pBool rest
  all_goals intro h
  all_goals cases h
  all_goals exact Nat.le_add_right _ 2

theorem pInt_lt : Consuming pInt := by
  intro rest v r
  fun_cases pInt rest
  all_goals intro h
  -- the one arm of `pInt` that can answer: `:`, sign and digits, then `;`
  case case1 tl body rest' hsp =>
    have hr : r = rest' := by
      cases ho : intOf (tl.head? == some 45) (spanDigits body).1 with
      | none => rw [ho] at h; cases h
      | some w => rw [ho] at h; cases h; rfl
    have hb : body.length ≤ tl.length := by
      unfold body
      split
      · exact List.length_tail ▸ Nat.sub_le _ _
      · exact Nat.le_refl _
    subst hr
    exact Nat.le_succ_of_le (Nat.le_trans (spanDigits_rest hsp) hb)
  all_goals cases h

theorem pStr_lt : Consuming pStr := by
  intro rest v r
  fun_cases pStr rest
  all_goals intro h
  all_goals cases h
  next tl ds body hsp _ _ hd =>
    have := spanDigits_rest hsp
    have : (body.drop (digitsVal ds)).length ≤ body.length := by simp
    rw [hd] at this
    simp only [List.length_cons] at *
    omega

theorem pArrHead_lt : Consuming pArrHead := by
  intro rest n body
  fun_cases pArrHead rest
  all_goals intro h
  all_goals cases h
  next hsp =>
    have := spanDigits_rest hsp
    simp only [List.length_cons] at *
    omega

theorem splitSemi_lt : Consuming splitSemi := by
  intro b t r
  fun_induction splitSemi b generalizing t r
  all_goals intro h
  all_goals cases h
  · exact Nat.le_refl _
  · next hs ih => exact Nat.le_succ_of_le (ih hs)

theorem pFloat_lt : Consuming pFloat := by
  intro rest v r
  fun_cases pFloat rest
  all_goals intro h
  all_goals cases h
  next hs => exact Nat.le_succ_of_le (splitSemi_lt hs)

theorem pScalar_lt (c : Nat) : Consuming (pScalar c) := by
  intro rest v r
  fun_cases pScalar c rest
  · exact pNull_lt
  · exact pBool_lt
  · exact pInt_lt
  · exact pStr_lt
  · exact pFloat_lt
  · nofun

theorem closeArr_lt (es : List (PV × PV)) : Consuming (closeArr es) := by
  intro s v r
  fun_cases closeArr es s
  all_goals intro h
  all_goals cases h
  exact Nat.le_refl _

mutual
/-- what `pValue` accepts, fuel left out: `s` starts with the text of `v` and `r` follows it -/
inductive Reads : Bytes → PV → Bytes → Prop
  | scalar {c rest v r} : pScalar c rest = some (v, r) → Reads (c :: rest) v r
  | arr {rest n body es r' v r} : pArrHead rest = some (n, body) → ReadsN n body es r' →
      closeArr es r' = some (v, r) → Reads (97 :: rest) v r
/-- … and `pEntries` -/
inductive ReadsN : Nat → Bytes → List (PV × PV) → Bytes → Prop
  | nil {s} : ReadsN 0 s [] s
  | cons {n s k s1 v s2 es s3} : Reads s k s1 → keyOk k = true → Reads s1 v s2 → ReadsN n s2 es s3 →
      ReadsN (n + 1) s ((k, v) :: es) s3
end

/-- A value takes at least two bytes (tag and one more), the entry loop possibly none; so above `2·len` for a value and
`2·len + 1` for the loop every nested call still has its fuel: it starts two bytes further on with one unit less.
One induction for the four statements, because a step of each calls the other at `f`. -/
theorem reads_exact (f : Nat) :
    (∀ s v r, pValue f s = some (v, r) → r.length + 2 ≤ s.length ∧ Reads s v r) ∧
    (∀ n s es r, pEntries f n s = some (es, r) → r.length ≤ s.length ∧ ReadsN n s es r) ∧
    (∀ s v r, Reads s v r → 2 * s.length < f → pValue f s = some (v, r)) ∧
    (∀ n s es r, ReadsN n s es r → 2 * s.length + 1 < f → pEntries f n s = some (es, r)) := by
  induction f with
  | zero =>
    refine ⟨fun s v r h => (by cases h), fun n s es r h => ?_, fun _ _ _ _ h => absurd h (Nat.not_lt_zero _),
      fun _ _ _ _ _ h => absurd h (Nat.not_lt_zero _)⟩
    cases n with
    | zero => cases h; exact ⟨Nat.le_refl _, .nil⟩
    | succ n => cases h
  | succ f ih =>
    obtain ⟨sV, sE, cV, cE⟩ := ih
    refine ⟨?_, ?_, ?_, ?_⟩
    · intro s v r h
      cases s with
      | nil => cases h
      | cons c rest =>
        rw [pValue_succ] at h
        split at h
        · next hc =>
          subst hc
          split at h
          · cases h
          · next n body hh =>
            split at h
            · cases h
            · next es rest' he =>
              have := pArrHead_lt hh
              have := closeArr_lt es h
              obtain ⟨hl, hr⟩ := sE n body es rest' he
              exact ⟨by simp only [List.length_cons]; omega, .arr hh hr h⟩
        · exact ⟨Nat.succ_le_succ (pScalar_lt c h), .scalar h⟩
    · intro n s es r h
      cases n with
      | zero => cases h; exact ⟨Nat.le_refl _, .nil⟩
      | succ n =>
        obtain ⟨k, s1, v, s2, es', h1, hk, h2, h3, rfl⟩ := pEntries_succ_some h
        obtain ⟨l1, r1⟩ := sV s k s1 h1
        obtain ⟨l2, r2⟩ := sV s1 v s2 h2
        obtain ⟨l3, r3⟩ := sE n s2 es' r h3
        exact ⟨by omega, .cons r1 hk r2 r3⟩
    · intro s v r h hf
      cases h with
      | @scalar c rest v r h =>
        rw [pValue_succ, ← h]
        exact if_neg (fun hc => by subst hc; cases h)
      | @arr rest n body es r' v r hh he hc =>
        have := pArrHead_lt hh
        rw [List.length_cons] at hf
        rw [pValue_succ, if_pos rfl, hh]
        simp only [cE n body es r' he (by omega)]
        exact hc
    · intro n s es r h hf
      cases h with
      | nil => exact pEntries_zero _ _
      | @cons n s k s1 v s2 es s3 h1 hk h2 h3 =>
        have e1 := cV s k s1 h1 (by omega)
        have := (sV s k s1 e1).1
        have e2 := cV s1 v s2 h2 (by omega)
        have := (sV s1 v s2 e2).1
        exact pEntries_step e1 hk e2 (cE _ _ _ _ h3 (by omega))

theorem pValue_iff {f : Nat} {s : Bytes} (hf : 2 * s.length < f) {v : PV} {r : Bytes} :
    pValue f s = some (v, r) ↔ Reads s v r :=
  ⟨fun h => ((reads_exact f).1 s v r h).2, fun h => (reads_exact f).2.2.1 s v r h hf⟩

theorem pEntries_iff {f n : Nat} {s : Bytes} (hf : 2 * s.length + 1 < f) {es : List (PV × PV)} {r : Bytes} :
    pEntries f n s = some (es, r) ↔ ReadsN n s es r :=
  ⟨fun h => ((reads_exact f).2.1 n s es r h).2, fun h => (reads_exact f).2.2.2 n s es r h hf⟩

/-- the entry list is an index of `ReadsN`, so induction on it with `cases` on the derivation does, and no recursion
over the mutual predicate is needed -/
theorem ReadsN.keys {es : List (PV × PV)} {n : Nat} {s r : Bytes} (h : ReadsN n s es r) : ∀ e ∈ es, keyOk e.1 = true := by
  induction es generalizing n s with
  | nil => nofun
  | cons _ es ih =>
    cases h with
    | cons _ hk _ h3 => exact fun e he => (List.mem_cons.mp he).elim (· ▸ hk) (ih h3 e)

end Proofs.Ser
