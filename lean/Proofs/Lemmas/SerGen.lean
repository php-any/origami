import Proofs.Lemmas.SerDec
import Proofs.Lemmas.SerFuel
/-! What `unserialize` returns for `serialize v`, for **every** value (`rb`): keyed slots of an
`ArrayValue` included. The writer never refuses, so it is spoken of through the text it writes (`serT`, `ser_eq`); the
reader through `Reads` (`reads_ser`); fuel comes back through `pValue_iff` / `pEntries_iff` where a statement names it.

Byte numbers: see `SerDec`. -/
namespace Proofs.Ser
open Model.Ser

/-- the key `unserialize` reads back for slot `idx` named `k` -/
def slotKeyPV (idx : Nat) (k : Bytes) : PV :=
  if k = [] then .int idx
  else
    match intKeyOf k with
    | some n => .int n
    | none => .str k

mutual
/-- the value `unserialize (serialize v)` is: scalars unchanged; an array is rebuilt by
`parsePhpArray` from the (key, value) entries `serialize` wrote -/
def rb : PV → PV
  | .null => .null
  | .bool b => .bool b
  | .int i => .int i
  | .str s => .str s
  | .float r => .float r
  | .arr items => mkArray (rbItems 0 items)
  | .obj props => mkArray (rbProps props)
def rbItems : Nat → PL → List (PV × PV)
  | _, .nil => []
  | idx, .cons k v rest => (slotKeyPV idx k, rb v) :: rbItems (idx + 1) rest
def rbProps : PL → List (PV × PV)
  | .nil => []
  | .cons k v rest => (.str k, rb v) :: rbProps rest
end

mutual
/-- sizes that fit the 64-bit counters of the code, float texts that are float lexemes -/
def Sized : PV → Prop
  | .null => True
  | .bool _ => True
  | .int i => -9223372036854775808 ≤ i ∧ i ≤ 9223372036854775807
  | .str s => s.length ≤ maxInt
  | .float r => floatLex r = true ∧ 59 ∉ r
  | .arr items => SizedL items ∧ items.len ≤ maxInt
  | .obj props => SizedL props ∧ props.len ≤ maxInt
def SizedL : PL → Prop
  | .nil => True
  | .cons k v rest => k.length ≤ maxInt ∧ Sized v ∧ SizedL rest
end

/-- `a:<n>:{<body>}` -/
def wrapT (n : Nat) (body : Bytes) : Bytes := [97, 58] ++ dec n ++ [58, 123] ++ body ++ [125]

mutual
/-- what `ser` writes (`ser_eq`) -/
def serT : PV → Bytes
  | .null => [78, 59]
  | .bool b => [98, 58, if b then 49 else 48, 59]
  | .int i => [105, 58] ++ itoa i ++ [59]
  | .str s => serStr s
  | .float r => [100, 58] ++ r ++ [59]
  | .arr items => wrapT items.len (serTItems 0 items)
  | .obj props => wrapT props.len (serTProps props)
def serTItems : Nat → PL → Bytes
  | _, .nil => []
  | idx, .cons k v rest => slotKey idx k ++ serT v ++ serTItems (idx + 1) rest
def serTProps : PL → Bytes
  | .nil => []
  | .cons k v rest => serStr k ++ serT v ++ serTProps rest
end

mutual
theorem ser_eq : (v : PV) → ser v = some (serT v)
  | .null | .bool _ | .int _ | .str _ | .float _ => rfl
  | .arr items => by rw [ser, serItems_eq items 0]; rfl
  | .obj props => by rw [ser, serProps_eq props]; rfl
theorem serItems_eq : (l : PL) → ∀ idx, serItems idx l = some (serTItems idx l)
  | .nil, _ => rfl
  | .cons k v rest, idx => by rw [serItems, ser_eq v, serItems_eq rest (idx + 1)]; rfl
theorem serProps_eq : (l : PL) → serProps l = some (serTProps l)
  | .nil => rfl
  | .cons k v rest => by rw [serProps, ser_eq v, serProps_eq rest]; rfl
end

theorem ser_total (v : PV) : ∃ bs, ser v = some bs := ⟨_, ser_eq v⟩

theorem serItems_total : (l : PL) → ∀ idx, ∃ bs, serItems idx l = some bs :=
  fun l idx => ⟨_, serItems_eq l idx⟩

theorem serProps_total : (l : PL) → ∃ bs, serProps l = some bs :=
  fun l => ⟨_, serProps_eq l⟩

/-- every output starts with one of the prefixes `Call` tests for -/
theorem serT_prefix (v : PV) : serT v ≠ [] ∧ knownPrefix (serT v) = true := by
  cases v <;> exact ⟨List.cons_ne_nil _ _, rfl⟩

theorem reads_int (i : Int) (h1 : -9223372036854775808 ≤ i) (h2 : i ≤ 9223372036854775807) (rest : Bytes) :
    Reads ([105, 58] ++ itoa i ++ [59] ++ rest) (.int i) rest := by
  rw [List.append_assoc]
  exact .scalar ((pScalar_int _).trans (pInt_ser i rest h1 h2))

theorem reads_str (s : Bytes) (hs : s.length ≤ maxInt) (rest : Bytes) : Reads (serStr s ++ rest) (.str s) rest := by
  rw [show serStr s ++ rest = 115 :: 58 :: (dec s.length ++ 58 :: 34 :: (s ++ 34 :: 59 :: rest)) by simp [serStr]]
  exact .scalar ((pScalar_str _).trans (pStr_ser s rest hs))

theorem reads_float (t : Bytes) (hl : floatLex t = true) (h59 : 59 ∉ t) (rest : Bytes) :
    Reads ([100, 58] ++ t ++ [59] ++ rest) (.float t) rest := by
  rw [List.append_assoc]
  exact .scalar ((pScalar_float _).trans (pFloat_ser t rest hl h59))

theorem reads_arr {n : Nat} (hn : n ≤ maxInt) {body rest : Bytes} {es : List (PV × PV)}
    (h : ReadsN n (body ++ 125 :: rest) es (125 :: rest)) :
    Reads (wrapT n body ++ rest) (mkArray es) rest := by
  simp only [wrapT, List.append_assoc, List.cons_append, List.nil_append]
  exact .arr (pArrHead_ser n hn _) h rfl

theorem intVal_range {neg : Bool} {ds : Bytes} {n : Int} (h : intVal neg ds = some n) :
    -9223372036854775808 ≤ n ∧ n ≤ 9223372036854775807 := by
  revert h
  fun_cases intVal neg ds
  all_goals intro h
  all_goals cases h
  all_goals unfold maxInt at *
  all_goals omega

theorem intKeyOf_spec {k : Bytes} {n : Int} (h : intKeyOf k = some n) :
    itoa n = k ∧ -9223372036854775808 ≤ n ∧ n ≤ 9223372036854775807 := by
  revert h
  fun_cases intKeyOf k
  all_goals intro h
  all_goals cases h
  next hm hk => exact ⟨hk.2, intVal_range hm⟩

theorem keyOk_slotKeyPV (idx : Nat) (k : Bytes) : keyOk (slotKeyPV idx k) = true := by
  fun_cases slotKeyPV idx k
  all_goals rfl

theorem reads_slotKey (idx : Nat) (k : Bytes) (hidx : idx ≤ maxInt) (hk : k.length ≤ maxInt) (rest : Bytes) :
    Reads (slotKey idx k ++ rest) (slotKeyPV idx k) rest := by
  unfold slotKey slotKeyPV
  split
  · have := reads_int (idx : Int) (int64_of_le_maxInt hidx).1 (int64_of_le_maxInt hidx).2 rest
    rwa [show itoa (idx : Int) = dec idx by simp [itoa]] at this
  · cases hn : intKeyOf k with
    | some n =>
      obtain ⟨_, h1, h2⟩ := intKeyOf_spec hn
      exact reads_int n h1 h2 rest
    | none => exact reads_str k hk rest

mutual
theorem reads_ser : (v : PV) → Sized v → ∀ rest, Reads (serT v ++ rest) (rb v) rest
  | .null, _, rest => .scalar rfl
  | .bool b, _, rest => by cases b <;> exact .scalar rfl
  | .int i, hc, rest => reads_int i hc.1 hc.2 rest
  | .str s, hc, rest => reads_str s hc rest
  | .float r, hc, rest => reads_float r hc.1 hc.2 rest
  | .arr items, hc, rest => by
    rw [rb]
    exact reads_arr hc.2 (reads_serItems items hc.1 0 (by rw [Nat.zero_add]; exact hc.2) _)
  | .obj props, hc, rest => by
    rw [rb]
    exact reads_arr hc.2 (reads_serProps props hc.1 _)
theorem reads_serItems : (l : PL) → SizedL l → ∀ idx, idx + l.len ≤ maxInt →
    ∀ rest, ReadsN l.len (serTItems idx l ++ rest) (rbItems idx l) rest
  | .nil, _, idx, _, rest => .nil
  | .cons k v tl, hc, idx, hidx, rest => by
    rw [serTItems, List.append_assoc, List.append_assoc]
    exact .cons (reads_slotKey idx k (Nat.le_trans (Nat.le_add_right _ _) hidx) hc.1 _) (keyOk_slotKeyPV idx k)
      (reads_ser v hc.2.1 _) (reads_serItems tl hc.2.2 (idx + 1) (by rw [Nat.add_right_comm]; exact hidx) rest)
theorem reads_serProps : (l : PL) → SizedL l → ∀ rest, ReadsN l.len (serTProps l ++ rest) (rbProps l) rest
  | .nil, _, rest => .nil
  | .cons k v tl, hc, rest => by
    rw [serTProps, List.append_assoc, List.append_assoc]
    exact .cons (reads_str k hc.1 _) rfl (reads_ser v hc.2.1 _) (reads_serProps tl hc.2.2 rest)
end

/-- the fuelled form of `reads_serItems` (and `rtGProps` of `reads_serProps`): statements in their own right, read by
`rtItems` / `rtProps` only -/
theorem rtGItems : (l : PL) → SizedL l → ∀ idx bs, idx + l.len ≤ maxInt → serItems idx l = some bs →
    ∀ fuel rest, 2 * (bs ++ rest).length + 1 < fuel →
    pEntries fuel l.len (bs ++ rest) = some (rbItems idx l, rest) :=
  fun l hl idx _ hidx hs _ rest hf =>
    (pEntries_iff hf).mpr (Option.some.inj ((serItems_eq l idx).symm.trans hs) ▸ reads_serItems l hl idx hidx rest)

theorem rtGProps : (l : PL) → SizedL l → ∀ bs, serProps l = some bs →
    ∀ fuel rest, 2 * (bs ++ rest).length + 1 < fuel →
    pEntries fuel l.len (bs ++ rest) = some (rbProps l, rest) :=
  fun l hl _ hs _ rest hf =>
    (pEntries_iff hf).mpr (Option.some.inj ((serProps_eq l).symm.trans hs) ▸ reads_serProps l hl rest)

theorem unserialize_serT (v : PV) (hc : Sized v) : unserializeT (serT v) = .value (rb v) := by
  obtain ⟨hne, hp⟩ := serT_prefix v
  have h := (pValue_iff (Nat.lt_succ_self (2 * (serT v ++ []).length))).mpr (reads_ser v hc [])
  simp only [List.append_nil] at h
  simp [unserializeT, hne, hp, parseAll, h]

def toPL : List (PV × PV) → PL
  | [] => .nil
  | e :: rest => .cons (keyString e.1) e.2 (toPL rest)

def PL.keys : PL → List Bytes
  | .nil => []
  | .cons k _ rest => k :: PL.keys rest

theorem keys_toPL : (es : List (PV × PV)) → PL.keys (toPL es) = es.map (fun e => keyString e.1)
  | [] => rfl
  | e :: rest => by simp [toPL, PL.keys, keys_toPL rest]

theorem setProp_fresh (e : PV × PV) : (pre : List (PV × PV)) →
    keyString e.1 ∉ pre.map (fun e => keyString e.1) →
    setProp (keyString e.1) e.2 (toPL pre) = toPL (pre ++ [e])
  | [], _ => rfl
  | e' :: rest, h => by
    rw [List.map_cons, List.mem_cons, not_or] at h
    rw [List.cons_append, toPL, toPL, setProp, if_neg (fun eq => h.1 eq.symm), setProp_fresh e rest h.2]

/-- the accumulator of the fill loop of `parsePhpArray` is `toPL` of the entries taken so far -/
theorem foldl_setProp : (es pre : List (PV × PV)) → ((pre ++ es).map (fun e => keyString e.1)).Nodup →
    es.foldl (fun acc e => setProp (keyString e.1) e.2 acc) (toPL pre) = toPL (pre ++ es)
  | [], pre, _ => by rw [List.append_nil]; rfl
  | e :: rest, pre, hnd => by
    have hfresh : keyString e.1 ∉ pre.map (fun e => keyString e.1) := by
      rw [List.map_append, List.nodup_append] at hnd
      exact fun hin => hnd.2.2 _ hin _ (List.mem_map_of_mem List.mem_cons_self) rfl
    rw [List.foldl_cons, setProp_fresh e pre hfresh,
      foldl_setProp rest (pre ++ [e]) (by rwa [List.append_assoc]), List.append_assoc]
    rfl

theorem mkArray_obj (es : List (PV × PV)) (hseq : isSequential 0 es = false)
    (hnd : (es.map (fun e => keyString e.1)).Nodup) : mkArray es = .obj (toPL es) := by
  rw [mkArray, hseq, if_neg Bool.false_ne_true]
  exact congrArg PV.obj (foldl_setProp es [] hnd)

end Proofs.Ser
