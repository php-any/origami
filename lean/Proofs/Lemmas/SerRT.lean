import Proofs.Lemmas.SerGen
/-! `unserialize ∘ serialize = id` on canonical values: they are sized, and `rb` rebuilds them as
they are. No proof uses `rtItems`, `rtProps` (the fuelled entry loop on the writer's text), statements in their own
right; nor `ser_some`, `serItems_some`, `serProps_some`, which are `ser_total`, `serItems_total`, `serProps_total`
(`SerGen`) under a canonicity hypothesis that is not used. -/
namespace Proofs.Ser
open Model.Ser

mutual
/-- the representations `unserialize` itself produces (lists with positional slots only, keyed arrays as non-empty
`ObjectValue`s with distinct keys): on them `rb v = v` (`canon_rb`) -/
def CanonV : PV → Prop
  | .null => True
  | .bool _ => True
  | .int i => -9223372036854775808 ≤ i ∧ i ≤ 9223372036854775807
  | .str s => s.length ≤ maxInt
  | .float r => floatLex r = true ∧ 59 ∉ r
  | .arr items => CanonItems items ∧ items.len ≤ maxInt
  | .obj props => CanonProps props ∧ props.len ≤ maxInt ∧ props.len ≠ 0 ∧ (PL.keys props).Nodup
def CanonItems : PL → Prop
  | .nil => True
  | .cons k v rest => k = [] ∧ CanonV v ∧ CanonItems rest
def CanonProps : PL → Prop
  | .nil => True
  | .cons k v rest => k.length ≤ maxInt ∧ CanonV v ∧ CanonProps rest
end

def itemEntries : Nat → PL → List (PV × PV)
  | _, .nil => []
  | idx, .cons _ v rest => (.int idx, v) :: itemEntries (idx + 1) rest

def propEntries : PL → List (PV × PV)
  | .nil => []
  | .cons k v rest => (.str k, v) :: propEntries rest

theorem seq_items : (l : PL) → ∀ idx, isSequential idx (itemEntries idx l) = true
  | .nil, idx => rfl
  | .cons k v rest, idx => by simp [itemEntries, isSequential, seq_items rest (idx + 1)]

theorem values_items : (l : PL) → ∀ idx, CanonItems l → valuesPL (itemEntries idx l) = l
  | .nil, idx, _ => rfl
  | .cons k v rest, idx, h => by
    obtain ⟨hk, _, hr⟩ := h
    simp [itemEntries, valuesPL, values_items rest (idx + 1) hr, hk]

theorem mkArray_items (l : PL) (h : CanonItems l) : mkArray (itemEntries 0 l) = .arr l := by
  simp [mkArray, seq_items, values_items l 0 h]

theorem toPL_propEntries : (l : PL) → toPL (propEntries l) = l
  | .nil => rfl
  | .cons k v rest => by rw [propEntries, toPL, toPL_propEntries rest]; rfl

theorem mkArray_props (l : PL) (hne : l.len ≠ 0) (hnd : (PL.keys l).Nodup) :
    mkArray (propEntries l) = .obj l := by
  have hseq : isSequential 0 (propEntries l) = false := by
    cases l with
    | nil => exact absurd rfl hne
    | cons k v rest => rfl
  rw [mkArray_obj _ hseq (by rw [← keys_toPL, toPL_propEntries]; exact hnd), toPL_propEntries]

mutual
theorem canon_rb : (v : PV) → CanonV v → Sized v ∧ rb v = v
  | .null, _ | .bool _, _ => ⟨trivial, rfl⟩
  | .int _, h | .str _, h | .float _, h => ⟨h, rfl⟩
  | .arr items, h => by
    obtain ⟨hs, hr⟩ := canon_rbItems items h.1
    exact ⟨⟨hs, h.2⟩, by rw [rb, hr 0, mkArray_items items h.1]⟩
  | .obj props, h => by
    obtain ⟨hs, hr⟩ := canon_rbProps props h.1
    exact ⟨⟨hs, h.2.1⟩, by rw [rb, hr, mkArray_props props h.2.2.1 h.2.2.2]⟩
theorem canon_rbItems : (l : PL) → CanonItems l → SizedL l ∧ ∀ idx, rbItems idx l = itemEntries idx l
  | .nil, _ => ⟨trivial, fun _ => rfl⟩
  | .cons k v rest, h => by
    obtain ⟨hk, hv, hrest⟩ := h
    obtain ⟨hs, hr⟩ := canon_rb v hv
    obtain ⟨hsl, hrl⟩ := canon_rbItems rest hrest
    subst hk
    exact ⟨⟨Nat.zero_le _, hs, hsl⟩, fun idx => by rw [rbItems, hr, hrl]; rfl⟩
theorem canon_rbProps : (l : PL) → CanonProps l → SizedL l ∧ rbProps l = propEntries l
  | .nil, _ => ⟨trivial, rfl⟩
  | .cons k v rest, h => by
    obtain ⟨hk, hv, hrest⟩ := h
    obtain ⟨hs, hr⟩ := canon_rb v hv
    obtain ⟨hsl, hrl⟩ := canon_rbProps rest hrest
    exact ⟨⟨hk, hs, hsl⟩, by rw [rbProps, hr, hrl]; rfl⟩
end

theorem rtItems : (l : PL) → CanonItems l → ∀ idx bs, idx + l.len ≤ maxInt → serItems idx l = some bs →
    ∀ fuel rest, 2 * (bs ++ rest).length + 1 < fuel →
    pEntries fuel l.len (bs ++ rest) = some (itemEntries idx l, rest) := by
  intro l hc idx
  rw [← (canon_rbItems l hc).2 idx]
  exact rtGItems l (canon_rbItems l hc).1 idx

theorem rtProps : (l : PL) → CanonProps l → ∀ bs, serProps l = some bs →
    ∀ fuel rest, 2 * (bs ++ rest).length + 1 < fuel →
    pEntries fuel l.len (bs ++ rest) = some (propEntries l, rest) := by
  intro l hc
  rw [← (canon_rbProps l hc).2]
  exact rtGProps l (canon_rbProps l hc).1

theorem ser_some : (v : PV) → CanonV v → ∃ bs, ser v = some bs :=
  fun v _ => ser_total v

theorem serItems_some : (l : PL) → CanonItems l → ∀ idx, ∃ bs, serItems idx l = some bs :=
  fun l _ => serItems_total l

theorem serProps_some : (l : PL) → CanonProps l → ∃ bs, serProps l = some bs :=
  fun l _ => serProps_total l

end Proofs.Ser
