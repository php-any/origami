import Proofs.Lemmas.SerGen
import Spec.Ser
/-! `rb v` (what `unserialize (serialize v)` returns) is the same PHP value as `v`. -/
namespace Proofs.Ser
open Model.Ser Spec.Ser

theorem keyOf_itoa (n : Int) (h1 : -9223372036854775808 ≤ n) (h2 : n ≤ 9223372036854775807) :
    keyOf (itoa n) = .int n := by
  simp [keyOf, intKeyOf_itoa n h1 h2]

def semEntries : List (PV × PV) → SL
  | [] => .nil
  | e :: rest => .cons (keyOf (keyString e.1)) (sem e.2) (semEntries rest)

theorem keys_semEntries : (es : List (PV × PV)) →
    (semEntries es).keys = (es.map (fun e => keyString e.1)).map keyOf
  | [] => rfl
  | e :: rest => by simp [semEntries, SL.keys, keys_semEntries rest]

theorem semProps_toPL : (es : List (PV × PV)) → semProps (toPL es) = semEntries es
  | [] => rfl
  | e :: rest => by simp [toPL, semProps, semEntries, semProps_toPL rest]

theorem semItems_values : (es : List (PV × PV)) → ∀ i, isSequential i es = true → i + es.length ≤ maxInt →
    semItems i (valuesPL es) = semEntries es
  | [], _, _, _ => rfl
  | (k, v) :: rest, i, hs, hl => by
    cases k with
    | int n =>
      simp only [isSequential, Bool.and_eq_true, decide_eq_true_eq] at hs
      obtain ⟨rfl, hr⟩ := hs
      rw [List.length_cons] at hl
      have ih := semItems_values rest (i + 1) hr (by rw [Nat.add_right_comm]; exact hl)
      have hi := int64_of_le_maxInt (Nat.le_trans (Nat.le_add_right _ _) hl)
      have hk : keyOf (itoa (i : Int)) = .int i := keyOf_itoa i hi.1 hi.2
      simp only [valuesPL, semItems, semEntries, slotSem, keyString, ih, hk, ↓reduceIte]
    | _ => cases hs

theorem sem_mkArray {es : List (PV × PV)} {S : SL} (hE : semEntries es = S) (hk : S.keys.Nodup)
    (hlen : es.length ≤ maxInt) : sem (mkArray es) = .array S := by
  subst hE
  have hnd : (es.map (fun e => keyString e.1)).Nodup :=
    List.Pairwise.of_map (S := (· ≠ ·)) keyOf (fun _ _ hne e => hne (congrArg keyOf e)) (by rw [← keys_semEntries]; exact hk)
  cases hs : isSequential 0 es with
  | true => rw [mkArray, hs, if_pos rfl, sem, semItems_values es 0 hs (by rw [Nat.zero_add]; exact hlen)]
  | false => rw [mkArray_obj es hs hnd, sem, semProps_toPL]

theorem key_slot (idx : Nat) (k : Bytes) (hidx : idx ≤ maxInt) :
    keyOf (keyString (slotKeyPV idx k)) = slotSem idx k := by
  unfold slotKeyPV slotSem
  split
  · exact keyOf_itoa idx (int64_of_le_maxInt hidx).1 (int64_of_le_maxInt hidx).2
  · cases hn : intKeyOf k with
    | some n =>
      obtain ⟨hk, _, _⟩ := intKeyOf_spec hn
      simp only [keyString, hk]
    | none => simp only [keyString]

theorem len_rbItems : (l : PL) → ∀ idx, (rbItems idx l).length = l.len
  | .nil, _ => rfl
  | .cons k v rest, idx => by simp [rbItems, PL.len, len_rbItems rest (idx + 1)]

theorem len_rbProps : (l : PL) → (rbProps l).length = l.len
  | .nil => rfl
  | .cons k v rest => by simp [rbProps, PL.len, len_rbProps rest]

mutual
theorem sem_rb : (v : PV) → Sized v → Distinct v → sem (rb v) = sem v
  | .null, _, _ | .bool _, _, _ | .int _, _, _ | .str _, _, _ | .float _, _, _ => rfl
  | .arr items, hs, hd => by
    rw [rb]
    exact sem_mkArray (semE_items items hs.1 hd.2 0 (by rw [Nat.zero_add]; exact hs.2)) hd.1
      (by rw [len_rbItems]; exact hs.2)
  | .obj props, hs, hd => by
    rw [rb]
    exact sem_mkArray (semE_props props hs.1 hd.2) hd.1 (by rw [len_rbProps]; exact hs.2)
theorem semE_items : (l : PL) → SizedL l → DistinctL l → ∀ idx, idx + l.len ≤ maxInt →
    semEntries (rbItems idx l) = semItems idx l
  | .nil, _, _, _, _ => rfl
  | .cons k v rest, hs, hd, idx, hi => by
    have h1 := sem_rb v hs.2.1 hd.1
    have h2 := semE_items rest hs.2.2 hd.2 (idx + 1) (by rw [Nat.add_right_comm]; exact hi)
    simp only [rbItems, semEntries, semItems, h1, h2, key_slot idx k (Nat.le_trans (Nat.le_add_right _ _) hi)]
theorem semE_props : (l : PL) → SizedL l → DistinctL l → semEntries (rbProps l) = semProps l
  | .nil, _, _ => rfl
  | .cons k v rest, hs, hd => by
    have h1 := sem_rb v hs.2.1 hd.1
    have h2 := semE_props rest hs.2.2 hd.2
    simp only [rbProps, semEntries, semProps, h1, h2, keyString]
end

end Proofs.Ser
