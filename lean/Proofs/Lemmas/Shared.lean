import Model.Shared

/-! Lemmas about `Model.Shared`: what an unwinding leaves in the error object, and what a raise shows
under the two allocation disciplines. -/

namespace Proofs.Lemmas.Shared
open Model.Shared

variable {P F : Type}

theorem unwind_nil (e : ErrObj P F) : unwind [] e = e := rfl

theorem unwind_cons (s : Step P F) (r : List (Step P F)) (e : ErrObj P F) :
    unwind (s :: r) e = unwind r (s.apply e) := rfl

theorem unwind_append (r1 r2 : List (Step P F)) (e : ErrObj P F) :
    unwind (r1 ++ r2) e = unwind r2 (unwind r1 e) :=
  List.foldl_append

/-- an unwinding acts on the object through its summary `⟨firstFill r, pushes r⟩` only: the position is
written once, frames are only ever appended -/
theorem unwind_eq (r : List (Step P F)) (e : ErrObj P F) :
    unwind r e = ⟨match e.pos with
      | some p => some p
      | none => firstFill r, e.frames ++ pushes r⟩ := by
  induction r generalizing e with
  | nil => obtain ⟨_ | _, _⟩ := e <;> simp [unwind_nil, firstFill, pushes]
  | cons s r ih =>
    rw [unwind_cons, ih]
    obtain ⟨_ | _, _⟩ := e <;> cases s <;> simp [Step.apply, firstFill, pushes]

theorem unwind_frames (r : List (Step P F)) (e : ErrObj P F) :
    (unwind r e).frames = e.frames ++ pushes r := by rw [unwind_eq]

theorem unwind_pos (r : List (Step P F)) (e : ErrObj P F) :
    (unwind r e).pos = match e.pos with
      | some p => some p
      | none => firstFill r := by rw [unwind_eq]

theorem unwind_fresh (r : List (Step P F)) : unwind r ErrObj.fresh = ⟨firstFill r, pushes r⟩ := by
  rw [unwind_eq]; rfl

theorem firstFill_append (r1 r2 : List (Step P F)) :
    firstFill (r1 ++ r2) = match firstFill r1 with
      | some p => some p
      | none => firstFill r2 := by
  have := congrArg ErrObj.pos (unwind_append r1 r2 ErrObj.fresh)
  rwa [unwind_fresh, unwind_pos, unwind_fresh] at this

theorem pushes_append (r1 r2 : List (Step P F)) : pushes (r1 ++ r2) = pushes r1 ++ pushes r2 := by
  have := congrArg ErrObj.frames (unwind_append r1 r2 ErrObj.fresh)
  rwa [unwind_fresh, unwind_frames, unwind_fresh] at this

theorem runRaises_length (a : Alloc) (st : ErrObj P F) (rs : List (List (Step P F))) :
    (runRaises a st rs).2.length = rs.length := by
  induction rs generalizing st with
  | nil => rfl
  | cons r rs ih => cases a <;> simp [runRaises, ih]

theorem runRaises_append (a : Alloc) (st : ErrObj P F) (h b : List (List (Step P F))) :
    runRaises a st (h ++ b) =
      ((runRaises a (runRaises a st h).1 b).1, (runRaises a st h).2 ++ (runRaises a (runRaises a st h).1 b).2) := by
  induction h generalizing st with
  | nil => simp [runRaises]
  | cons r rs ih => cases a <;> simp [runRaises, ih]

theorem runRaises_perRaise (st : ErrObj P F) (rs : List (List (Step P F))) :
    runRaises .perRaise st rs = (st, rs.map (fun r => unwind r ErrObj.fresh)) := by
  induction rs generalizing st with
  | nil => rfl
  | cons r rs ih => simp [runRaises, ih]

theorem runRaises_shared_state (st : ErrObj P F) (rs : List (List (Step P F))) :
    (runRaises .shared st rs).1 = unwind rs.flatten st := by
  induction rs generalizing st with
  | nil => rfl
  | cons r rs ih => simp [runRaises, ih, unwind_append]

theorem shows_eq (a : Alloc) (h b : List (List (Step P F))) :
    shows a h b = (runRaises a (runRaises a ErrObj.fresh h).1 b).2 := by
  unfold shows
  rw [runRaises_append]
  simp only
  rw [← runRaises_length a ErrObj.fresh h, List.drop_left]

theorem shows_perRaise (h b : List (List (Step P F))) :
    shows .perRaise h b = b.map (fun r => (⟨firstFill r, pushes r⟩ : ErrObj P F)) := by
  rw [shows_eq, runRaises_perRaise]
  simp only [unwind_fresh]

end Proofs.Lemmas.Shared
