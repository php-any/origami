import Proofs.C20Sites
import Generated.C20MapRanges
import Generated.C20PkgState
import Generated.C20Resets
import Generated.C20Sorts
import Generated.C20Shared
/-!
The obligations of C20 on the regenerated site tables against the hand-written classification
(`C20Sites`): finite facts, proved by evaluation. The kernel turns each string literal it compares
into its bytes once per declaration, so the obligations are evaluated in one declaration.
`Proofs/Properties/C20.lean` states them one by one.
-/
namespace Proofs.SitesObl
open C20Sites

/-- The conjuncts and the obligation of the property file each proves: `.1.1` map ranges, `.1.2` sorts,
`.2.1.1` package state, `.2.1.2` shared references, `.2.2.1` resets, `.2.2.2` probes
(`C20_map_ranges_classified`, `C20_sorts_over_map_order_tie_free`, `C20_pkg_state_classified`,
`C20_shared_references_classified`, `C20_resets_unconditional`, `C20_reset_observers_probed`). -/
theorem tables :
    ((badSites table KnownSites Generated.C20MapRanges.sites = [] ∧ Generated.C20MapRanges.shape = []) ∧
      (tyingSorts sortArgued KnownSorts Generated.C20Sorts.sorts = [] ∧
        sortSitesWithoutFact Generated.C20MapRanges.sites Generated.C20Sorts.sorts = [] ∧
        Generated.C20Sorts.shape = [])) ∧
    (badCells cells KnownCells Generated.C20PkgState.cells = [] ∧
      (badShared cells KnownCells sharedArgued Generated.C20Shared.refs = [] ∧
        staleShared sharedArgued Generated.C20Shared.refs = [] ∧ Generated.C20Shared.shape = [])) ∧
    ((badResets cells resetSpecs Generated.C20Resets.uses = [] ∧ Generated.C20Resets.shape = []) ∧
      unprobed cells probes Generated.C20Resets.uses = []) := by
  decide +kernel

theorem entryDiff_self : ∀ l : List Model.Sites.EntryStep, entryDiff l l = none
  | [] => rfl
  | a :: l => by
    rw [entryDiff, if_pos (beq_self_eq_true a)]
    exact entryDiff_self l

/-- the regenerated entry path is the expected list itself: the two definitions unfold to the same
term, so no string is looked into -/
theorem entryPath : Generated.C20Resets.entry = expectedEntry := rfl

end Proofs.SitesObl
