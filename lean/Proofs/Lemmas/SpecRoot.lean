import Proofs.Lemmas.TreePath
/-!
C06, the reference semantics at a root name (`$x`, `$x->p`), and the property itself on the
spec side: a mutating statement at any depth changes the name its place is rooted in and
nothing else (`spec_modify_var`, `spec_modify_prop`).
-/
namespace Proofs.Heap
open Model.Heap
open Spec.Val (Tree Entry store)

theorem root_isRoot (b : Place) : b.root.isRoot = true := by
  induction b with
  | var x => rfl
  | prop x p => rfl
  | idx b k ih => simpa only [Place.root] using ih

theorem root_root (b : Place) : b.root.root = b.root := by
  induction b with
  | var x => rfl
  | prop x p => rfl
  | idx b k ih => simpa only [Place.root] using ih

theorem pathOf_of_isRoot (b : Place) (h : b.isRoot = true) : pathOf b = [] ∧ b.root = b := by
  cases b with
  | var x => exact ⟨rfl, rfl⟩
  | prop x p => exact ⟨rfl, rfl⟩
  | idx b k => simp [Place.isRoot] at h

theorem spec_setVar_read (t : Spec.Val.St) (x : Nat) (T0 T1 : Tree) (h0 : t.varVal? x = some T0) :
    (t.setVar x T1).varVal? x = some T1 ∧ ∀ T2, (t.setVar x T1).setVar x T2 = t.setVar x T2 := by
  cases hc : t.names[x]? with
  | none => simp [Spec.Val.St.varVal?, hc] at h0
  | some cidx =>
    simp only [Spec.Val.St.varVal?, hc] at h0
    have hlt : cidx < t.vars.length := (List.getElem?_eq_some_iff.mp h0).1
    simp only [Spec.Val.St.varVal?, Spec.Val.St.setVar, hc]
    constructor
    · simp [hlt]
    · intro T2; simp [List.set_set]

theorem spec_varVal?_setProp (t : Spec.Val.St) (h p x : Nat) (T : Tree) :
    (t.setProp h p T).varVal? x = t.varVal? x := by
  simp only [Spec.Val.St.setProp, Spec.Val.St.varVal?]
  cases t.objs[h]? <;> rfl

theorem spec_varObj?_setProp (t : Spec.Val.St) (h p x : Nat) (T : Tree) :
    (t.setProp h p T).varObj? x = t.varObj? x := by
  simp only [Spec.Val.St.varObj?, spec_varVal?_setProp]

theorem spec_setProp_read (t : Spec.Val.St) (h p : Nat) (T0 T1 : Tree)
    (h0 : t.propVal? h p = some T0) :
    (t.setProp h p T1).propVal? h p = some T1 ∧
      ∀ T2, (t.setProp h p T1).setProp h p T2 = t.setProp h p T2 := by
  cases ho : t.objs[h]? with
  | none => simp [Spec.Val.St.propVal?, ho] at h0
  | some ps =>
    simp only [Spec.Val.St.propVal?, ho] at h0
    have hh : h < t.objs.length := (List.getElem?_eq_some_iff.mp ho).1
    have hp : p < ps.length := (List.getElem?_eq_some_iff.mp h0).1
    simp only [Spec.Val.St.propVal?, Spec.Val.St.setProp, ho]
    constructor
    · simp [hh, hp]
    · intro T2; simp [hh, List.set_set]

theorem modify_root_form (t : Spec.Val.St) (c : Bool) (r : Place) (hr : r.isRoot = true) (T0 : Tree)
    (h0 : Spec.Val.read t r = some T0) :
    ∃ set : Tree → Spec.Val.St,
      (∀ H : Tree → Option Tree, Spec.Val.modify t c r H = (H T0).map set) ∧
      (∀ T1, Spec.Val.read (set T1) r = some T1) ∧
      (∀ T1 (H2 : Tree → Option Tree), Spec.Val.modify (set T1) c r H2 = (H2 T1).map set) := by
  cases r with
  | idx b k => simp [Place.isRoot] at hr
  | var x =>
    simp only [Spec.Val.read] at h0
    refine ⟨t.setVar x, ?_, ?_, ?_⟩
    · intro H; simp only [Spec.Val.modify, h0]
    · intro T1; simp only [Spec.Val.read]; exact (spec_setVar_read t x T0 T1 h0).1
    · intro T1 H2
      have := spec_setVar_read t x T0 T1 h0
      simp only [Spec.Val.modify, this.1]
      cases H2 T1 with
      | none => rfl
      | some T2 => simp only [Option.map_some, this.2]
  | prop x p =>
    simp only [Spec.Val.read] at h0
    cases hv : t.varObj? x with
    | none => simp [hv] at h0
    | some h =>
      simp only [hv] at h0
      refine ⟨t.setProp h p, ?_, ?_, ?_⟩
      · intro H; simp only [Spec.Val.modify, hv, h0]
      · intro T1
        simp only [Spec.Val.read, spec_varObj?_setProp, hv]
        exact (spec_setProp_read t h p T0 T1 h0).1
      · intro T1 H2
        have := spec_setProp_read t h p T0 T1 h0
        simp only [Spec.Val.modify, spec_varObj?_setProp, hv, this.1]
        cases H2 T1 with
        | none => rfl
        | some T2 => simp only [Option.map_some, this.2]

theorem modify_root_congr (t : Spec.Val.St) (c : Bool) (r : Place) (hr : r.isRoot = true) (T0 : Tree)
    (h0 : Spec.Val.read t r = some T0) (H H' : Tree → Option Tree) (he : H T0 = H' T0) :
    Spec.Val.modify t c r H = Spec.Val.modify t c r H' := by
  obtain ⟨set, h1, _, _⟩ := modify_root_form t c r hr T0 h0
  rw [h1, h1, he]

theorem modify_root_none (t : Spec.Val.St) (c : Bool) (r : Place) (hr : r.isRoot = true)
    (h0 : Spec.Val.read t r = none) (H : Tree → Option Tree) : Spec.Val.modify t c r H = none := by
  cases r with
  | idx b k => simp [Place.isRoot] at hr
  | var x =>
    simp only [Spec.Val.read] at h0
    simp only [Spec.Val.modify, h0]
  | prop x p =>
    simp only [Spec.Val.read] at h0
    cases hv : t.varObj? x with
    | none => simp only [Spec.Val.modify, hv]
    | some h =>
      simp only [hv] at h0
      simp only [Spec.Val.modify, hv, h0]

theorem modify_root_some (t t1 : Spec.Val.St) (c : Bool) (r : Place) (hr : r.isRoot = true) (T0 : Tree)
    (h0 : Spec.Val.read t r = some T0) (H : Tree → Option Tree) (h : Spec.Val.modify t c r H = some t1) :
    ∃ T1, H T0 = some T1 ∧ Spec.Val.read t1 r = some T1 := by
  obtain ⟨set, h1, h2, _⟩ := modify_root_form t c r hr T0 h0
  rw [h1] at h
  cases hH : H T0 with
  | none => simp [hH] at h
  | some T1 =>
    simp only [hH, Option.map_some, Option.some.injEq] at h
    subst h
    exact ⟨T1, rfl, h2 T1⟩

theorem modify_root_eq_none (t : Spec.Val.St) (c : Bool) (r : Place) (hr : r.isRoot = true) (T0 : Tree)
    (h0 : Spec.Val.read t r = some T0) (H : Tree → Option Tree) (h : H T0 = none) :
    Spec.Val.modify t c r H = none := by
  obtain ⟨set, h1, _, _⟩ := modify_root_form t c r hr T0 h0
  rw [h1, h]; rfl

theorem onArray_vivify (t : Spec.Val.St) (b2 : Place) (k2 : IKey) (T0 : Tree)
    (h0 : Spec.Val.read t b2.root = some T0) (he : existsAt (pathOf b2 ++ [k2]) T0 = some false)
    (g : List Entry → List Entry) :
    Spec.Val.onArray t true (.idx b2 k2) g =
      (Spec.Val.onArray t true b2 (fun l => store l (some k2) (.arr []))).bind
        (fun t1 => Spec.Val.onArray t1 true (.idx b2 k2) g) := by
  obtain ⟨set, h1, _, h3⟩ := modify_root_form t true b2.root (root_isRoot b2) T0 h0
  have hL : ∀ s : Spec.Val.St, Spec.Val.onArray s true (.idx b2 k2) g =
      Spec.Val.modify s true b2.root (modPath true (pathOf b2 ++ [k2]) (onArr g)) := by
    intro s; rw [onArray_eq, modify_root_path]; rfl
  rw [hL t, onArray_eq t true b2, modify_root_path t true b2, h1, h1,
    modPath_vivify (pathOf b2) k2 (onArr g) T0 he]
  cases hm : modPath true (pathOf b2) (onArr fun l => store l (some k2) (Tree.arr [])) T0 with
  | none => rfl
  | some T1 =>
    simp only [Option.bind_some, Option.map_some]
    rw [hL, h3]

theorem read_vivify (t t1 : Spec.Val.St) (b2 : Place) (k2 : IKey) (T0 : Tree)
    (h0 : Spec.Val.read t b2.root = some T0) (he : existsAt (pathOf b2 ++ [k2]) T0 = some false)
    (h1 : Spec.Val.onArray t true b2 (fun l => store l (some k2) (.arr [])) = some t1) :
    Spec.Val.read t1 (.idx b2 k2) = some (.arr []) := by
  rw [onArray_eq, modify_root_path] at h1
  obtain ⟨T1, hT1, hr1⟩ := modify_root_some t t1 true b2.root (root_isRoot b2) T0 h0 _ h1
  rw [read_root_path]
  show (Spec.Val.read t1 b2.root).bind (walkT (pathOf b2 ++ [k2])) = _
  rw [hr1, Option.bind_some]
  exact (vivify_aux (pathOf b2) k2 T0 he).2 T1 hT1

theorem onArray_none (t : Spec.Val.St) (c : Bool) (b : Place) (g : List Entry → List Entry)
    (he : c = true → ∀ T0, Spec.Val.read t b.root = some T0 → existsAt (pathOf b) T0 ≠ some false)
    (h : ∀ l, Spec.Val.read t b ≠ some (.arr l)) : Spec.Val.onArray t c b g = none := by
  rw [onArray_eq, modify_root_path]
  cases h0 : Spec.Val.read t b.root with
  | none => exact modify_root_none t c b.root (root_isRoot b) h0 _
  | some T0 =>
    have hw : ∀ l, walkT (pathOf b) T0 ≠ some (.arr l) := by
      intro l hl
      apply h l
      rw [read_root_path, h0, Option.bind_some]; exact hl
    exact modify_root_eq_none t c b.root (root_isRoot b) T0 h0 _
      (modPath_none c (pathOf b) g T0 (fun hc => he hc T0 h0) hw)

theorem spec_setVar_other (s : Spec.Val.St) (x : Nat) (t : Tree) :
    (s.setVar x t).objs = s.objs ∧ (s.setVar x t).names = s.names ∧
    ∀ y, s.names[y]? ≠ s.names[x]? → (s.setVar x t).varVal? y = s.varVal? y := by
  simp only [Spec.Val.St.setVar]
  cases hc : s.names[x]? with
  | none => simp
  | some c =>
    refine ⟨rfl, rfl, ?_⟩
    intro y hy
    simp only [Spec.Val.St.varVal?]
    cases hcy : s.names[y]? with
    | none => rfl
    | some cy =>
      have : c ≠ cy := fun e => hy (by rw [hcy, e])
      simp [this]

theorem spec_setProp_other (s : Spec.Val.St) (hx p : Nat) (t : Tree) :
    (s.setProp hx p t).vars = s.vars ∧ (s.setProp hx p t).names = s.names ∧
    (∀ h0 p', (hx ≠ h0 ∨ p' ≠ p) → (s.setProp hx p t).propVal? h0 p' = s.propVal? h0 p') ∧
    ∀ h0, hx ≠ h0 → (s.setProp hx p t).objs[h0]? = s.objs[h0]? := by
  simp only [Spec.Val.St.setProp]
  cases hps : s.objs[hx]? with
  | none => simp
  | some ps =>
    refine ⟨rfl, rfl, ?_, fun h0 e => by simp [e]⟩
    intro h0 p' hne
    simp only [Spec.Val.St.propVal?]
    by_cases e : hx = h0
    · subst e
      have hlt : hx < s.objs.length := (List.getElem?_eq_some_iff.mp hps).1
      have hp : p ≠ p' := fun e => hne.elim (fun h => h rfl) (fun h => h e.symm)
      have hget : s.objs[hx] = ps := Option.some.inj ((List.getElem?_eq_getElem hlt).symm.trans hps)
      simp [hlt, hp, hget]
    · simp [e]

theorem spec_modify_var (s s' : Spec.Val.St) (c : Bool) (b : Place) (x : Nat) (F : Tree → Option Tree)
    (hb : b.root = .var x) (h : Spec.Val.modify s c b F = some s') :
    s'.objs = s.objs ∧ s'.names = s.names ∧ ∀ y, s.names[y]? ≠ s.names[x]? → s'.varVal? y = s.varVal? y := by
  rw [modify_root_path, hb] at h
  simp only [Spec.Val.modify] at h
  cases hv : s.varVal? x with
  | none => simp [hv] at h
  | some t =>
    simp only [hv] at h
    obtain ⟨t', _, rfl⟩ := Option.map_eq_some_iff.mp h
    exact spec_setVar_other s x t'

theorem spec_modify_prop (s s' : Spec.Val.St) (c : Bool) (b : Place) (x p : Nat) (F : Tree → Option Tree)
    (hb : b.root = .prop x p) (h : Spec.Val.modify s c b F = some s') :
    s'.vars = s.vars ∧ s'.names = s.names ∧
    (∀ h0 p', (s.varObj? x ≠ some h0 ∨ p' ≠ p) → s'.propVal? h0 p' = s.propVal? h0 p') ∧
    ∀ h0, s.varObj? x ≠ some h0 → s'.objs[h0]? = s.objs[h0]? := by
  rw [modify_root_path, hb] at h
  simp only [Spec.Val.modify] at h
  cases hh : s.varObj? x with
  | none => simp [hh] at h
  | some hx =>
    cases hv : s.propVal? hx p with
    | none => simp [hh, hv] at h
    | some t =>
      simp only [hh, hv] at h
      obtain ⟨t', _, rfl⟩ := Option.map_eq_some_iff.mp h
      obtain ⟨h1, h2, h3, h4⟩ := spec_setProp_other s hx p t'
      exact ⟨h1, h2, fun h0 p' hne => h3 h0 p' (hne.imp_left (fun n e => n (by rw [e]))),
        fun h0 hne => h4 h0 (fun e => hne (by rw [e]))⟩

theorem spec_step_target (s : Spec.Val.St) (w : Op) (b : Place) (hw : w.target = some b) :
    Spec.Val.step s w = s ∨ ∃ c g, Spec.Val.onArray s c b g = some (Spec.Val.step s w) := by
  cases w with
  | setIdx b' k r =>
    obtain rfl : b' = b := Option.some.inj hw
    simp only [Spec.Val.step, Spec.Val.stepOpt]
    cases Spec.Val.evalRV s r with
    | none => exact Or.inl rfl
    | some t =>
      cases ho : Spec.Val.onArray s true b' (fun l => store l k t) with
      | none => exact Or.inl (by simp only [ho]; rfl)
      | some s' => exact Or.inr ⟨true, fun l => store l k t, by simp only [ho]; rfl⟩
  | unset b' k =>
    obtain rfl : b' = b := Option.some.inj hw
    simp only [Spec.Val.step, Spec.Val.stepOpt]
    cases ho : Spec.Val.onArray s false b' (fun l => Spec.Val.unsetK l k) with
    | none => exact Or.inl rfl
    | some s' => exact Or.inr ⟨false, _, ho⟩
  | meth b' m =>
    obtain rfl : b' = b := Option.some.inj hw
    simp only [Spec.Val.step, Spec.Val.stepOpt]
    cases ho : Spec.Val.onArray s false b' (fun l => Spec.Val.applyMeth l m) with
    | none => exact Or.inl rfl
    | some s' => exact Or.inr ⟨false, _, ho⟩
  | _ => cases hw

theorem spec_write_var (s : Spec.Val.St) (w : Op) (x : Nat) (hw : w.target = some (.var x)) :
    (Spec.Val.step s w).objs = s.objs ∧
    ∀ y, s.names[y]? ≠ s.names[x]? → (Spec.Val.step s w).varVal? y = s.varVal? y := by
  rcases spec_step_target s w _ hw with h | ⟨c, g, h⟩
  · rw [h]; exact ⟨rfl, fun _ _ => rfl⟩
  · obtain ⟨h1, _, h3⟩ := spec_modify_var s _ c _ x _ rfl h
    exact ⟨h1, h3⟩

theorem spec_write_prop (s : Spec.Val.St) (w : Op) (x p : Nat) (hw : w.target = some (.prop x p)) :
    (∀ y, (Spec.Val.step s w).varVal? y = s.varVal? y) ∧
    (∀ h0 p', (s.varObj? x ≠ some h0 ∨ p' ≠ p) → (Spec.Val.step s w).propVal? h0 p' = s.propVal? h0 p') ∧
    (∀ h0, s.varObj? x ≠ some h0 → (Spec.Val.step s w).objs[h0]? = s.objs[h0]?) := by
  rcases spec_step_target s w _ hw with h | ⟨c, g, h⟩
  · rw [h]; exact ⟨fun _ => rfl, fun _ _ _ => rfl, fun _ _ => rfl⟩
  · obtain ⟨h1, h2, h3, h4⟩ := spec_modify_prop s _ c _ x p _ rfl h
    exact ⟨fun y => by simp only [Spec.Val.St.varVal?, h1, h2], h3, h4⟩

theorem spec_clone (s : Spec.Val.St) (x y h : Nat) (hy : s.varObj? y = some h) (hl : h < s.objs.length) :
    (Spec.Val.step s (.clone x y)).objs = s.objs ++ [s.objs[h]] ∧
    (Spec.Val.step s (.clone x y)).names = s.names ∧
    ((Spec.Val.step s (.clone x y)).varObj? x = some s.objs.length ∨ (Spec.Val.step s (.clone x y)).varObj? x = none) ∧
    (∀ z, s.names[z]? ≠ s.names[x]? → (Spec.Val.step s (.clone x y)).varVal? z = s.varVal? z) := by
  have hps : s.objs[h]? = some s.objs[h] := List.getElem?_eq_getElem hl
  simp only [Spec.Val.step, Spec.Val.stepOpt, hy, hps, Option.getD_some]
  obtain ⟨h1, h2, h3⟩ :=
    spec_setVar_other { s with objs := s.objs ++ [s.objs[h]] } x (.sc (.inst s.objs.length))
  refine ⟨h1, h2, ?_, h3⟩
  simp only [Spec.Val.St.varObj?, Spec.Val.St.varVal?, Spec.Val.St.setVar]
  cases hc : s.names[x]? with
  | none => exact Or.inr (by simp [hc])
  | some c =>
    simp only [hc, List.getElem?_set]
    by_cases hlt : c < s.vars.length
    · left; simp [hlt]
    · right; simp [hlt]

end Proofs.Heap
