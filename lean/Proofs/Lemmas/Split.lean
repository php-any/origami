import Model.Split
/-!
When all sections take one mutex `ℓ` (`SameLock`), `Inv ℓ` holds along every run: whoever is inside a section
owns `ℓ`, so at most one goroutine is; what it has looked up is still what the store holds; and every response
in the log is the binding in the store.  A step never changes a binding, so, two responses for one name being
the one binding, the log is `BoundOnce`.
`Model.Split` is self-contained (it does not import `Model.RW`), hence its own `upd` and the two lemmas about it.
-/
namespace Model.Split

@[simp] theorem upd_same {α : Type} (f : Nat → α) (k : Nat) (v : α) : upd f k v k = v := by simp [upd]
theorem upd_other {α : Type} (f : Nat → α) (k : Nat) (v : α) {x : Nat} (h : x ≠ k) : upd f k v x = f x := by
  simp [upd, h]

def PcOk (ℓ : Lock) (store : Name → Option Val) : Pc → Prop
  | .idle => True
  | .held sec => sec.lk = ℓ
  | .checked sec seen => sec.lk = ℓ ∧ store sec.name = seen
  | .done sec r => sec.lk = ℓ ∧ store sec.name = some r

/-- Whoever is inside a section owns `ℓ` (`own`), what it has looked up is still what the store holds (`hheld`, `hchk`,
`hdone`: `PcOk ℓ s.store (s.pc t)` case by case), every logged response is the binding in the store (`logged`). -/
structure Inv (ℓ : Lock) (s : State) : Prop where
  disc : ∀ t sec, sec ∈ s.prog t → sec.lk = ℓ
  own : ∀ t, s.pc t ≠ .idle → s.owner ℓ = some t
  hheld : ∀ t sec, s.pc t = .held sec → sec.lk = ℓ
  hchk : ∀ t sec seen, s.pc t = .checked sec seen → sec.lk = ℓ ∧ s.store sec.name = seen
  hdone : ∀ t sec r, s.pc t = .done sec r → sec.lk = ℓ ∧ s.store sec.name = some r
  logged : ∀ e ∈ s.log, s.store e.1 = some e.2

theorem inv_init (ℓ : Lock) (prog : Tid → List Sec) (h : ∀ t sec, sec ∈ prog t → sec.lk = ℓ) : Inv ℓ (init prog) where
  disc := h
  own := by intro t ht; simp [init] at ht
  hheld := by intro t sec ht; simp [init] at ht
  hchk := by intro t sec seen ht; simp [init] at ht
  hdone := by intro t sec r ht; simp [init] at ht
  logged := by intro e he; simp [init] at he

/-- the mutex is the one all sections take — any, if there is no section at all -/
theorem inv_init_sameLock (prog : Tid → List Sec) (h : SameLock prog) : ∃ ℓ, Inv ℓ (init prog) := by
  by_cases hex : ∃ t sec, sec ∈ prog t
  · obtain ⟨t0, sec0, h0⟩ := hex
    exact ⟨sec0.lk, inv_init _ prog fun t sec hm => h t sec hm t0 sec0 h0⟩
  · exact ⟨0, inv_init _ prog fun t sec hm => absurd ⟨t, sec, hm⟩ hex⟩

theorem others_idle {ℓ : Lock} {s : State} (inv : Inv ℓ s) {t t' : Tid} (ht : s.pc t ≠ .idle) (hne : t' ≠ t) :
    s.pc t' = .idle := by
  by_cases h : s.pc t' = .idle
  · exact h
  · have h1 := inv.own t ht
    have h2 := inv.own t' h
    rw [h1] at h2
    exact absurd (Option.some.inj h2).symm hne

/-- only `t` can be inside a section: the invariant speaks about `t` alone -/
theorem inv_solo {ℓ : Lock} {s : State} (t : Tid) (p : Pc) (hp : s.pc t = p)
    (hdisc : ∀ t sec, sec ∈ s.prog t → sec.lk = ℓ) (hidle : ∀ t', t' ≠ t → s.pc t' = .idle)
    (hown : p ≠ .idle → s.owner ℓ = some t) (hok : PcOk ℓ s.store p)
    (hlog : ∀ e ∈ s.log, s.store e.1 = some e.2) : Inv ℓ s := by
  have key : ∀ t', s.pc t' ≠ .idle → t' = t := fun t' h => by
    by_cases e : t' = t
    · exact e
    · exact absurd (hidle t' e) h
  have ok : ∀ t' q, s.pc t' = q → q ≠ .idle → PcOk ℓ s.store q := fun t' q h hq => by
    rw [← h, key t' (h ▸ hq), hp]; exact hok
  exact ⟨hdisc, fun t' h => by rw [key t' h]; exact hown (hp ▸ key t' h ▸ h),
    fun t' sec h => ok t' _ h nofun, fun t' sec seen h => ok t' _ h nofun, fun t' sec r h => ok t' _ h nofun, hlog⟩

theorem step_spec {ℓ : Lock} {s : State} (inv : Inv ℓ s) (t : Tid) :
    Inv ℓ (step s t) ∧ ∀ n v, s.store n = some v → (step s t).store n = some v := by
  have hidle : s.pc t ≠ .idle → ∀ (p : Pc) t', t' ≠ t → upd s.pc t p t' = .idle :=
    fun hn p t' e => by rw [upd_other _ _ _ e]; exact others_idle inv hn e
  -- the arms of `step`: finished; takes the mutex; mutex taken; looks the name up; inserts; found it bound; unlocks
  fun_cases step s t
  case case1 hpc hpr => exact ⟨inv, fun _ _ h => h⟩
  case case2 hpc sec more hpr hfree =>
    have hl : sec.lk = ℓ := inv.disc t sec (by simp [hpr])
    refine ⟨inv_solo t (.held sec) (upd_same _ _ _) (fun t' sec' hm => ?_) (fun t' e => ?_)
      (fun _ => hl ▸ upd_same _ _ _) hl inv.logged, fun _ _ h => h⟩
    · by_cases e : t' = t
      · subst e; exact inv.disc t' sec' (by rw [hpr]; exact List.mem_cons_of_mem _ (upd_same s.prog t' more ▸ hm))
      · exact inv.disc t' sec' (upd_other s.prog t more e ▸ hm)
    · show upd s.pc t _ t' = .idle
      rw [upd_other _ _ _ e]
      by_cases h : s.pc t' = .idle
      · exact h
      · have := inv.own t' h; rw [← hl, hfree] at this; cases this
  case case3 hpc sec more hpr hfree => exact ⟨inv, fun _ _ h => h⟩
  case case4 sec hpc =>
    have hn : s.pc t ≠ .idle := by simp [hpc]
    exact ⟨inv_solo t (.checked sec (s.store sec.name)) (upd_same _ _ _) inv.disc (hidle hn _)
      (fun _ => inv.own t hn) ⟨inv.hheld t sec hpc, rfl⟩ inv.logged, fun _ _ h => h⟩
  case case5 sec hpc =>
    have hn : s.pc t ≠ .idle := by simp [hpc]
    obtain ⟨hl, hst⟩ := inv.hchk t sec none hpc
    -- the name was free, so no binding is overwritten
    have keep : ∀ n v, s.store n = some v → upd s.store sec.name (some sec.val) n = some v := by
      intro n v h
      have hne : n ≠ sec.name := fun heq => by rw [heq, hst] at h; cases h
      rw [upd_other _ _ _ hne]; exact h
    exact ⟨inv_solo t (.done sec sec.val) (upd_same _ _ _) inv.disc (hidle hn _)
      (fun _ => inv.own t hn) ⟨hl, upd_same _ _ _⟩ (fun e he => keep _ _ (inv.logged e he)), keep⟩
  case case6 sec w hpc =>
    have hn : s.pc t ≠ .idle := by simp [hpc]
    obtain ⟨hl, hst⟩ := inv.hchk t sec (some w) hpc
    exact ⟨inv_solo t (.done sec w) (upd_same _ _ _) inv.disc (hidle hn _)
      (fun _ => inv.own t hn) ⟨hl, hst⟩ inv.logged, fun _ _ h => h⟩
  case case7 sec r hpc =>
    have hn : s.pc t ≠ .idle := by simp [hpc]
    refine ⟨inv_solo t .idle (upd_same _ _ _) inv.disc (hidle hn _) (fun h => absurd rfl h) trivial
      (fun e he => ?_), fun _ _ h => h⟩
    rcases List.mem_cons.mp he with rfl | he
    · exact (inv.hdone t sec r hpc).2
    · exact inv.logged e he

theorem inv_step {ℓ : Lock} {s : State} (inv : Inv ℓ s) (t : Tid) : Inv ℓ (step s t) :=
  (step_spec inv t).1

theorem inv_run {ℓ : Lock} (sched : List Tid) : ∀ {s : State}, Inv ℓ s → Inv ℓ (run s sched) := by
  induction sched with
  | nil => intro s h; exact h
  | cons t ts ih => intro s h; exact ih (inv_step h t)

theorem store_stable_run {ℓ : Lock} (sched : List Tid) : ∀ {s : State}, Inv ℓ s → ∀ {n : Name} {v : Val},
    s.store n = some v → (run s sched).store n = some v := by
  induction sched with
  | nil => intro s _ n v h; exact h
  | cons t ts ih => intro s inv n v h; exact ih (inv_step inv t) ((step_spec inv t).2 n v h)

end Model.Split
