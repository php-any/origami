/-! Insertion sort, for every model that codes one by hand. A stable insertion `f x l` walks `x` past the elements it
does not stop at and puts it in front of the first `y` with `stop x y` ("`x` may stand before `y`": `≤` for an ascending
sort that inserts from the right, the negated `<` for one that keeps its sorted prefix reversed). That is core's
`List.merge [x] l`, which takes from the left list exactly when the comparison says yes (`eq_merge`), so permutation and
sortedness are core's `merge_perm_append` and `pairwise_merge`. Stability is stated the way the properties state it: the
elements of one key, filtered out, stand as they stood; it holds when `stop` does not tell equal keys apart, because then
`x` passes no element of its own key. A sort is `l.foldr f []`; one that folds from the left is
`List.foldl_eq_foldr_reverse` away. -/
namespace Proofs.StableSort
variable {α : Type} {stop : α → α → Prop} [DecidableRel stop] {f : α → List α → List α}
  (hnil : ∀ x, f x [] = [x]) (hcons : ∀ x y ys, f x (y :: ys) = if stop x y then x :: y :: ys else y :: f x ys)
include hnil hcons

theorem eq_merge (x : α) (l : List α) : f x l = List.merge [x] l (fun a b => decide (stop a b)) := by
  induction l with
  | nil => rw [hnil, List.merge_right]
  | cons y ys ih => simp only [hcons, List.cons_merge_cons, List.nil_merge, ih, decide_eq_true_eq]

theorem perm (l : List α) : (l.foldr f []).Perm l := by
  induction l with
  | nil => exact .refl _
  | cons x xs ih => rw [List.foldr_cons, eq_merge hnil hcons]; exact (List.merge_perm_append _).trans (ih.cons x)

theorem pairwise (trans : ∀ a b c, stop a b → stop b c → stop a c) (total : ∀ a b, stop a b ∨ stop b a) (l : List α) :
    (l.foldr f []).Pairwise stop := by
  induction l with
  | nil => exact .nil
  | cons x xs ih =>
    rw [List.foldr_cons, eq_merge hnil hcons]
    exact (List.pairwise_merge (fun a b c h1 h2 => decide_eq_true (trans a b c (of_decide_eq_true h1) (of_decide_eq_true h2)))
      (fun a b => by simpa using total a b) [x] _ (List.pairwise_singleton _ x) (ih.imp decide_eq_true)).imp of_decide_eq_true

omit hnil hcons in
theorem filter_merge_singleton (p : α → Bool) {x : α} {l : List α}
    (hp : ∀ y, ¬ stop x y → p x = true → p y = false) :
    (List.merge [x] l (fun a b => decide (stop a b))).filter p = (x :: l).filter p := by
  induction l with
  | nil => rw [List.merge_right]
  | cons y ys ih =>
    rw [List.cons_merge_cons, List.nil_merge]
    split
    · rfl
    · rename_i hs
      rw [List.filter_cons, ih, List.filter_cons (x := x), List.filter_cons (x := x), List.filter_cons (x := y)]
      cases hx : p x with
      | false => rfl
      | true => rw [hp y (fun h => hs (decide_eq_true h)) hx]; rfl

theorem stable {κ : Type} [BEq κ] [LawfulBEq κ] (key : α → κ) (hk : ∀ x y, key x = key y → stop x y) (k : κ) (l : List α) :
    (l.foldr f []).filter (fun v => key v == k) = l.filter (fun v => key v == k) := by
  induction l with
  | nil => rfl
  | cons x xs ih =>
    rw [List.foldr_cons, eq_merge hnil hcons, filter_merge_singleton, List.filter_cons, List.filter_cons, ih]
    exact fun y hs hx => beq_false_of_ne fun hy => hs (hk x y ((eq_of_beq hx).trans hy.symm))

end Proofs.StableSort
