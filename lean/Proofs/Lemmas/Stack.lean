import Model.Stack

/-! Lemmas about `Model.Stack`: the floor of a guarded stack machine. -/

namespace Proofs.Lemmas.Stack
open Model.Stack

theorem run_nil (n : Nat) : run [] n = n := rfl

theorem run_cons (o : Op) (ops : List Op) (n : Nat) : run (o :: ops) n = run ops (o.step n) := rfl

theorem run_append (xs ys : List Op) (n : Nat) : run (xs ++ ys) n = run ys (run xs n) :=
  List.foldl_append

theorem step_preserves {F : Nat} {o : Op} (hs : o.safe F = true) {n : Nat} (hn : F ≤ n) : F ≤ o.step n := by
  unfold Op.step
  split
  · next hr =>
    unfold Op.safe at hs
    cases he : o.eff with
    | push k => exact Nat.le_trans hn (Nat.le_add_right n k)
    | none => exact hn
    | reset r => rw [he] at hs; exact of_decide_eq_true hs
    | unknown => rw [he] at hs; exact Nat.le_of_eq (of_decide_eq_true hs)
    | pop s =>
      rw [he] at hs
      show F ≤ n - s
      by_cases hlt : n < F + s
      · -- `n = F + i` with `i < s`: the op does not run there
        have h1 := List.all_eq_true.1 hs (n - F) (List.mem_range.2 (Nat.sub_lt_left_of_lt_add hn hlt))
        rw [Nat.add_sub_of_le hn, hr] at h1
        cases h1
      · exact Nat.le_sub_of_add_le (Nat.not_lt.1 hlt)
  · exact hn

def push1 : Op := ⟨[], .push 1⟩

theorem push1_step (n : Nat) : push1.step n = n + 1 := rfl

theorem run_pushes (m n : Nat) : run (List.replicate m push1) n = n + m := by
  induction m generalizing n with
  | zero => simp [run]
  | succ m ih =>
    rw [List.replicate_succ, run_cons, push1_step, ih]
    omega

/-- only pushes, pops and reads. `Stack_floor_kept_iff` needs this: an unsafe pop goes below the floor after
enough pushes from the floor, while for `reset` / `unknown` unsafety is not witnessed by a run from the floor. -/
def Op.plain (o : Op) : Prop := match o.eff with
  | .push _ | .pop _ | .none => True
  | _ => False

theorem safe_of_unsafeEffects_nil {cs : List Container} (h : unsafeEffects cs = []) {c : Container}
    (hc : c ∈ cs) {o : Op} (ho : o ∈ c.ops) : o.safe c.floor = true := by
  simp only [unsafeEffects, List.flatMap_eq_nil_iff] at h
  have h1 := h c hc
  simp only [Container.belowFloor, List.map_eq_nil_iff, List.filter_eq_nil_iff] at h1
  simp only [Container.ops, List.mem_map] at ho
  obtain ⟨e, he, rfl⟩ := ho
  have := h1 e he
  simpa using this

end Proofs.Lemmas.Stack
