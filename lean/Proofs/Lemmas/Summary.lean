import Spec.SummaryVal
import Proofs.Lemmas.WSum
/-!
C06 — `Model.Summary` (arrays with a cached summary of their contents) against `Spec.SummaryVal`.

Every statement but `lit` gives ONE variable an array made from what a variable holds (`xform`), in the model and in the
reference semantics (`sxform`); `Fact` lists what the maker of the array owes, and `xform_ok` proves from it, once, that the
three invariants `Ok` (flag sound, identities fresh, values agree) are kept. `wr` pokes the inner array object wherever it is
held; it is `xform` because the object has one holder (`step_wr`, from `Ok.cnt`).
-/
namespace Proofs.Lemmas.Summary
open Model.Summary Spec.SummaryVal
open Proofs.Heap (wsum wsum_append wsum_ge_get wsum_set_le_of wsum_sublist_le wsum_eq_zero
  wsum_replicate map_eq_self_of_wsum map_eq_set_of_wsum list_set_same FreshIn)

def Sound (a : Arr) : Prop := a.hint = true → ∀ e ∈ a.elems, e.isSc = true

/-- five statements: literal, copy (flat at the last copy), the array enters through editor
`e`, copy, nested write through the copy.
`$v0 = [1, 2]; $v1 = $v0; EDIT_e($v1, [10, 20]); $v2 = $v1; $v2[2][0] = 99;` -/
def witness (e : Editor) : List Op :=
  [.lit 0 [.sc 1, .sc 2], .copy 0 1, .put e 1 2 (.arr [10, 20]), .copy 1 2, .wr 2 2 0 99]

def cntE (id : Nat) : Elem → Nat
  | .sc _ => 0
  | .inner i _ => if i = id then 1 else 0

def cntL (id : Nat) (l : List Elem) : Nat := wsum (cntE id) l
def cntS (id : Nat) (vars : List Arr) : Nat := wsum (fun a => cntL id a.elems) vars

theorem cntL_cons (id : Nat) (e : Elem) (r : List Elem) : cntL id (e :: r) = cntE id e + cntL id r := rfl

structure Ok (cfg : Cfg) (s : State) (t : List SVal) : Prop where
  hint : (∀ e, cfg.maintains e = true) → ∀ a ∈ s.vars, Sound a
  cnt : FreshIn (fun id => cntS id s.vars) 0 s.next
  abs : abs s = t

def xform (F : Arr → Nat → Arr × Nat) (s : State) (x y : Nat) : State :=
  match s.vars[x]? with
  | none => s
  | some a => ⟨s.vars.set y (F a s.next).1, (F a s.next).2⟩

def sxform (G : SVal → SVal) (t : List SVal) (x y : Nat) : List SVal :=
  match t[x]? with
  | none => t
  | some v => t.set y (G v)

/-- what the maker of an array owes: `p` is what it returns for the array `a` of `x` at allocator `n`,
`v` the value the reference semantics gives `y`. `fresh`: besides identities allocated on the way (`d`), a result that overwrites its
own source (`x = y`: `put`, `del`, `wr`) may keep the source's; one that goes to another variable (`copy`) may keep none, because
the source stays -/
structure Fact (cfg : Cfg) (x y : Nat) (a : Arr) (n : Nat) (p : Arr × Nat) (v : SVal) : Prop where
  next : n ≤ p.2
  fresh : ∃ d, FreshIn d n p.2 ∧ ∀ id, cntL id p.1.elems ≤ (if x = y then cntL id a.elems else 0) + d id
  abs : absA p.1 = v
  sound : (∀ e, cfg.maintains e = true) → Sound a → Sound p.1

theorem abs_get (s : State) (x : Nat) : (abs s)[x]? = (s.vars[x]?).map absA := List.getElem?_map

theorem set_ok {cfg : Cfg} {s : State} {t : List SVal} (h : Ok cfg s t) (y : Nat) (b : Arr) (n' : Nat) (v : SVal)
    (d : Nat → Nat) (hn : s.next ≤ n') (hd : FreshIn d s.next n')
    (hb : ∀ id a', s.vars[y]? = some a' → cntL id b.elems ≤ cntL id a'.elems + d id)
    (hv : absA b = v) (hs : (∀ e, cfg.maintains e = true) → Sound b) :
    Ok cfg ⟨s.vars.set y b, n'⟩ (t.set y v) := by
  refine ⟨fun hM a ha => ?_, FreshIn.grow h.cnt hd hn fun id => wsum_set_le_of _ s.vars y b (d id) (hb id), ?_⟩
  · rcases List.mem_or_eq_of_mem_set (show a ∈ s.vars.set y b from ha) with h1 | rfl
    · exact h.hint hM a h1
    · exact hs hM
  · rw [← h.abs, ← hv]; simp [abs, List.map_set]

theorem xform_ok {cfg : Cfg} (hU : cfg.useHint = true → ∀ e, cfg.maintains e = true) {s : State} {t : List SVal}
    (h : Ok cfg s t) (F : Arr → Nat → Arr × Nat) (G : SVal → SVal) (x y : Nat)
    (hF : ∀ a, (cfg.useHint = true → Sound a) → Fact cfg x y a s.next (F a s.next) (G (absA a))) :
    Ok cfg (xform F s x y) (sxform G t x y) := by
  have ht := h.abs
  subst ht
  unfold xform sxform
  rw [abs_get]
  cases hx : s.vars[x]? with
  | none => exact h
  | some a =>
    have ha := List.mem_of_getElem? hx
    obtain ⟨hn, ⟨d, hd, hb⟩, hv, hs⟩ := hF a (fun hu => h.hint (hU hu) a ha)
    refine set_ok h y _ _ _ d hn hd (fun id a' ha' => Nat.le_trans (hb id) ?_) hv (fun hM => hs hM (h.hint hM a ha))
    split
    · next e => subst e; rw [hx] at ha'; cases ha'; exact Nat.le_refl _
    · omega

theorem cntL_sc (id : Nat) (l : List Elem) (h : ∀ e ∈ l, e.isSc = true) : cntL id l = 0 :=
  (wsum_eq_zero _ l).mpr fun e he => by
    cases e with
    | sc v => rfl
    | inner i c => exact absurd (h _ he) (by simp [Elem.isSc])

/-- what `build` makes of a literal's elements: the allocator grows, the identities are the ones allocated, the values are the literal's -/
theorem build_spec : ∀ (es : List LitE) (n : Nat),
    n ≤ (build es n).2 ∧ FreshIn (fun id => cntL id (build es n).1) n (build es n).2 ∧ (build es n).1.map absE = es.map ofLit
  | [], n => ⟨Nat.le_refl _, FreshIn.zero n n, rfl⟩
  | .sc v :: r, n => by
    obtain ⟨ih1, ih2, ih3⟩ := build_spec r n
    refine ⟨ih1, fun id => ?_, by simp [build, absE, ofLit, ih3]⟩
    simpa [build, cntL_cons, cntE] using ih2 id
  | .arr c :: r, n => by
    obtain ⟨ih1, ih2, ih3⟩ := build_spec r (n + 1)
    exact ⟨by simp only [build]; omega, (FreshIn.single n).add ih2 (Nat.le_succ n) ih1, by simp [build, absE, ofLit, ih3]⟩

/-- the literal that rebuilds an element: `freshen` is `build` of it (`freshen_eq_build`) -/
def toLit : Elem → LitE
  | .sc v => .sc v
  | .inner _ c => .arr c

theorem freshen_eq_build : ∀ (l : List Elem) (n : Nat), freshen l n = build (l.map toLit) n
  | [], _ => rfl
  | .sc v :: r, n => by simp [freshen, build, toLit, freshen_eq_build r n]
  | .inner i c :: r, n => by simp [freshen, build, toLit, freshen_eq_build r (n + 1)]

theorem freshen_abs (l : List Elem) (n : Nat) : (freshen l n).1.map absE = l.map absE := by
  rw [freshen_eq_build, (build_spec _ _).2.2, List.map_map]
  exact List.map_congr_left fun e _ => by cases e <;> rfl

theorem clone_fact (cfg : Cfg) (x y : Nat) (a : Arr) (n : Nat) (ha : cfg.useHint = true → Sound a) :
    Fact cfg x y a n (clone cfg a n) (id (absA a)) := by
  unfold clone
  split
  · next hc =>
    simp only [Bool.and_eq_true] at hc
    refine ⟨Nat.le_refl _, ⟨fun _ => 0, FreshIn.zero n n, fun id => ?_⟩, rfl, fun _ _ _ => ha hc.1 hc.2⟩
    show cntL id a.elems ≤ _
    rw [cntL_sc id a.elems (ha hc.1 hc.2)]; exact Nat.zero_le _
  · have hb := build_spec (a.elems.map toLit) n
    rw [← freshen_eq_build] at hb
    exact ⟨hb.1, ⟨_, hb.2.1, fun id => Nat.le_add_left _ _⟩, by simp [absA, freshen_abs],
      fun _ _ hh => by simpa [List.all_eq_true] using hh⟩

theorem mem_putAt {l : List Elem} {k : Nat} {e e' : Elem}
    (h : e' ∈ Model.Summary.putAt l k e) : e' ∈ l ∨ e' = e := by
  unfold Model.Summary.putAt at h
  split at h
  · exact List.mem_or_eq_of_mem_set h
  · simpa using h

theorem cntL_putAt_le (id : Nat) (l : List Elem) (k : Nat) (e : Elem) :
    cntL id (Model.Summary.putAt l k e) ≤ cntL id l + cntE id e := by
  unfold Model.Summary.putAt cntL
  split
  · exact wsum_set_le_of _ l k e _ (fun _ _ => Nat.le_add_left _ _)
  · simp [wsum_append, wsum]

theorem map_putAt (l : List Elem) (k : Nat) (e : Elem) :
    (Model.Summary.putAt l k e).map absE = Spec.SummaryVal.putAt (l.map absE) k (absE e) := by
  unfold Model.Summary.putAt Spec.SummaryVal.putAt
  rw [List.length_map]
  split
  · rw [List.map_set]
  · simp

def putF (cfg : Cfg) (e : Editor) (k : Nat) (v : LitE) (a : Arr) (n : Nat) : Arr × Nat :=
  match v with
  | .sc m => (⟨a.hint, Model.Summary.putAt a.elems k (.sc m)⟩, n)
  | .arr c => (⟨if cfg.maintains e then false else a.hint, Model.Summary.putAt a.elems k (.inner n c)⟩, n + 1)

theorem put_fact (cfg : Cfg) (e : Editor) (k : Nat) (v : LitE) (x : Nat) (a : Arr) (n : Nat) :
    Fact cfg x x a n (putF cfg e k v a n) (Spec.SummaryVal.putAt (absA a) k (ofLit v)) := by
  cases v with
  | sc m =>
    refine ⟨Nat.le_refl _, ⟨fun _ => 0, FreshIn.zero n n, fun id => ?_⟩, map_putAt _ _ _, fun _ ha hh e' he' => ?_⟩
    · rw [if_pos rfl]; exact cntL_putAt_le id a.elems k (.sc m)
    · rcases mem_putAt he' with h1 | rfl
      · exact ha hh e' h1
      · rfl
  | arr c =>
    refine ⟨Nat.le_succ n, ⟨_, FreshIn.single n, fun id => ?_⟩, map_putAt _ _ _, fun hM _ hh => ?_⟩
    · rw [if_pos rfl]; exact cntL_putAt_le id a.elems k (.inner n c)
    · simp [putF, hM e] at hh

theorem del_fact (cfg : Cfg) (k x : Nat) (a : Arr) (n : Nat) :
    Fact cfg x x a n (⟨a.hint, a.elems.eraseIdx k⟩, n) ((absA a).eraseIdx k) :=
  ⟨Nat.le_refl _, ⟨fun _ => 0, FreshIn.zero n n, fun id => by
      rw [if_pos rfl]; exact wsum_sublist_le _ (List.eraseIdx_sublist a.elems k)⟩,
    Proofs.Heap.map_eraseIdx _ _ _, fun _ ha hh e' he' => ha hh e' (List.mem_of_mem_eraseIdx he')⟩

theorem poke_id_E (id j n : Nat) (e : Elem) (h : cntE id e = 0) : Elem.poke id j n e = e := by
  cases e with
  | sc v => rfl
  | inner i c =>
    simp only [cntE] at h
    by_cases hi : i = id
    · simp [hi] at h
    · simp [Elem.poke, hi]

theorem poke_id_A (id j n : Nat) (a : Arr) (h : cntL id a.elems = 0) : Arr.poke id j n a = a := by
  unfold Arr.poke
  rw [map_eq_self_of_wsum _ _ (poke_id_E id j n) a.elems h]

theorem poke_S (id j n : Nat) (c : List Nat) (a : Arr) (k : Nat) (hk : a.elems[k]? = some (.inner id c))
    (vars : List Arr) (x : Nat) (hx : vars[x]? = some a) (hc : cntS id vars ≤ 1) :
    vars.map (Arr.poke id j n) = vars.set x ⟨a.hint, a.elems.set k (.inner id (c.set j n))⟩ := by
  have h1 : cntE id (.inner id c) ≤ cntL id a.elems := wsum_ge_get (cntE id) a.elems k _ hk
  have h2 : cntL id a.elems ≤ cntS id vars := wsum_ge_get (fun a => cntL id a.elems) vars x a hx
  have h3 : cntE id (.inner id c) = 1 := by simp [cntE]
  rw [map_eq_set_of_wsum _ _ (poke_id_A id j n) vars x a hx (by unfold cntS at hc h2; omega), Arr.poke,
    map_eq_set_of_wsum _ _ (poke_id_E id j n) a.elems k _ hk (by unfold cntL at h1 h2; omega)]
  simp [Elem.poke]

/-- `$x[k][j] = n` on the array `a` of `x` alone -/
def pokeF (k j n : Nat) (a : Arr) (m : Nat) : Arr × Nat :=
  match a.elems[k]? with
  | some (.inner id c) => (⟨a.hint, a.elems.set k (.inner id (c.set j n))⟩, m)
  | _ => (a, m)

theorem poke_fact (cfg : Cfg) (k j n x : Nat) (a : Arr) (m : Nat) :
    Fact cfg x x a m (pokeF k j n a m) (pokeAt (absA a) k j n) := by
  -- a scalar or nothing at `k`: neither side changes anything
  have same : pokeAt (absA a) k j n = absA a → Fact cfg x x a m (a, m) (pokeAt (absA a) k j n) := fun hp =>
    ⟨Nat.le_refl _, ⟨fun _ => 0, FreshIn.zero m m, fun id => by rw [if_pos rfl]; exact Nat.le_refl _⟩, hp.symm, fun _ ha => ha⟩
  unfold pokeF
  cases hk : a.elems[k]? with
  | none => exact same (by simp only [pokeAt, absA, List.getElem?_map, hk, Option.map_none])
  | some el =>
    cases el with
    | sc v => exact same (by simp only [pokeAt, absA, List.getElem?_map, hk, Option.map_some, absE])
    | inner id c =>
      refine ⟨Nat.le_refl _, ⟨fun _ => 0, FreshIn.zero m m, fun id' => ?_⟩, ?_, fun _ ha hh => ?_⟩
      · rw [if_pos rfl]
        exact wsum_set_le_of _ a.elems k _ 0 fun old ho => by rw [hk] at ho; cases ho; exact Nat.le_refl _
      · simp [pokeAt, absA, hk, absE, List.map_set]
      · cases ha hh _ (List.mem_of_getElem? hk)

theorem step_copy (cfg : Cfg) (s : State) (x y : Nat) :
    Model.Summary.step cfg s (.copy x y) = xform (clone cfg) s x y := rfl

theorem step_put (cfg : Cfg) (s : State) (e : Editor) (x k : Nat) (v : LitE) :
    Model.Summary.step cfg s (.put e x k v) = xform (putF cfg e k v) s x x := by
  simp only [Model.Summary.step, xform]
  cases s.vars[x]? with
  | none => rfl
  | some a => cases v <;> rfl

theorem step_del (cfg : Cfg) (s : State) (x k : Nat) :
    Model.Summary.step cfg s (.del x k) = xform (fun a n => (⟨a.hint, a.elems.eraseIdx k⟩, n)) s x x := rfl

theorem step_wr {cfg : Cfg} {s : State} {t : List SVal} (h : Ok cfg s t) (x k j n : Nat) :
    Model.Summary.step cfg s (.wr x k j n) = xform (pokeF k j n) s x x := by
  simp only [Model.Summary.step, xform, pokeF]
  cases hx : s.vars[x]? with
  | none => rfl
  | some a =>
    dsimp only
    cases hk : a.elems[k]? with
    | none => simp only [list_set_same _ _ _ hx]
    | some el =>
      cases el with
      | sc v => simp only [list_set_same _ _ _ hx]
      | inner id c => simp only [poke_S id j n c a k hk s.vars x hx (h.cnt id).1]

theorem step_ok {cfg : Cfg} (hU : cfg.useHint = true → ∀ e, cfg.maintains e = true) (s : State) (t : List SVal)
    (op : Op) (h : Ok cfg s t) : Ok cfg (Model.Summary.step cfg s op) (Spec.SummaryVal.step t op) := by
  cases op with
  | lit x es =>
    obtain ⟨hn, hd, hv⟩ := build_spec es s.next
    exact set_ok h x ⟨false, (build es s.next).1⟩ _ _ _ hn hd (fun id a _ => Nat.le_add_left _ _) hv (fun _ hh => by cases hh)
  | copy x y =>
    rw [step_copy]
    exact xform_ok hU h (clone cfg) id x y (fun a ha => clone_fact cfg x y a s.next ha)
  | put e x k v =>
    rw [step_put]
    exact xform_ok hU h _ (fun a => Spec.SummaryVal.putAt a k (ofLit v)) x x (fun a _ => put_fact cfg e k v x a s.next)
  | del x k =>
    rw [step_del]
    exact xform_ok hU h _ (fun a => a.eraseIdx k) x x (fun a _ => del_fact cfg k x a s.next)
  | wr x k j n =>
    rw [step_wr h]
    exact xform_ok hU h _ (fun a => pokeAt a k j n) x x (fun a _ => poke_fact cfg k j n x a s.next)

theorem ok_init (cfg : Cfg) (nv : Nat) : Ok cfg (init nv) (List.replicate nv []) := by
  have h0 : (fun id => cntS id (init nv).vars) = fun _ => 0 := funext fun id => wsum_replicate _ nv _ rfl
  refine ⟨fun _ a ha hh => ?_, by rw [h0]; exact FreshIn.zero 0 0, by simp [abs, init, absA]⟩
  have := (List.mem_replicate.1 (show a ∈ List.replicate nv (⟨false, []⟩ : Arr) from ha)).2
  subst this; cases hh

theorem run_ok (cfg : Cfg) (hU : cfg.useHint = true → ∀ e, cfg.maintains e = true) (nv : Nat) (p : List Op) :
    Ok cfg (run cfg nv p) (Spec.SummaryVal.run nv p) := by
  unfold Model.Summary.run Spec.SummaryVal.run
  exact List.foldl_rel (ok_init cfg nv) fun op _ s t => step_ok hU s t op

theorem sim (cfg : Cfg) (h : cfg.useHint = true → ∀ e, cfg.maintains e = true) (nv : Nat) (p : List Op) :
    abs (run cfg nv p) = Spec.SummaryVal.run nv p := (run_ok cfg h nv p).abs

theorem stale_leaks (cfg : Cfg) (hu : cfg.useHint = true) (e : Editor) (he : cfg.maintains e = false) :
    abs (run cfg 3 (witness e)) ≠ Spec.SummaryVal.run 3 (witness e) := by
  have h1 : abs (run cfg 3 (witness e))
      = [[.sc 1, .sc 2], [.sc 1, .sc 2, .arr [99, 20]], [.sc 1, .sc 2, .arr [99, 20]]] := by
    simp [witness, Model.Summary.run, init, Model.Summary.step, clone, build, freshen,
      Model.Summary.putAt, hu, he, abs, absA, absE, Arr.poke, Elem.poke, Elem.isSc, List.replicate]
  have h2 : Spec.SummaryVal.run 3 (witness e)
      = [[.sc 1, .sc 2], [.sc 1, .sc 2, .arr [10, 20]], [.sc 1, .sc 2, .arr [99, 20]]] := by
    simp [witness, Spec.SummaryVal.run, Spec.SummaryVal.step, Spec.SummaryVal.putAt, pokeAt, ofLit,
      List.replicate]
  rw [h1, h2]
  decide

end Proofs.Lemmas.Summary
