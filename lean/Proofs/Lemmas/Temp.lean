import Model.Temp
import Spec.Temp
/-! C12. `Local v O`: an operation invoked on VM `v` stays inside `v` and adds to `v`'s own
maps at most the offers `O`. It is proved once along the call tree of `Model.Temp.step`; isolation,
"the base never touches a TempVM" and the bookkeeping invariant (`inv_step`) are read off it.
`Quiet v` is the special case of the moves that change no definition map at all (parser binding,
the shared-by-design part of the base): the leaves of that walk, and the routes that define nothing. -/
namespace Proofs.Temp
open Model.Temp Spec.Temp

/-- free: TempVM `i`'s local state and the shared-by-design part of the base (file cache, throw counter) -/
structure Frame (i : Nat) (w w' : World) : Prop where
  classes : w'.base.classes = w.base.classes
  ifaces : w'.base.ifaces = w.base.ifaces
  funcs : w'.base.funcs = w.base.funcs
  others : ∀ j, j ≠ i → w'.temps j = w.temps j

/-- no step of the run is `leaky` in the world it is taken in -/
def noLeak (d : Disk) : World → List Op → Bool
  | _, [] => true
  | w, op :: ops => !(leaky d w op) && noLeak d (step d w op).1 ops

abbrev NoLeak (d : Disk) (w : World) (ops : List Op) : Prop := noLeak d w ops = true

def tblOf (w : World) : VMId → Kind → Tbl
  | .base, .cls => w.base.classes
  | .base, .ifc => w.base.ifaces
  | .base, .fn => w.base.funcs
  | .temp i, .cls => (w.temps i).classes
  | .temp i, .ifc => (w.temps i).ifaces
  | .temp i, .fn => (w.temps i).funcs

def Has (w : World) (v : VMId) (k : Kind) (n : Name) : Prop := ∃ s, (n, s) ∈ tblOf w v k

def SameTbl (v : VMId) (w w' : World) : Prop := ∀ k, tblOf w' v k = tblOf w v k

theorem SameTbl.refl (v : VMId) (w : World) : SameTbl v w w := fun _ => rfl

theorem SameTbl.trans {v : VMId} {a b c : World} (h₁ : SameTbl v a b) (h₂ : SameTbl v b c) :
    SameTbl v a c := fun k => (h₂ k).trans (h₁ k)

theorem SameTbl.has {v : VMId} {w w' : World} (h : SameTbl v w w') {k : Kind} {n : Name}
    (hh : Has w' v k n) : Has w v k n := by
  unfold Has at hh ⊢
  rwa [h k] at hh

theorem SameTbl.of_temps {j : Nat} {w w' : World} (h : w'.temps j = w.temps j) :
    SameTbl (.temp j) w w' := fun k => by cases k <;> simp only [tblOf, h]

theorem addDef_temp_ok (i : Nat) (w : World) (k : Kind) (n : Name) (s : Src) :
    (addDef w (.temp i) k n s).2 = true := rfl

theorem temps_setBase (w : World) (b : Base) : (w.setBase b).temps = w.temps := rfl

theorem temps_addDef_base (w : World) (k : Kind) (n : Name) (s : Src) :
    (addDef w .base k n s).1.temps = w.temps := rfl

theorem temps_setTemp_self (w : World) (i : Nat) (t : Temp) : (w.setTemp i t).temps i = t :=
  if_pos rfl

theorem addDef_temp (w : World) (i : Nat) (k : Kind) (n : Name) (s : Src) :
    (addDef w (.temp i) k n s).1.temps i = (w.temps i).add k n s := temps_setTemp_self ..

theorem temps_setTemp_ne (w : World) {i j : Nat} (t : Temp) (h : j ≠ i) :
    (w.setTemp i t).temps j = w.temps j := if_neg h

/-- the script routes that define nothing: `spl_autoload_register`, `define()`, `class_alias`, anonymous classes / closures -/
def Op.inertRoute : Op → Bool
  | .autoReg _ _ | .define _ _ | .alias _ _ _ | .inert _ => true
  | _ => false

structure Quiet (v : VMId) (w w' : World) : Prop where
  temps : ∀ j, .temp j ≠ v → w'.temps j = w.temps j
  same : ∀ u, SameTbl u w w'

section
variable {v : VMId} {w w' : World}

theorem Quiet.trans {a b c : World} (h₁ : Quiet v a b) (h₂ : Quiet v b c) : Quiet v a c :=
  ⟨fun j hj => (h₂.temps j hj).trans (h₁.temps j hj), fun u => (h₁.same u).trans (h₂.same u)⟩

theorem quiet_setBase (w : World) (b : Base) (hc : b.classes = w.base.classes)
    (hi : b.ifaces = w.base.ifaces) (hf : b.funcs = w.base.funcs) : Quiet v w (w.setBase b) :=
  ⟨fun _ _ => rfl, fun u k => by cases u <;> cases k <;> first | rfl | assumption⟩

theorem quiet_throwControl (w : World) : Quiet v w (throwControl w) :=
  quiet_setBase w _ rfl rfl rfl

theorem quiet_bindParser (w : World) (v : VMId) : Quiet v w (bindParser w v) := by
  cases v with
  | base => exact ⟨fun _ _ => rfl, fun u => .refl u w⟩
  | temp i =>
    refine ⟨fun j hj => temps_setTemp_ne w _ fun e => hj (congrArg _ e), fun u => ?_⟩
    cases u with
    | base => intro k; cases k <;> rfl
    | temp j =>
      by_cases h : j = i
      · subst h
        intro k
        cases k <;> simp only [tblOf, bindParser, temps_setTemp_self]
      · exact .of_temps (temps_setTemp_ne w _ h)

theorem quiet_inert (d : Disk) (w : World) (op : Op) (h : Op.inertRoute op = true) :
    Quiet op.via w (step d w op).1 := by
  cases op with
  | autoReg v cb => exact (quiet_bindParser w v).trans (quiet_setBase _ _ rfl rfl rfl)
  | define v c =>
    show Quiet v w (scriptDefine w v c)
    unfold scriptDefine
    dsimp only
    split
    · exact (quiet_bindParser w v).trans (quiet_throwControl _)
    · exact (quiet_bindParser w v).trans (quiet_setBase _ _ rfl rfl rfl)
  | alias v a b => exact quiet_bindParser w v
  | inert v => exact quiet_bindParser w v
  | _ => cases h

end

theorem tblOf_discard (w : World) (i : Nat) (k : Kind) : tblOf (w.setTemp i {}) (.temp i) k = [] := by
  cases k <;> simp only [tblOf, temps_setTemp_self]

theorem not_has_discard (w : World) (i : Nat) (k : Kind) (n : Name) :
    ¬ Has (w.setTemp i {}) (.temp i) k n := by
  rintro ⟨s, hs⟩
  rw [tblOf_discard] at hs
  cases hs

structure Local (v : VMId) (O : List (Kind × Name)) (w w' : World) : Prop where
  temps : ∀ j, .temp j ≠ v → w'.temps j = w.temps j
  base : v ≠ .base → SameTbl .base w w'
  grows : ∀ k n, Has w' v k n → Has w v k n ∨ (k, n) ∈ O

section
variable {v : VMId} {O : List (Kind × Name)}

theorem Local.refl (w : World) : Local v O w w :=
  ⟨fun _ _ => rfl, fun _ _ => rfl, fun _ _ h => Or.inl h⟩

theorem Local.trans {a b c : World} (h₁ : Local v O a b) (h₂ : Local v O b c) : Local v O a c :=
  ⟨fun j hj => (h₂.temps j hj).trans (h₁.temps j hj),
   fun hv k => (h₂.base hv k).trans (h₁.base hv k),
   fun k n h => (h₂.grows k n h).elim (h₁.grows k n) Or.inr⟩

theorem Quiet.local {w w' : World} (h : Quiet v w w') : Local v O w w' :=
  ⟨h.temps, fun _ => h.same .base, fun _ _ hh => Or.inl ((h.same v).has hh)⟩

theorem Local.others {w w' : World} (h : Local v O w w') {u : VMId} (hu : u ≠ v) : SameTbl u w w' := by
  cases u with
  | base => exact h.base hu.symm
  | temp j => exact .of_temps (h.temps j hu)

theorem Local.frame {i : Nat} {w w' : World} (h : Local (.temp i) O w w') : Frame i w w' :=
  have hb := h.base nofun
  ⟨hb .cls, hb .ifc, hb .fn, fun j hj => h.temps j fun e => hj (VMId.temp.inj e)⟩

theorem Local.throw {w w' : World} (h : Local v O w w') : Local v O w (throwControl w') :=
  h.trans (quiet_throwControl w').local

theorem local_setTemp (w : World) (i : Nat) (t : Temp)
    (hg : ∀ k n, Has (w.setTemp i t) (.temp i) k n → Has w (.temp i) k n ∨ (k, n) ∈ O) :
    Local (.temp i) O w (w.setTemp i t) :=
  ⟨fun _ hj => temps_setTemp_ne w t fun e => hj (congrArg _ e), fun _ k => by cases k <;> rfl, hg⟩

theorem tblOf_addDef (w : World) (v : VMId) (k : Kind) (n : Name) (s : Src) (k' : Kind) :
    tblOf (addDef w v k n s).1 v k' = tblOf w v k' ∨
    (k' = k ∧ tblOf (addDef w v k n s).1 v k' = (n, s) :: tblOf w v k') := by
  cases v with
  | base =>
    -- each `Base.addX` returns the base unchanged (duplicate) or with the entry in front of its map
    cases k <;> unfold addDef Base.add <;> dsimp only
    · unfold Base.addClass
      split
      · exact Or.inl rfl
      · split
        · exact Or.inl rfl
        · cases k' <;> first | exact Or.inr ⟨rfl, rfl⟩ | exact Or.inl rfl
    · unfold Base.addInterface
      split
      · exact Or.inl rfl
      · split
        · exact Or.inl rfl
        · cases k' <;> first | exact Or.inr ⟨rfl, rfl⟩ | exact Or.inl rfl
    · unfold Base.addFunc
      split
      · exact Or.inl rfl
      · cases k' <;> first | exact Or.inr ⟨rfl, rfl⟩ | exact Or.inl rfl
  | temp i =>
    cases k <;> cases k' <;> dsimp only [tblOf] <;> rw [addDef_temp] <;>
      first | exact Or.inr ⟨rfl, rfl⟩ | exact Or.inl rfl

theorem local_addDef (w : World) (v : VMId) (k : Kind) (n : Name) (s : Src) (hO : (k, n) ∈ O) :
    Local v O w (addDef w v k n s).1 := by
  have hg : ∀ k' n', Has (addDef w v k n s).1 v k' n' → Has w v k' n' ∨ (k', n') ∈ O := by
    rintro k' n' ⟨s', hs⟩
    rcases tblOf_addDef w v k n s k' with e | ⟨rfl, e⟩ <;> rw [e] at hs
    · exact Or.inl ⟨s', hs⟩
    · rcases List.mem_cons.mp hs with e | hs
      · cases e; exact Or.inr hO
      · exact Or.inl ⟨s', hs⟩
  cases v with
  | base => exact ⟨fun _ _ => rfl, fun h => absurd rfl h, hg⟩
  | temp i => exact local_setTemp w i _ hg

/- Each `local_f` follows the definition of `f`: an arm that returns the world it was given is
`.refl w`, an arm that goes on is the callee's lemma, composed by `.trans`; `.throw` adds the throw
counter. -/
theorem local_parsePhase (v : VMId) (s : Src) (ds : List Decl)
    (hO : ∀ dc ∈ ds, (dc.kind, dc.name) ∈ O) : ∀ w, Local v O w (parsePhase v s w ds).1 := by
  induction ds with
  | nil => exact Local.refl
  | cons dc ds ih =>
    intro w
    have ih := ih fun x hx => hO x (List.mem_cons_of_mem _ hx)
    have h1 := local_addDef w v dc.kind dc.name s (hO dc List.mem_cons_self)
    unfold parsePhase
    split
    · exact ih w
    · dsimp only
      split
      · exact h1.trans (ih _)
      · exact h1

theorem local_runPhase (v : VMId) (s : Src) (ds : List Decl)
    (hO : ∀ dc ∈ ds, (dc.kind, dc.name) ∈ O) : ∀ w, Local v O w (runPhase v s w ds) := by
  induction ds with
  | nil => exact Local.refl
  | cons dc ds ih =>
    intro w
    have ih := ih fun x hx => hO x (List.mem_cons_of_mem _ hx)
    unfold runPhase
    split
    · rename_i hk
      have h1 := local_addDef w v .fn dc.name s (hk ▸ hO dc List.mem_cons_self)
      dsimp only
      split
      · exact h1.trans (ih _)
      · exact h1.throw
    · exact ih w

theorem mem_declsOf {d : Disk} {f : File} {ds : List Decl} (h : d.content f = some ds) {dc : Decl}
    (hm : dc ∈ ds) : (dc.kind, dc.name) ∈ declsOf d f := by
  simp only [declsOf, h]
  exact List.mem_map_of_mem hm

theorem local_parseAndRun (d : Disk) (w : World) (v : VMId) (f : File)
    (hO : declsOf d f ⊆ O) : Local v O w (parseAndRun d w v f).1 := by
  unfold parseAndRun
  split
  · exact .refl w
  · rename_i ds hc
    have hds : ∀ dc ∈ ds, (dc.kind, dc.name) ∈ O := fun dc hm => hO (mem_declsOf hc hm)
    have h1 := local_parsePhase v (.file f) ds hds w
    dsimp only
    split
    · exact h1.trans (local_runPhase v (.file f) ds hds _)
    · exact h1

theorem local_loadAndRun (d : Disk) (w : World) (v : VMId) (f : File)
    (hO : declsOf d f ⊆ O) : Local v O w (loadAndRun d w v f).1 := by
  unfold loadAndRun
  split
  · exact .refl w
  · have hc : Quiet v w (cacheAdd w f) := quiet_setBase w _ rfl rfl rfl
    exact (hc.trans (quiet_bindParser _ v)).local.trans (local_parseAndRun d _ v f hO)

theorem local_includeFile (d : Disk) (w : World) (v : VMId) (f : File)
    (hO : declsOf d f ⊆ O) : Local v O w (includeFile d w v f).1 := by
  unfold includeFile
  split
  · exact .refl w
  · split
    · exact .refl w
    · exact local_loadAndRun d w v f hO

theorem cbFile_offers {d : Disk} {cb : Nat} {n : Name} {f : File} (h : cbFile d cb n = some f)
    (hn : d.find n = none) : declsOf d f ⊆ autoOffers d n := by
  intro x hx
  unfold cbFile at h
  split at h
  · rename_i a ha
    simp only [autoOffers, hn, List.mem_flatMap]
    exact ⟨a, List.mem_of_getElem? ha, by rw [h]; exact hx⟩
  · cases h

theorem local_callAutoLoad (d : Disk) (v : VMId) (n : Name) (hn : d.find n = none)
    (hO : autoOffers d n ⊆ O) (cbs : List Nat) :
    ∀ w, Local v O w (callAutoLoad d v n w cbs).1 := by
  induction cbs with
  | nil => exact Local.refl
  | cons cb cbs ih =>
    intro w
    have h1 : Local v O w (runCallback d w v cb n).1 := by
      unfold runCallback
      split
      · exact local_includeFile d w v _ ((cbFile_offers ‹_› hn).trans hO)
      · exact .refl w
    unfold callAutoLoad
    dsimp only
    split
    · exact h1
    · split
      · exact h1
      · exact h1.trans (ih _)

theorem local_loadClass (d : Disk) (w : World) (v : VMId) (n : Name)
    (hO : autoOffers d n ⊆ O) : Local v O w (loadClass d w v n).1 := by
  unfold loadClass
  split
  · exact local_callAutoLoad d v n ‹_› hO _ w
  · rename_i f hf
    have h := local_loadAndRun d w v f fun _ hx => hO (by simpa only [autoOffers, hf] using hx)
    dsimp only
    split
    · exact .refl w
    · split <;> exact h

theorem local_getOrLoadClassOn (d : Disk) (w : World) (v : VMId) (n : Name)
    (hO : autoOffers d n ⊆ O) : Local v O w (getOrLoadClassOn d w v n).1 := by
  have h := local_loadClass d w v n hO
  cases v with
  | base =>
    show Local _ _ w (baseGetOrLoadClass d w n).1
    unfold baseGetOrLoadClass
    split
    · exact .refl w
    · dsimp only; split <;> exact h
  | temp i =>
    show Local _ _ w (tempGetOrLoadClass d w i n).1
    unfold tempGetOrLoadClass
    split
    · exact .refl w
    · split
      · exact .refl w
      · split
        · exact .refl w
        · dsimp only; split <;> exact h

theorem loadClass_noop {d : Disk} {w : World} {n : Name} (h : canAutoload d w n = false) (v : VMId) :
    loadClass d w v n = (w, false) := by
  simp only [canAutoload, Bool.or_eq_false_iff, Option.isSome_eq_false_iff, Option.isNone_iff_eq_none,
    Bool.not_eq_false', List.isEmpty_iff] at h
  unfold loadClass
  rw [h.1, h.2]
  rfl

theorem tempGetOrLoadInterface_noleak (d : Disk) (w : World) (i : Nat) (n : Name)
    (hl : leaky d w (.getOrLoadInterface (.temp i) n) = false) :
    (tempGetOrLoadInterface d w i n).1 = w := by
  unfold tempGetOrLoadInterface
  split
  · rfl
  · rename_i hloc
    unfold baseGetOrLoadInterface
    split
    · rfl
    · rename_i hbase
      -- once neither the TempVM (`hloc`) nor the base (`hbase`) has the name, `leaky` IS `canAutoload`,
      -- so `hl` makes the base's `loadClass` a no-op (the same step in `tempLoadPkg_noleak`)
      rw [loadClass_noop (by simpa [leaky, hloc, hbase] using hl)]
      rfl

theorem tempLoadPkg_noleak (d : Disk) (w : World) (i : Nat) (n : Name)
    (hl : leaky d w (.loadPkg (.temp i) n) = false) :
    (tempLoadPkg d w i n).1 = w := by
  unfold tempLoadPkg
  split
  · rfl
  · rename_i hloc
    unfold baseLoadPkg
    split
    · rfl
    · rename_i hbase
      rw [loadClass_noop (by simpa [leaky, hloc, hbase] using hl)]
      rfl

theorem local_scriptEval (d : Disk) (w : World) (v : VMId) (u : File) (id : Nat)
    (hO : declsOf d u ⊆ O) : Local v O w (scriptEval d w v u id) := by
  have hb : Local v O w (bindParser w v) := (quiet_bindParser w v).local
  unfold scriptEval
  cases v with
  | temp i => exact hb.throw
  | base =>
    dsimp only
    split
    · exact hb
    · rename_i ds hc
      have hds : ∀ dc ∈ ds, (dc.kind, dc.name) ∈ O := fun dc hm => hO (mem_declsOf hc hm)
      have h1 := hb.trans (local_parsePhase .base (.stub id) ds hds _)
      split
      · exact h1.trans (local_runPhase .base (.stub id) ds hds _)
      · exact h1.throw

theorem local_scriptInclude (d : Disk) (w : World) (v : VMId) (f : File) (req : Bool)
    (hO : declsOf d f ⊆ O) : Local v O w (scriptInclude d w v f req) := by
  have h := (quiet_bindParser w v).local.trans (local_includeFile d (bindParser w v) v f hO)
  unfold scriptInclude
  dsimp only
  split
  · exact h
  · exact h.throw
  · split
    · exact h.throw
    · exact h

theorem local_scriptRunFn (w : World) (v : VMId) (n : Name) (id : Nat) (hO : (Kind.fn, n) ∈ O) :
    Local v O w (scriptRunFn w v n id) := by
  have h := (quiet_bindParser w v).local.trans (local_addDef (bindParser w v) v .fn n (.stub id) hO)
  unfold scriptRunFn
  dsimp only
  split
  · exact h
  · exact h.throw

theorem local_scriptUse (d : Disk) (w : World) (v : VMId) (n : Name) (pt : Bool)
    (hO : autoOffers d n ⊆ O) : Local v O w (scriptUse d w v n pt).1 := by
  have h := (quiet_bindParser w v).local.trans (local_getOrLoadClassOn d (bindParser w v) v n hO)
  unfold scriptUse
  dsimp only
  split
  · exact h
  · split
    · exact h
    · exact h.throw

theorem local_step (d : Disk) (w : World) (op : Op) (hl : leaky d w op = false) :
    Local op.via (offers d op) w (step d w op).1 := by
  -- `hl` is needed on the two routes of a TempVM that fall through to the BASE's loader
  -- (`getOrLoadInterface`, `loadPkg`); there it makes the call a no-op (`loadClass_noop`)
  have hsub := List.Subset.refl (offers d op)
  cases op with
  | add v k n id => exact local_addDef w v k n _ List.mem_cons_self
  | loadAndRun v f => exact local_loadAndRun d w v f hsub
  | parseFile v f => exact (quiet_bindParser w v).local.trans (local_parseAndRun d _ v f hsub)
  | getOrLoadClass v n => cases v <;> exact local_getOrLoadClassOn d w _ n hsub
  | getOrLoadInterface v n =>
    cases v with
    | base =>
      show Local _ _ w (baseGetOrLoadInterface d w n).1
      unfold baseGetOrLoadInterface
      split
      · exact .refl w
      · dsimp only; split <;> exact local_loadClass d w .base n hsub
    | temp i =>
      show Local _ _ w (tempGetOrLoadInterface d w i n).1
      rw [tempGetOrLoadInterface_noleak d w i n hl]; exact .refl w
  | loadPkg v n =>
    cases v with
    | base =>
      show Local _ _ w (baseLoadPkg d w n).1
      unfold baseLoadPkg
      split
      · exact .refl w
      · dsimp only; split <;> exact local_loadClass d w .base n hsub
    | temp i =>
      show Local _ _ w (tempLoadPkg d w i n).1
      rw [tempLoadPkg_noleak d w i n hl]; exact .refl w
  | discard i =>
    exact local_setTemp w i {} fun k n h => absurd h (not_has_discard w i k n)
  | evalCode v u id => exact local_scriptEval d w v u id hsub
  | incl v f req => exact local_scriptInclude d w v f req hsub
  | runFn v n id => exact local_scriptRunFn w v n id List.mem_cons_self
  | autoReg v cb => exact (quiet_inert d w _ rfl).local
  | useClass v n pt => exact local_scriptUse d w v n pt hsub
  | define v c => exact (quiet_inert d w _ rfl).local
  | alias v a b => exact (quiet_inert d w _ rfl).local
  | inert v => exact (quiet_inert d w _ rfl).local

end

theorem run_snoc (d : Disk) (ops : List Op) (op : Op) :
    run d (ops ++ [op]) = (step d (run d ops) op).1 := by
  simp only [run, List.foldl_append, List.foldl_cons, List.foldl_nil]

theorem resolve_base_congr (d : Disk) {w w' : World} {k : Kind}
    (h : tblOf w' .base k = tblOf w .base k) (n : Name) :
    resolve d w' .base k n = resolve d w .base k n := by
  cases k <;> simp only [tblOf] at h <;>
    simp only [resolve, getClass, getInterface, getFunc, Base.getClass, Base.getInterface, Base.getFunc, h]

theorem resolve_temp (d : Disk) (w : World) (i : Nat) (k : Kind) (n : Name) :
    resolve d w (.temp i) k n =
      if k = .fn then ((tblOf w (.temp i) k).lookup n).or (resolve d w .base k n)
      else (resolve d w .base k n).or ((tblOf w (.temp i) k).lookup n) := by
  cases k
  · rw [if_neg Kind.noConfusion]
    simp only [resolve, getClass, tblOf]
    cases w.base.getClass d.fold n <;> rfl
  · rw [if_neg Kind.noConfusion]
    simp only [resolve, getInterface, tblOf]
    cases w.base.getInterface n <;> rfl
  · rw [if_pos rfl]
    simp only [resolve, getFunc, tblOf]
    cases (w.temps i).funcs.lookup n <;> rfl

theorem resolve_congr (d : Disk) {w w' : World} {v : VMId} (hb : SameTbl .base w w')
    (hv : SameTbl v w w') : resolve d w' v = resolve d w v := by
  funext k n
  cases v with
  | base => exact resolve_base_congr d (hb k) n
  | temp j => rw [resolve_temp, resolve_temp, hv k, resolve_base_congr d (hb k) n]

theorem Quiet.resolve (d : Disk) {v : VMId} {w w' : World} (h : Quiet v w w') :
    resolve d w' = resolve d w :=
  funext fun u => resolve_congr d (h.same .base) (h.same u)

/-- every entry of every VM's own maps was offered through that VM -/
def Inv (S : VMId → List (Kind × Name)) (w : World) : Prop :=
  ∀ v k n, Has w v k n → (k, n) ∈ S v

theorem inv_step (d : Disk) (S : VMId → List (Kind × Name)) (w : World) (op : Op)
    (hi : Inv S w) (hl : leaky d w op = false) :
    Inv (fun v => offeredStep d v (S v) op) (step d w op).1 := by
  intro u k n h
  have hloc := local_step d w op hl
  show (k, n) ∈ offeredStep d u (S u) op
  -- `offeredStep`: a discard empties that TempVM's offers, any other operation adds `offers d op`
  -- to the VM it runs on
  unfold offeredStep
  split
  · rename_i i
    split
    · subst u
      exact absurd h (not_has_discard w i k n)
    · exact hi u k n ((hloc.others ‹_›).has h)
  · split
    · subst u
      exact (hloc.grows k n h).elim (fun h => List.mem_append_right _ (hi _ k n h))
        (List.mem_append_left _)
    · exact hi u k n ((hloc.others (Ne.symm ‹_›)).has h)

theorem inv_foldl (d : Disk) (ops : List Op) :
    ∀ (S : VMId → List (Kind × Name)) (w : World), Inv S w → NoLeak d w ops →
      Inv (fun v => ops.foldl (offeredStep d v) (S v)) (ops.foldl (fun w op => (step d w op).1) w) := by
  induction ops with
  | nil => intro S w hi _; exact hi
  | cons op ops ih =>
    intro S w hi hn
    simp only [NoLeak, noLeak, Bool.and_eq_true, Bool.not_eq_true'] at hn
    exact ih (fun v => offeredStep d v (S v) op) _ (inv_step d S w op hi hn.1) hn.2

theorem inv_init : Inv (fun _ => []) {} := by
  rintro v k n ⟨s, hs⟩
  cases v <;> cases k <;> cases hs

theorem has_of_lookup {w : World} {v : VMId} {k : Kind} {n : Name}
    (h : ((tblOf w v k).lookup n).isSome) : Has w v k n := by
  obtain ⟨⟨n', s⟩, hm, he⟩ := List.lookup_isSome_iff.mp h
  exact ⟨s, by rwa [eq_of_beq he]⟩

theorem foldFind_mem {fold : Name → Name} {t : Tbl} {n : Name} {s : Src}
    (h : t.foldFind fold n = some s) : ∃ n', (n', s) ∈ t ∧ fold n' = fold n := by
  obtain ⟨e, hf, rfl⟩ := Option.map_eq_some_iff.mp h
  exact ⟨e.1, List.mem_of_find?_eq_some hf, by simpa using List.find?_some hf⟩

theorem base_covers (d : Disk) (S : VMId → List (Kind × Name)) (w : World) (hi : Inv S w)
    (k : Kind) (n : Name) (h : (resolve d w .base k n).isSome) : Covers d.fold (S .base) k n := by
  cases k
  · simp only [resolve, getClass, Base.getClass] at h
    cases hl : w.base.classes.lookup n with
    | some s => exact ⟨n, hi .base .cls n (has_of_lookup (by rw [tblOf, hl]; rfl)), Or.inl rfl⟩
    | none =>
      rw [hl] at h
      obtain ⟨s, hf⟩ := Option.isSome_iff_exists.mp h
      obtain ⟨n', hm, hfo⟩ := foldFind_mem hf
      exact ⟨n', hi .base .cls n' ⟨s, hm⟩, Or.inr ⟨rfl, hfo⟩⟩
  · exact ⟨n, hi .base .ifc n (has_of_lookup h), Or.inl rfl⟩
  · exact ⟨n, hi .base .fn n (has_of_lookup h), Or.inl rfl⟩

end Proofs.Temp
