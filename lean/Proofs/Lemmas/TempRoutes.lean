import Model.TempRoutes
import Generated.C12TempVm
/-! C12: how the parser obligation on the regenerated table follows from the routing obligation. -/
namespace Proofs.TempRoutes
open Model.TempRoutes

theorem wellRouted_factOk {fs : List Fact} (h : WellRouted fs = true) {f : Fact} (hf : f ∈ fs) :
    factOk f = true := by
  simp only [WellRouted, Bool.and_eq_true, List.all_eq_true] at h
  exact h.2 f hf

abbrev bytes (s : String) : List UInt8 := s.toByteArray.data.toList

theorem bytes_callName_prefix (c : String) : bytes (callName c) <+: bytes c := by
  have h : callName c ++ String.ofList (c.toList.dropWhile (· != '@')) = c := by
    rw [callName, ← String.ofList_append, List.takeWhile_append_dropWhile, String.ofList_toList]
  refine ⟨bytes (String.ofList (c.toList.dropWhile (· != '@'))), ?_⟩
  rw [bytes, bytes, ← ByteArray.toList_data_append, ← String.toByteArray_append, h]

/-- Decoding a string into characters is by far the dearest step for the kernel, so `callName m ∈ P`
is refuted on the bytes: no element of `P` is a prefix of `m`. Sufficient only: a parsing method whose
name is a proper prefix of a `pureBase` name would have to be settled through `callName` itself. -/
theorem not_contains_callName (P : List String) (m : String)
    (h : P.all (fun p => !(bytes p).isPrefixOf (bytes m)) = true) : P.contains (callName m) = false := by
  rw [Bool.eq_false_iff]
  intro hc
  have := List.all_eq_true.mp h _ (List.contains_iff_mem.mp hc)
  rw [Bool.not_eq_true', ← Bool.not_eq_true, List.isPrefixOf_iff_prefix] at this
  exact this (bytes_callName_prefix m)

/-- A `WellRouted` method outside `Known` calls nothing but `pureBase` methods of the base, so it
cannot delegate parsing once no `pureBase` method parses. The rest of `ParsersBound` is local to each
method (`parserOk []`: nothing counts as a parsing method). -/
theorem parsersBound_of_wellRouted (vs : List VmFact) (P : List String) (fs : List Fact)
    (hv : vs.isEmpty = false) (hc : closedUnder vs P = true) (hw : WellRouted fs = true)
    (hl : fs.all (parserOk []) = true) (hp : ∀ m ∈ pureBase, P.contains (callName m) = false) :
    ParsersBound vs P fs = true := by
  simp only [ParsersBound, Bool.and_eq_true, List.all_eq_true, hv, hc, Bool.not_false, true_and]
  refine ⟨fun f hf => ?_, fun m hm => by rw [hp m hm]; rfl⟩
  have h1 := List.all_eq_true.mp hl f hf
  have h2 := wellRouted_factOk hw hf
  simp only [parserOk, factOk, Fact.delegatesDefining, Bool.and_eq_true, Bool.or_eq_true,
    Bool.not_eq_true', Bool.not_eq_false', List.all_eq_true] at h1 h2 ⊢
  refine ⟨h1.1, h2.2.imp id fun hb => ?_⟩
  simp only [Fact.delegatesParsing, List.any_eq_false]
  intro c hc
  rw [hp c (List.contains_iff_mem.mp (hb c hc))]
  exact Bool.false_ne_true

/-- Everything that is evaluated about the regenerated routing tables, in one evaluation (the node
facts of the same `Generated.C12TempVm` are evaluated apart, under `C12_declaration_nodes_stateless`):
the obligations compare the same method names, and turning a string literal into bytes is what the
kernel pays for, once per declaration. -/
theorem facts_evaluated :
    WellRouted Generated.C12TempVm.facts = true ∧ Generated.C12TempVm.facts.all (parserOk []) = true ∧
    Generated.C12TempVm.vmFacts.isEmpty = false ∧
    closedUnder Generated.C12TempVm.vmFacts Generated.C12TempVm.vmParsing = true ∧
    ∀ m ∈ pureBase,
      Generated.C12TempVm.vmParsing.all (fun p => !(bytes p).isPrefixOf (bytes m)) = true := by
  decide +kernel

end Proofs.TempRoutes
