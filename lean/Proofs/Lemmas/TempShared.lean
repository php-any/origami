import Model.TempShared
/-! C12, shared bodies: an implementation that keeps no state on the declaration node is
noninterfering (unwinding over the purged history). `Sees`, defined here, is the unwinding relation;
`sees_resolve` turns it into the equation between `resolve`s that `NonInterfering` states. The lemmas
stand in the model's namespace, so the property file opens one namespace. -/
namespace Model.TempShared

theorem declExec_noflag (ib : Bool) (b l : Tab) (fl fl' : Nat → Bool) (d : Decl) :
    declExec ⟨false⟩ ib b l fl d = { declExec ⟨false⟩ ib b l fl' d with fl := fl } := by
  unfold declExec
  cases d.guarded && (lookupV b l d.name).isSome <;> cases ib <;> cases (b.lookup d.name).isSome <;> rfl

theorem bodyExec_noflag (ib : Bool) (body : List Decl) : ∀ (b l : Tab) (fl fl' : Nat → Bool),
    bodyExec ⟨false⟩ ib b l fl body = { bodyExec ⟨false⟩ ib b l fl' body with fl := fl } := by
  induction body with
  | nil => exact fun _ _ _ _ => rfl
  | cons d ds ih =>
    intro b l fl fl'
    simp only [bodyExec]
    rw [declExec_noflag ib b l fl fl' d]
    dsimp only
    split
    · exact ih ..
    · rfl

/-- `s` and `t` agree on what `v` can see: the base's table and `v`'s own -/
def Sees (v : VM) (s t : State) : Prop := s.base = t.base ∧ s.loc v = t.loc v

theorem sees_resolve {v : VM} {s t : State} (h : Sees v s t) (n : Nat) : resolve s v n = resolve t v n := by
  unfold resolve; rw [h.1, h.2]

theorem upd_same (f : Nat → Tab) (i : Nat) (t : Tab) : upd f i t i = t := by simp [upd]

theorem upd_other (f : Nat → Tab) (i j : Nat) (t : Tab) (h : j ≠ i) : upd f i t j = f j := by simp [upd, h]

theorem step_base (impl : Impl) (s : State) {o : Op} (h : o.vm ≠ .base) : (step impl s o).base = s.base := by
  cases o with
  | run w body =>
    cases w with
    | base => exact absurd rfl h
    | temp i => rfl
  | discard i => rfl

theorem step_temp (impl : Impl) (s : State) {o : Op} {j : Nat} (h : o.vm ≠ .temp j) :
    (step impl s o).temp j = s.temp j := by
  cases o with
  | run w body =>
    cases w with
    | base => rfl
    | temp i => exact upd_other _ _ _ _ fun e => h (e ▸ rfl)
  | discard i => exact upd_other _ _ _ _ fun e => h (e ▸ rfl)

/-- step consistency, for every operation, kept by `v` or not: a run on the base rebuilds the base's table from the
base's table, a run on TempVM `i` or its discard rewrites slot `i` alone, from the base's table and slot `i` -/
theorem step_sees {v : VM} (o : Op) {s t : State} (h : Sees v s t) :
    Sees v (step ⟨false⟩ s o) (step ⟨false⟩ t o) := by
  obtain ⟨hb, hl⟩ := h
  cases o with
  | run u body =>
    cases u with
    | base =>
      refine ⟨?_, hl⟩
      simp only [step]; rw [hb]; exact (congrArg Ex.b (bodyExec_noflag true body _ _ s.flag t.flag) :)
    | temp i =>
      refine ⟨hb, ?_⟩
      cases v with
      | base => rfl
      | temp j =>
        simp only [step, State.loc, upd] at hl ⊢
        split
        · subst j; rw [hb, hl]; exact (congrArg Ex.l (bodyExec_noflag false body _ _ s.flag t.flag) :)
        · exact hl
  | discard i =>
    refine ⟨hb, ?_⟩
    cases v with
    | base => rfl
    | temp j =>
      simp only [step, State.loc, upd] at hl ⊢
      split
      · rfl
      · exact hl

set_option linter.unusedVariables false in
/-- `hk` is the case in which the unwinding asks for it; the conclusion holds without it -/
theorem step_keep {v : VM} {o : Op} (hk : keeps v o = true) {s t : State} (h : Sees v s t) :
    Sees v (step ⟨false⟩ s o) (step ⟨false⟩ t o) :=
  step_sees o h

theorem step_drop (impl : Impl) {v : VM} {o : Op} (hk : keeps v o = false) (s : State) :
    Sees v (step impl s o) s := by
  simp only [keeps, Bool.or_eq_false_iff, beq_eq_false_iff_ne] at hk
  refine ⟨step_base impl s hk.2, ?_⟩
  cases v with
  | base => rfl
  | temp j => exact step_temp impl s hk.1

theorem sees_trans {v : VM} {a b c : State} (h₁ : Sees v a b) (h₂ : Sees v b c) : Sees v a c :=
  ⟨h₁.1.trans h₂.1, h₁.2.trans h₂.2⟩

theorem runH_purge (v : VM) : ∀ (h : List Op) (s t : State), Sees v s t →
    Sees v (runH ⟨false⟩ s h) (runH ⟨false⟩ t (purge v h)) := by
  intro h
  induction h with
  | nil => exact fun _ _ hs => hs
  | cons o os ih =>
    intro s t hs
    cases hk : keeps v o with
    | true =>
      rw [purge, List.filter_cons_of_pos hk]
      exact ih _ _ (step_keep hk hs)
    | false =>
      rw [purge, List.filter_cons_of_neg (by rw [hk]; exact Bool.false_ne_true)]
      exact ih _ _ (sees_trans (step_drop _ hk s) hs)

end Model.TempShared
