import Spec.Val
import Proofs.Lemmas.WSum
/-!
`Spec.Val.modify` / `read` recurse on the place from the leaf up (`$x[k1][k2]` is
`idx (idx (var x) k1) k2`).  Here the same functions are given from the root down, on one
tree, so that statements about nested writes can be proved by induction on the path:
`modPath` (= `modify` below the root name), `walkT` (= `read`), `existsAt`
(= `indexExpressionKeyExists`: is the last key of the path there? a missing intermediate
key answers "no").  Then: creating a missing key first and storing afterwards is the same
as the single store that creates on the way (`modPath_vivify`).
-/
namespace Proofs.Heap
open Model.Heap
open Spec.Val (Tree Entry tkeys store)

def pathOf : Place → List IKey
  | .idx b k => pathOf b ++ [k]
  | _ => []

def modPath (c : Bool) : List IKey → (Tree → Option Tree) → Tree → Option Tree
  | [], F => F
  | k :: π, F => Tree.modifyAt c k (modPath c π F)

def walkT : List IKey → Tree → Option Tree
  | [], t => some t
  | k :: π, .arr kids =>
    (match Keys.find k (tkeys kids) with
     | some j => ((kids[j]?).map (·.2)).bind (walkT π)
     | none => walkT π (.sc .null))
  | _ :: _, .sc _ => none

/-- `some false` as soon as a key on the way is missing, `none` when something on the way is not an array -/
def existsAt : List IKey → Tree → Option Bool
  | [], _ => none
  | k :: π, .arr kids =>
    (match Keys.find k (tkeys kids) with
     | some j =>
       if π.isEmpty then some true
       else (match kids[j]? with
         | some (_, c) => existsAt π c
         | none => none)
     | none => some false)
  | _ :: _, .sc _ => none

def onArr (g : List Entry → List Entry) : Tree → Option Tree :=
  fun t => match t with | .arr l => some (.arr (g l)) | .sc _ => none

theorem onArray_eq (s : Spec.Val.St) (c : Bool) (b : Place) (g : List Entry → List Entry) :
    Spec.Val.onArray s c b g = Spec.Val.modify s c b (onArr g) := rfl

theorem findKey_eq (k : Key) (l : List Key) : Keys.findKey k l = l.findIdx? (· == k) := by
  induction l with
  | nil => rfl
  | cons h t ih => simp only [Keys.findKey, List.findIdx?_cons, ih, beq_iff_eq]

theorem findKey_eq_none (k : Key) (l : List Key) : Keys.findKey k l = none ↔ k ∉ l := by
  simp only [findKey_eq, List.findIdx?_eq_none_iff, beq_eq_false_iff_ne]
  exact ⟨fun h hk => h k hk rfl, fun h x hx e => h (e ▸ hx)⟩

theorem findKey_some (k : Key) : ∀ (l : List Key) (j : Nat),
    Keys.findKey k l = some j → j < l.length ∧ l[j]? = some k := by
  intro l j h
  rw [findKey_eq, List.findIdx?_eq_some_iff_getElem] at h
  obtain ⟨hj, hk, _⟩ := h
  exact ⟨hj, by rw [List.getElem?_eq_getElem hj, eq_of_beq hk]⟩

theorem findKey_append_none (k k' : Key) (l : List Key) (h : Keys.findKey k l = none) :
    Keys.findKey k (l ++ [k']) = if k' = k then some l.length else none := by
  rw [findKey_eq] at h
  simp only [findKey_eq, List.findIdx?_append, h, Option.none_or, List.findIdx?_cons, List.findIdx?_nil,
    beq_iff_eq]
  split <;> simp

theorem findKey_set_none (k k' : Key) (hne : k' ≠ k) (l : List Key) (i : Nat)
    (h : Keys.findKey k l = none) : Keys.findKey k (l.set i k') = none := by
  rw [findKey_eq_none] at h ⊢
  exact fun hm => (List.mem_or_eq_of_mem_set hm).elim h (fun e => hne e.symm)

theorem tkeys_append (l : List Entry) (e : Entry) : tkeys (l ++ [e]) = tkeys l ++ [e.1] := by
  simp [tkeys]

theorem tkeys_length (l : List Entry) : (tkeys l).length = l.length := by simp [tkeys]

theorem tkeys_set (kids : List Entry) (j : Nat) (kk : Key) (c0 c' : Tree)
    (h : kids[j]? = some (kk, c0)) : tkeys (kids.set j (kk, c')) = tkeys kids := by
  simp only [tkeys, List.map_set]
  exact list_set_same _ _ _ (by simp [h])

theorem find_lt {k : IKey} {ks : List Key} {j : Nat} (h : Keys.find k ks = some j) : j < ks.length := by
  cases k with
  | str s => exact (findKey_some _ _ _ h).1
  | int i =>
    simp only [Keys.find, Keys.findInt] at h
    cases hk : Keys.findKey (.int i) ks with
    | some j' => simp only [hk] at h; cases h; exact (findKey_some _ _ _ hk).1
    | none =>
      simp only [hk] at h
      split at h
      · next hp => cases h; exact (List.getElem?_eq_some_iff.mp hp).1
      · cases h

theorem key_cases (k : IKey) (t : Tree) :
    (∃ s, t = .sc s) ∨ (∃ kids, t = .arr kids ∧ Keys.find k (tkeys kids) = none) ∨
    ∃ kids j kk c0, t = .arr kids ∧ Keys.find k (tkeys kids) = some j ∧ kids[j]? = some (kk, c0) := by
  cases t with
  | sc s => exact Or.inl ⟨s, rfl⟩
  | arr kids =>
    cases hf : Keys.find k (tkeys kids) with
    | none => exact Or.inr (Or.inl ⟨kids, rfl, hf⟩)
    | some j =>
      have hlt : j < kids.length := by have := find_lt hf; rwa [tkeys_length] at this
      exact Or.inr (Or.inr ⟨kids, j, kids[j].1, kids[j].2, rfl, hf, List.getElem?_eq_getElem hlt⟩)

theorem modifyAt_sc (c : Bool) (k : IKey) (f : Tree → Option Tree) (s) :
    Tree.modifyAt c k f (.sc s) = none := rfl

theorem modifyAt_found (c : Bool) (k : IKey) (f : Tree → Option Tree) (kids : List Entry)
    (j : Nat) (kk : Key) (c0 : Tree)
    (h : Keys.find k (tkeys kids) = some j) (hj : kids[j]? = some (kk, c0)) :
    Tree.modifyAt c k f (.arr kids) = (f c0).map (fun c' => .arr (kids.set j (kk, c'))) := by
  simp only [Tree.modifyAt, h, hj]

theorem modifyAt_missing (k : IKey) (f : Tree → Option Tree) (kids : List Entry)
    (h : Keys.find k (tkeys kids) = none) :
    Tree.modifyAt true k f (.arr kids) =
      (f (.arr [])).map (fun c' => .arr (store kids (some k) c')) := by
  simp only [Tree.modifyAt, h, if_true]

theorem modifyAt_missing_nocreate (k : IKey) (f : Tree → Option Tree) (kids : List Entry)
    (h : Keys.find k (tkeys kids) = none) :
    Tree.modifyAt false k f (.arr kids) = none := by
  simp [Tree.modifyAt, h]

theorem walkT_cons_found (k : IKey) (π : List IKey) (kids : List Entry) (j : Nat) (kk : Key)
    (c0 : Tree) (h : Keys.find k (tkeys kids) = some j) (hj : kids[j]? = some (kk, c0)) :
    walkT (k :: π) (.arr kids) = walkT π c0 := by
  simp [walkT, h, hj]

theorem walkT_cons_missing (k : IKey) (π : List IKey) (kids : List Entry)
    (h : Keys.find k (tkeys kids) = none) :
    walkT (k :: π) (.arr kids) = walkT π (.sc .null) := by
  simp [walkT, h]

theorem existsAt_cons_missing (k : IKey) (π : List IKey) (kids : List Entry)
    (h : Keys.find k (tkeys kids) = none) :
    existsAt (k :: π) (.arr kids) = some false := by
  simp [existsAt, h]

theorem existsAt_cons_found (k : IKey) (π : List IKey) (kids : List Entry) (j : Nat) (kk : Key)
    (c0 : Tree) (hπ : π ≠ []) (h : Keys.find k (tkeys kids) = some j)
    (hj : kids[j]? = some (kk, c0)) :
    existsAt (k :: π) (.arr kids) = existsAt π c0 := by
  simp [existsAt, h, hj, hπ]

theorem existsAt_nil_arr (π : List IKey) (k : IKey) : existsAt (π ++ [k]) (.arr []) = some false := by
  cases π with
  | nil => exact existsAt_cons_missing k [] [] (by cases k <;> rfl)
  | cons a π => exact existsAt_cons_missing a _ [] (by cases a <;> rfl)

theorem modPath_snoc (c : Bool) (π : List IKey) (k : IKey) (F : Tree → Option Tree) :
    modPath c (π ++ [k]) F = modPath c π (Tree.modifyAt c k F) := by
  induction π with
  | nil => rfl
  | cons a π ih => simp only [List.cons_append, modPath, ih]

theorem walkT_snoc (π : List IKey) (k : IKey) (t : Tree) :
    walkT (π ++ [k]) t = (walkT π t).bind (walkT [k]) := by
  induction π generalizing t with
  | nil => simp [walkT]
  | cons a π ih =>
    rcases key_cases a t with ⟨s, rfl⟩ | ⟨kids, rfl, hf⟩ | ⟨kids, j, kk, c0, rfl, hf, hj⟩
    · simp [walkT]
    · rw [List.cons_append, walkT_cons_missing _ _ _ hf, walkT_cons_missing _ _ _ hf, ih]
    · rw [List.cons_append, walkT_cons_found _ _ _ _ _ _ hf hj, walkT_cons_found _ _ _ _ _ _ hf hj, ih]

theorem modify_root_path (s : Spec.Val.St) (c : Bool) (b : Place) (F : Tree → Option Tree) :
    Spec.Val.modify s c b F = Spec.Val.modify s c b.root (modPath c (pathOf b) F) := by
  induction b generalizing F with
  | var x => rfl
  | prop x p => rfl
  | idx b k ih =>
    simp only [Spec.Val.modify, Place.root, pathOf, modPath_snoc]
    exact ih _

theorem read_idx (s : Spec.Val.St) (b : Place) (k : IKey) :
    Spec.Val.read s (.idx b k) = (Spec.Val.read s b).bind (walkT [k]) := by
  simp only [Spec.Val.read]
  cases Spec.Val.read s b with
  | none => rfl
  | some t =>
    cases t with
    | sc sc => simp [walkT]
    | arr kids =>
      simp only [Option.bind_some, walkT]
      cases Keys.find k (tkeys kids) with
      | none => rfl
      | some j => cases kids[j]? <;> simp

theorem read_root_path (s : Spec.Val.St) (b : Place) :
    Spec.Val.read s b = (Spec.Val.read s b.root).bind (walkT (pathOf b)) := by
  induction b with
  | var x => simp [Place.root, pathOf, walkT]
  | prop x p => simp [Place.root, pathOf, walkT]
  | idx b k ih =>
    rw [read_idx, ih]
    simp only [Place.root, pathOf]
    cases Spec.Val.read s b.root with
    | none => rfl
    | some w => simp [walkT_snoc]

theorem existsAt_single (k : IKey) (t : Tree) :
    existsAt [k] t = (match t with
      | .arr kids => some (Keys.find k (tkeys kids)).isSome
      | .sc _ => none) := by
  cases t with
  | sc s => simp [existsAt]
  | arr kids =>
    cases hf : Keys.find k (tkeys kids) <;> simp [existsAt, hf]

/-- the parent key is asked first, as `Model.Heap.keyExists` does -/
theorem existsAt_snoc (ρ : List IKey) (hρ : ρ ≠ []) (k : IKey) (t : Tree) :
    existsAt (ρ ++ [k]) t =
      (match existsAt ρ t with
       | some true => (walkT ρ t).bind (existsAt [k])
       | r => r) := by
  induction ρ generalizing t with
  | nil => exact absurd rfl hρ
  | cons a ρ ih =>
    rcases key_cases a t with ⟨s, rfl⟩ | ⟨kids, rfl, hf⟩ | ⟨kids, j, kk, c0, rfl, hf, hj⟩
    · simp [existsAt]
    · simp only [List.cons_append, existsAt_cons_missing _ _ _ hf]
    · rw [List.cons_append, existsAt_cons_found _ _ _ _ _ _ (by simp) hf hj, walkT_cons_found _ _ _ _ _ _ hf hj]
      cases ρ with
      | nil => simp only [List.nil_append, existsAt_single (k := a), hf, Option.isSome_some, walkT, Option.bind_some]
      | cons a' ρ' => rw [existsAt_cons_found _ _ _ _ _ _ (by simp) hf hj]; exact ih (by simp) c0

theorem store_find_aux (kids : List Entry) (c : Tree) (e : Tree → Entry) (j : Nat)
    (hj : j = kids.length) :
    (kids ++ [e c])[j]? = some (e c) ∧ ∀ c', (kids ++ [e c]).set j (e c') = kids ++ [e c'] := by
  subst hj
  simp

theorem store_find (kids : List Entry) (k : IKey) (c : Tree)
    (h : Keys.find k (tkeys kids) = none) :
    ∃ j kk, Keys.find k (tkeys (store kids (some k) c)) = some j ∧
      (store kids (some k) c)[j]? = some (kk, c) ∧
      ∀ c', (store kids (some k) c).set j (kk, c') = store kids (some k) c' := by
  -- the branches of `store` that append an entry under the key `kk`
  have happ : ∀ kk, (∀ c, store kids (some k) c = kids ++ [(kk, c)]) →
      Keys.find k (tkeys kids ++ [kk]) = some kids.length →
      ∃ j kk, Keys.find k (tkeys (store kids (some k) c)) = some j ∧
        (store kids (some k) c)[j]? = some (kk, c) ∧
        ∀ c', (store kids (some k) c).set j (kk, c') = store kids (some k) c' := by
    intro kk hs hfind
    obtain ⟨h2, h3⟩ := store_find_aux kids c (fun c => (kk, c)) kids.length rfl
    refine ⟨kids.length, kk, ?_, ?_, ?_⟩
    · rw [hs, tkeys_append]; exact hfind
    · rw [hs]; exact h2
    · intro c'; rw [hs, hs]; exact h3 c'
  cases k with
  | str s =>
    simp only [Keys.find] at h
    exact happ (.str s) (fun c => by simp only [store, h])
      (by simp only [Keys.find, findKey_append_none _ _ _ h, if_true, tkeys_length])
  | int i =>
    simp only [Keys.find] at h
    have hk : Keys.findKey (.int i) (tkeys kids) = none := by
      cases hk : Keys.findKey (.int i) (tkeys kids) with
      | none => rfl
      | some j => simp [Keys.findInt, hk] at h
    by_cases h1 : i = kids.length
    · refine happ .pos (fun c => by simp only [store, h, if_pos h1]) ?_
      simp only [Keys.find, Keys.findInt, findKey_append_none _ _ _ hk]
      subst h1
      simp [tkeys_length]
    · by_cases h2 : kids.length < i
      · exact happ (.int i) (fun c => by simp only [store, h, if_neg h1, if_pos h2])
          (by simp only [Keys.find, Keys.findInt, findKey_append_none _ _ _ hk, if_true, tkeys_length])
      · have hs : ∀ c, store kids (some (.int i)) c = kids.set i (.pos, c) := by
          intro c; simp only [store, h, if_neg h1, if_neg h2]
        have hlt : i < kids.length := by omega
        refine ⟨i, .pos, ?_, ?_, ?_⟩
        · have : tkeys (kids.set i (.pos, c)) = (tkeys kids).set i .pos := by
            simp [tkeys, List.map_set]
          simp only [hs, Keys.find, Keys.findInt, this,
            findKey_set_none (.int i) .pos (by simp) _ _ hk]
          simp [tkeys_length, hlt]
        · rw [hs]; simp [hlt]
        · intro c'; rw [hs, hs]; simp

theorem found_set (k : IKey) (kids : List Entry) (j : Nat) (kk : Key) (c0 c1 : Tree)
    (hf : Keys.find k (tkeys kids) = some j) (hj : kids[j]? = some (kk, c0)) :
    Keys.find k (tkeys (kids.set j (kk, c1))) = some j ∧ (kids.set j (kk, c1))[j]? = some (kk, c1) := by
  have := (List.getElem?_eq_some_iff.mp hj).1
  exact ⟨by rw [tkeys_set _ _ _ _ _ hj]; exact hf, by simp [this]⟩

/-- one induction along the path for `modPath_vivify` and for what the created key then reads -/
theorem vivify_aux (π : List IKey) (k2 : IKey) (t : Tree) (h : existsAt (π ++ [k2]) t = some false) :
    (∀ F, modPath true (π ++ [k2]) F t =
      (modPath true π (onArr (fun l => store l (some k2) (.arr []))) t).bind (modPath true (π ++ [k2]) F)) ∧
    ∀ t1, modPath true π (onArr (fun l => store l (some k2) (.arr []))) t = some t1 →
      walkT (π ++ [k2]) t1 = some (.arr []) := by
  induction π generalizing t with
  | nil =>
    rcases key_cases k2 t with ⟨s, rfl⟩ | ⟨kids, rfl, hf⟩ | ⟨kids, j, kk, c0, rfl, hf, hj⟩
    · simp [existsAt] at h
    · obtain ⟨j, kk, h1, h2, h3⟩ := store_find kids k2 (.arr []) hf
      constructor
      · intro F
        simp only [List.nil_append, modPath, onArr, Option.bind_some]
        rw [modifyAt_missing _ _ _ hf, modifyAt_found _ _ _ _ _ _ _ h1 h2]
        simp only [h3]
      · intro t1 ht
        simp only [modPath, onArr, Option.some.injEq] at ht
        subst ht
        rw [List.nil_append, walkT_cons_found _ _ _ _ _ _ h1 h2]; rfl
    · rw [List.nil_append, existsAt_single] at h
      simp [hf] at h
  | cons k π ih =>
    simp only [List.cons_append, modPath] at h ⊢
    rcases key_cases k t with ⟨s, rfl⟩ | ⟨kids, rfl, hf⟩ | ⟨kids, j, kk, c0, rfl, hf, hj⟩
    · simp [existsAt] at h
    · obtain ⟨ihF, ihW⟩ := ih (.arr []) (existsAt_nil_arr π k2)
      constructor
      · intro F
        rw [modifyAt_missing _ _ _ hf, modifyAt_missing _ _ _ hf, ihF F]
        cases hm : modPath true π (onArr fun l => store l (some k2) (Tree.arr [])) (.arr []) with
        | none => rfl
        | some c1 =>
          obtain ⟨j, kk, h1, h2, h3⟩ := store_find kids k c1 hf
          simp only [Option.bind_some, Option.map_some]
          rw [modifyAt_found _ _ _ _ _ _ _ h1 h2]
          simp only [h3]
      · intro t1 ht
        rw [modifyAt_missing _ _ _ hf] at ht
        obtain ⟨c1, hm, rfl⟩ := Option.map_eq_some_iff.mp ht
        obtain ⟨j, kk, h2, h3, _⟩ := store_find kids k c1 hf
        rw [walkT_cons_found _ _ _ _ _ _ h2 h3]
        exact ihW c1 hm
    · rw [existsAt_cons_found _ _ _ _ _ _ (by simp) hf hj] at h
      obtain ⟨ihF, ihW⟩ := ih c0 h
      constructor
      · intro F
        rw [modifyAt_found _ _ _ _ _ _ _ hf hj, modifyAt_found _ _ _ _ _ _ _ hf hj, ihF F]
        cases hm : modPath true π (onArr fun l => store l (some k2) (Tree.arr [])) c0 with
        | none => rfl
        | some c1 =>
          obtain ⟨hf', hj'⟩ := found_set k kids j kk c0 c1 hf hj
          simp only [Option.bind_some, Option.map_some]
          rw [modifyAt_found _ _ _ _ _ _ _ hf' hj']
          simp only [List.set_set]
      · intro t1 ht
        rw [modifyAt_found _ _ _ _ _ _ _ hf hj] at ht
        obtain ⟨c1, hm, rfl⟩ := Option.map_eq_some_iff.mp ht
        obtain ⟨hf', hj'⟩ := found_set k kids j kk c0 c1 hf hj
        rw [walkT_cons_found _ _ _ _ _ _ hf' hj']
        exact ihW c1 hm

/-- `$x[…][k2][…] = v` with `k2` (or a key before it) missing: creating `…[k2] = []`
first and then storing is the single store that creates on the way.
(`IndexExpression.SetValue` does the former, `Spec.Val.modify` the latter.) -/
theorem modPath_vivify (π : List IKey) (k2 : IKey) (F : Tree → Option Tree) (t : Tree)
    (h : existsAt (π ++ [k2]) t = some false) :
    modPath true (π ++ [k2]) F t =
      (modPath true π (onArr (fun l => store l (some k2) (.arr []))) t).bind
        (modPath true (π ++ [k2]) F) :=
  (vivify_aux π k2 t h).1 F

/-- A write through a place that holds no array has no effect — provided, for a store
(`c = true`), that no key on the way is missing, so that nothing is created either. -/
theorem modPath_none (c : Bool) (π : List IKey) (g : List Entry → List Entry) (t : Tree)
    (he : c = true → existsAt π t ≠ some false)
    (h : ∀ l, walkT π t ≠ some (.arr l)) : modPath c π (onArr g) t = none := by
  induction π generalizing t with
  | nil =>
    cases t with
    | sc s => rfl
    | arr kids => exact absurd rfl (h kids)
  | cons k π ih =>
    simp only [modPath]
    rcases key_cases k t with ⟨s, rfl⟩ | ⟨kids, rfl, hf⟩ | ⟨kids, j, kk, c0, rfl, hf, hj⟩
    · rfl
    · cases c with
      | false => exact modifyAt_missing_nocreate _ _ _ hf
      | true => exact absurd (existsAt_cons_missing _ _ _ hf) (he rfl)
    · rw [walkT_cons_found _ _ _ _ _ _ hf hj] at h
      have he' : c = true → existsAt π c0 ≠ some false := by
        intro hc
        cases π with
        | nil => simp [existsAt]
        | cons a π => rw [← existsAt_cons_found _ _ _ _ _ _ (by simp) hf hj]; exact he hc
      rw [modifyAt_found _ _ _ _ _ _ _ hf hj, ih c0 he' h]; rfl

end Proofs.Heap
