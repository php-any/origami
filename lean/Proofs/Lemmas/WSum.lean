/-!
Every "occurs at most once" argument of C06 (array identities in a heap value, in a state, inner
array objects among the variables of `Model.Summary`) is arithmetic on weighted sums: a map that fixes
every element of weight 0 changes nothing where the total is 0 (`map_eq_self_of_wsum`) and is a
`set` at the one position that carries the whole weight (`map_eq_set_of_wsum`).  `FreshIn`
says that a count function counts freshly allocated identities: each at most once, all from
one allocator range.
-/
namespace Proofs.Heap

theorem list_set_same {α : Type} (l : List α) (j : Nat) (x : α) (h : l[j]? = some x) : l.set j x = l := by
  obtain ⟨hlt, rfl⟩ := List.getElem?_eq_some_iff.mp h
  exact List.set_getElem_self hlt

theorem map_eraseIdx {α β : Type} (f : α → β) : ∀ (l : List α) (k : Nat),
    (l.eraseIdx k).map f = (l.map f).eraseIdx k
  | [], _ => rfl
  | _ :: _, 0 => rfl
  | a :: r, k + 1 => by simp only [List.eraseIdx_cons_succ, List.map_cons, map_eraseIdx f r k]

def wsum {α : Type} (f : α → Nat) : List α → Nat
  | [] => 0
  | x :: r => f x + wsum f r

theorem wsum_append {α : Type} (f : α → Nat) (l1 l2 : List α) :
    wsum f (l1 ++ l2) = wsum f l1 + wsum f l2 := by
  induction l1 with
  | nil => simp [wsum]
  | cons x r ih => simp [wsum, ih, Nat.add_assoc]

theorem wsum_sublist_le {α : Type} (f : α → Nat) {l' l : List α} (h : l'.Sublist l) : wsum f l' ≤ wsum f l := by
  induction h with
  | slnil => exact Nat.le_refl _
  | cons x _ ih => simp only [wsum]; omega
  | cons_cons x _ ih => simp only [wsum]; omega

theorem wsum_ge_get {α : Type} (f : α → Nat) (l : List α) (i : Nat) (x : α) (h : l[i]? = some x) :
    f x ≤ wsum f l :=
  wsum_sublist_le f (List.singleton_sublist.2 (List.mem_of_getElem? h))

theorem wsum_set {α : Type} (f : α → Nat) (l : List α) (i : Nat) (old x : α) (h : l[i]? = some old) :
    wsum f (l.set i x) + f old = wsum f l + f x := by
  induction l generalizing i with
  | nil => simp at h
  | cons y r ih =>
    cases i with
    | zero => simp at h; subst h; simp only [List.set_cons_zero, wsum]; omega
    | succ i => simp at h; have := ih i h; simp only [List.set_cons_succ, wsum]; omega

theorem wsum_eq_zero {α : Type} (f : α → Nat) (l : List α) : wsum f l = 0 ↔ ∀ x ∈ l, f x = 0 := by
  induction l with
  | nil => simp [wsum]
  | cons x r ih => simp [wsum, ih, Nat.add_eq_zero_iff]

theorem wsum_replicate {α : Type} (f : α → Nat) (n : Nat) (x : α) (h : f x = 0) :
    wsum f (List.replicate n x) = 0 :=
  (wsum_eq_zero f _).2 fun y hy => by rw [List.eq_of_mem_replicate hy]; exact h

theorem wsum_perm {α : Type} (f : α → Nat) {l l' : List α} (h : l.Perm l') : wsum f l = wsum f l' := by
  induction h with
  | nil => rfl
  | cons x _ ih => simp only [wsum, ih]
  | swap x y l => simp only [wsum]; omega
  | trans _ _ ih1 ih2 => exact ih1.trans ih2

theorem wsum_set_le_of {α : Type} (f : α → Nat) (l : List α) (i : Nat) (x : α) (d : Nat)
    (h : ∀ old, l[i]? = some old → f x ≤ f old + d) : wsum f (l.set i x) ≤ wsum f l + d := by
  cases ho : l[i]? with
  | none => rw [List.set_eq_of_length_le (by simpa using ho)]; omega
  | some old => have := wsum_set f l i old x ho; have := h old ho; omega

theorem map_eq_self_of_wsum {α : Type} (f : α → Nat) (g : α → α) (hg : ∀ x, f x = 0 → g x = x) (l : List α)
    (h : wsum f l = 0) : l.map g = l :=
  (List.map_congr_left fun x hx => hg x ((wsum_eq_zero f l).1 h x hx)).trans (List.map_id l)

theorem map_eq_set_of_wsum {α : Type} (f : α → Nat) (g : α → α) (hg : ∀ x, f x = 0 → g x = x) :
    ∀ (l : List α) (i : Nat) (x : α), l[i]? = some x → wsum f l ≤ f x → l.map g = l.set i (g x)
  | [], _, _, h, _ => by simp at h
  | y :: r, 0, x, h, hc => by
    obtain rfl : y = x := by simpa using h
    simp only [wsum] at hc
    rw [List.map_cons, map_eq_self_of_wsum f g hg r (by omega)]; rfl
  | y :: r, i + 1, x, h, hc => by
    have hr : r[i]? = some x := by simpa using h
    have := wsum_ge_get f r i x hr
    simp only [wsum] at hc
    rw [List.map_cons, hg y (by omega), map_eq_set_of_wsum f g hg r i x hr (by omega)]; rfl

/-- the arithmetic of the heap's "at most once" invariant (`Inv.of_counts`) -/
theorem counts_grow {c c' e : Nat → Nat} {n' : Nat} (h1 : ∀ i, c i ≤ 1) (hb : ∀ i, 0 < c i → i < n')
    (hk : ∀ i, c' i ≤ c i + e i) (he : ∀ i, e i ≤ 1 ∧ (0 < e i → c i = 0 ∧ i < n')) (i : Nat) :
    c' i ≤ 1 ∧ (0 < c' i → i < n') := by
  have := hk i
  have := h1 i
  have := hb i
  have := he i
  omega

def FreshIn (f : Nat → Nat) (n n' : Nat) : Prop := ∀ i, f i ≤ 1 ∧ (0 < f i → n ≤ i ∧ i < n')

theorem FreshIn.mono {f : Nat → Nat} {n n' m m' : Nat} (h : FreshIn f n n') (h1 : m ≤ n) (h2 : n' ≤ m') :
    FreshIn f m m' :=
  fun i => ⟨(h i).1, fun hp => by have := (h i).2 hp; omega⟩

theorem FreshIn.add {f g : Nat → Nat} {a b c : Nat} (hf : FreshIn f a b) (hg : FreshIn g b c)
    (hab : a ≤ b) (hbc : b ≤ c) : FreshIn (fun i => f i + g i) a c := by
  intro i
  show f i + g i ≤ 1 ∧ (0 < f i + g i → a ≤ i ∧ i < c)
  have := hf i
  have := hg i
  omega

theorem FreshIn.le {f g : Nat → Nat} {n n' : Nat} (h : FreshIn f n n') (hg : ∀ i, g i ≤ f i) : FreshIn g n n' :=
  fun i => ⟨Nat.le_trans (hg i) (h i).1, fun hp => (h i).2 (Nat.lt_of_lt_of_le hp (hg i))⟩

theorem FreshIn.grow {c c' e : Nat → Nat} {n n' : Nat} (hc : FreshIn c 0 n) (he : FreshIn e n n') (hn : n ≤ n')
    (hk : ∀ i, c' i ≤ c i + e i) : FreshIn c' 0 n' :=
  (hc.add he (Nat.zero_le n) hn).le hk

theorem FreshIn.single (n : Nat) : FreshIn (fun i => if n = i then 1 else 0) n (n + 1) := by
  intro i
  by_cases e : n = i <;> simp [e]

theorem FreshIn.zero (n n' : Nat) : FreshIn (fun _ => 0) n n' :=
  fun _ => ⟨Nat.zero_le _, fun h => absurd h (Nat.lt_irrefl _)⟩

end Proofs.Heap
