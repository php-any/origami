import Proofs.Lemmas.WirePrim
/-! The parser is the grammar within the depth budget (`parse_iff`). One induction on fuel (`exact_all`) for the two facts
about the two loops that feed each other (`Exact`): what a loop answers on an input shorter than its fuel is a tree of which
the input is a derivation in the grammar, within the budget, or an error other than `fuel` (`Ans`, along the loop's own
cases); every such word is answered with its tree (along the derivation's cases). -/
namespace Proofs.Wire
open Model.Wire Spec.Wire

section Value
variable {o : Opts} {rf : Bytes → Nat → Except Err FT}
  {rg : Bytes → Nat → Nat → Except Err (FT × Bytes)} {num d : Nat} {data : Bytes}

theorem okV_ans {r : Option (Nat × Bytes)} {e : Err} {mk : Nat → Leaf} {S : V × Bytes → Prop} (he : e ≠ .fuel)
    (h : ∀ x rest, r = some (x, rest) → S (.leaf (mk x), rest)) : Ans S (okV r e mk) := by
  cases r with
  | none => exact he
  | some p => exact h _ _ rfl

theorem valueWith_four : valueWith o rf rg num 4 data d = .error .endGroup := by
  unfold valueWith
  rw [if_neg (by decide), if_neg (by decide), if_neg (by decide), if_neg (by decide), if_pos rfl]
end Value

section Loops
variable {o : Opts} {f d g num wt : Nat} {data data1 rest : Bytes} {v : V}

theorem loopF_cons (ht : consumeTag data = some (num, wt, data1))
    (hv : valueWith o (loopF o f) (loopG o f) num wt data1 d = .ok (v, rest)) :
    loopF o (f + 1) data d = consF num v (loopF o f rest d) := by
  cases data with
  | nil => cases ht
  | cons b tl =>
    have h4 : wt ≠ 4 := by rintro rfl; rw [valueWith_four] at hv; cases hv
    rw [loopF, ht]
    simp only [if_neg h4, hv]

theorem loopG_cons (ht : consumeTag data = some (num, wt, data1))
    (hv : valueWith o (loopF o f) (loopG o f) num wt data1 (d + 1) = .ok (v, rest)) :
    loopG o (f + 1) data g d = consG num v (loopG o f rest g d) := by
  cases data with
  | nil => cases ht
  | cons b tl =>
    have h4 : wt ≠ 4 := by rintro rfl; rw [valueWith_four] at hv; cases hv
    rw [loopG, ht]
    simp only [if_neg h4, hv]

theorem loopG_end (ht : consumeTag data = some (g, 4, data1)) :
    loopG o (f + 1) data g d = .ok (.nil, data1) := by
  cases data with
  | nil => cases ht
  | cons b tl => rw [loopG, ht]; simp only [if_true, ne_eq, not_true, if_false]

end Loops

theorem parse_eq (o : Opts) (data : Bytes) : parse o data = loopF o (data.length + 1) data 0 := by
  have : 0 < o.max := by unfold Opts.max; split <;> omega
  rw [parse, if_neg (by omega)]

/-- the budget `Fits` asks of one field value met at depth `d` (`fits_cons`) -/
def FitsV (m : Nat) : V → Nat → Prop
  | .leaf _, _ => True
  | .sub false kids, d => d + 1 < m ∧ Fits m kids (d + 1)
  | .sub true kids, d => d < m ∧ Fits m kids (d + 1)

theorem fits_cons {m num d : Nat} {v : V} {rest : FT} :
    Fits m (FT.cons num v rest) d ↔ FitsV m v d ∧ Fits m rest d := by
  cases v with
  | leaf l => exact ⟨fun h => ⟨trivial, h⟩, fun h => h.2⟩
  | sub g kids => cases g <;> exact and_assoc.symm

theorem fits_nest {m : Nat} : ∀ (t : FT) (d : Nat), Fits m t d → d ≤ m → d + nest t ≤ m
  | .nil, _, _, hd => hd
  | .leaf _ _ rest, d, h, hd => fits_nest rest d h hd
  | .sub _ false kids rest, d, ⟨h1, hk, hr⟩, hd => by
      have := fits_nest kids (d + 1) hk (by omega)
      have := fits_nest rest d hr hd
      show d + max (1 + nest kids) (nest rest) ≤ m
      omega
  | .sub _ true kids rest, d, ⟨h1, hk, hr⟩, hd => by
      have := fits_nest kids (d + 1) hk (by omega)
      have := fits_nest rest d hr hd
      show d + max (1 + nest kids) (nest rest) ≤ m
      omega

/-- what `consumeGroup` reads and what it leaves (`r`) -/
def GroupRepr (o : Opts) (g : Nat) (t : FT) (p r : Bytes) : Prop :=
  ∃ kb eb, p = kb ++ (eb ++ r) ∧ Encodes o t kb ∧ TagRepr g 4 eb

/-- the two recursive callbacks (`rf`: the field loop of a message, `rg`: that of a group) at fuel `f`: what is answered
(`a*`), and that every word of the grammar within the budget is answered (`c*`). Both are stated for inputs shorter than
the fuel: the fuel reading of `a*` needs the guard, and no user needs the tree reading (soundness) below the input length,
`parse` running at `length + 1`. -/
structure Exact (o : Opts) (rf : Bytes → Nat → Except Err FT)
    (rg : Bytes → Nat → Nat → Except Err (FT × Bytes)) (f : Nat) : Prop where
  aF : ∀ p d, p.length < f → Ans (fun t => Encodes o t p ∧ Fits o.max t d) (rf p d)
  aG : ∀ p g d, p.length < f → Ans (fun a => GroupRepr o g a.1 p a.2 ∧ Fits o.max a.1 (d + 1)) (rg p g d)
  cF : ∀ p d t, p.length < f → Encodes o t p → Fits o.max t d → rf p d = .ok t
  cG : ∀ p g d t r, p.length < f → GroupRepr o g t p r → Fits o.max t (d + 1) → rg p g d = .ok (t, r)

section Callbacks
variable {o : Opts} {rf : Bytes → Nat → Except Err FT}
  {rg : Bytes → Nat → Nat → Except Err (FT × Bytes)} {num wt d f : Nat} {data rest : Bytes} {v : V}

theorem value_ans (E : Exact o rf rg f) (hlen : data.length < f) :
    Ans (fun a => ∃ vb, data = vb ++ a.2 ∧ ValRepr o num a.1 wt vb ∧ FitsV o.max a.1 d)
      (valueWith o rf rg num wt data d) := by
  fun_cases valueWith o rf rg num wt data d
  /- the arms in the definition's order. 1: wt 0, varint; 2: wt 1, fixed64; 3–8: wt 2 (3 bad length, 4 packed without element
  type, 5 packed, 6 message too deep, 7 message, 8 bytes); 9–10: wt 3 (9 too deep, 10 group); 11: wt 4; 12: wt 5, fixed32;
  13: any other wt. The arms that answer an error are `nofun`. -/
  case case1 hw =>
    subst hw
    refine okV_ans (by decide) fun x rest hx => ?_
    obtain ⟨pre, hpre, hv⟩ := consumeVarint_sound hx
    exact ⟨pre, hpre, .varint hv, trivial⟩
  case case2 hw =>
    subst hw
    refine okV_ans (by decide) fun x rest hx => ?_
    obtain ⟨_, _, _, _, _, _, _, _, rfl, rfl⟩ := consumeFixed64_sound hx
    exact ⟨_, rfl, .fixed64, trivial⟩
  case case12 hw =>
    subst hw
    refine okV_ans (by decide) fun x rest hx => ?_
    obtain ⟨_, _, _, _, rfl, rfl⟩ := consumeFixed32_sound hx
    exact ⟨_, rfl, .fixed32, trivial⟩
  case case5 hw payload rest0 hb hp et he =>
    subst hw
    obtain ⟨lb, hlb, hl⟩ := consumeBytes_sound hb
    exact (unpackPacked_ans et payload).wrap (fun _ => rfl) (fun _ => rfl) fun vs hvs =>
      ⟨_, hlb, .packed hl hp he hvs, trivial⟩
  case case7 hw payload rest0 hb hp hm hd =>
    subst hw
    obtain ⟨lb, hlb, hl⟩ := consumeBytes_sound hb
    refine (E.aF payload (d + 1) (by have := consumeBytes_lt hb; omega)).wrap (fun _ => rfl) (fun _ => rfl)
      fun kids ⟨hk, hfit⟩ => ⟨_, hlb, .msg hl (Bool.eq_false_iff.mpr hp) hm hk, by omega, hfit⟩
  case case8 hw payload rest0 hb hp hm =>
    subst hw
    obtain ⟨lb, hlb, hl⟩ := consumeBytes_sound hb
    exact .of_ok ⟨_, hlb, .bytes hl (Bool.eq_false_iff.mpr hp) (Bool.eq_false_iff.mpr hm), trivial⟩
  case case10 hw hd =>
    subst hw
    refine (E.aG data num d hlen).wrap (fun _ => rfl) (fun _ => rfl)
      fun a ⟨⟨kb, eb, hdat, hk, he⟩, hfit⟩ => ⟨kb ++ eb, by rw [hdat, List.append_assoc], .group hk he, by omega, hfit⟩
  all_goals nofun

theorem value_complete {vb : Bytes} (E : Exact o rf rg f) (hlen : (vb ++ rest).length < f)
    (hv : ValRepr o num v wt vb) (hfit : FitsV o.max v d) :
    valueWith o rf rg num wt (vb ++ rest) d = .ok (v, rest) := by
  unfold valueWith
  cases hv with
  | varint hv => rw [if_pos rfl, consumeVarint_complete hv rest]; rfl
  | fixed64 => rw [if_neg (by decide), if_pos rfl]; rfl
  | fixed32 =>
    rw [if_neg (by decide), if_neg (by decide), if_neg (by decide), if_neg (by decide), if_neg (by decide),
      if_pos rfl]; rfl
  | bytes hl hp hm =>
    rw [if_neg (by decide), if_neg (by decide), if_pos rfl, consumeBytes_complete hl rest]
    simp only [hp, hm, Bool.false_eq_true, if_false]
  | packed hl hp he hes =>
    rw [if_neg (by decide), if_neg (by decide), if_pos rfl, consumeBytes_complete hl rest]
    simp only [hp, he, unpackPacked_complete hes]; rfl
  | @msg _ kids lb kb hl hp hm hk =>
    have hkl : kb.length < f := by simp only [List.length_append] at hlen; omega
    rw [if_neg (by decide), if_neg (by decide), if_pos rfl, consumeBytes_complete hl rest]
    simp only [hp, hm, E.cF _ _ _ hkl hk hfit.2, Bool.false_eq_true, if_false, if_true]
    rw [if_neg (by have := hfit.1; omega)]; rfl
  | group hk he =>
    rw [if_neg (by decide), if_neg (by decide), if_neg (by decide), if_pos rfl, if_neg (by have := hfit.1; omega),
      E.cG _ _ _ _ _ hlen ⟨_, _, List.append_assoc .., hk, he⟩ hfit.2]; rfl

variable {g : Nat} {p : Bytes}

theorem loopF_ans (E : Exact o (loopF o f) (loopG o f) f) (hl : p.length < f + 1) :
    Ans (fun t => Encodes o t p ∧ Fits o.max t d) (loopF o (f + 1) p d) := by
  generalize hf : f + 1 = fuel at hl ⊢
  fun_cases loopF o fuel p d
  case case1 => cases hf
  case case2 => exact .of_ok ⟨.nil, trivial⟩
  -- after a tag other than an end tag: 5, the value is an error; 6, it is `v` and the loop goes on
  case case5 ht _ e hv =>
    cases hf
    exact (value_ans E (by have := consumeTag_lt ht; omega)).error hv
  case case6 ht _ v rest hv =>
    cases hf
    obtain ⟨tb, hp, htag⟩ := consumeTag_sound ht
    obtain ⟨vb, rfl, hvr, hfv⟩ := (value_ans E (by have := consumeTag_lt ht; omega)).ok hv
    have htp := tagRepr_length_pos htag
    rw [hp] at hl ⊢
    simp only [List.length_append] at hl
    refine (E.aF rest d (by omega)).wrap (fun _ => rfl) (fun _ => rfl) fun fs ⟨hk, hfr⟩ => ?_
    rw [← List.append_assoc]
    exact ⟨.cons htag hvr hk, fits_cons.mpr ⟨hfv, hfr⟩⟩
  all_goals nofun

theorem loopG_ans (E : Exact o (loopF o f) (loopG o f) f) (hl : p.length < f + 1) :
    Ans (fun a => GroupRepr o g a.1 p a.2 ∧ Fits o.max a.1 (d + 1)) (loopG o (f + 1) p g d) := by
  generalize hf : f + 1 = fuel at hl ⊢
  fun_cases loopG o fuel p g d
  case case1 => cases hf
  -- 5: the end tag of this group; 6 and 7: as 5 and 6 of `loopF_ans`
  case case5 ht hn =>
    obtain ⟨tb, hp, htag⟩ := consumeTag_sound ht
    rw [Decidable.not_not.mp hn] at htag
    exact .of_ok ⟨⟨[], tb, hp, .nil, htag⟩, trivial⟩
  case case6 ht _ e hv =>
    cases hf
    exact (value_ans E (by have := consumeTag_lt ht; omega)).error hv
  case case7 ht _ v rest hv =>
    cases hf
    obtain ⟨tb, hp, htag⟩ := consumeTag_sound ht
    obtain ⟨vb, rfl, hvr, hfv⟩ := (value_ans E (by have := consumeTag_lt ht; omega)).ok hv
    have htp := tagRepr_length_pos htag
    rw [hp] at hl ⊢
    simp only [List.length_append] at hl
    refine (E.aG rest g d (by omega)).wrap (fun _ => rfl) (fun _ => rfl)
      fun a ⟨⟨kb, eb, hr, hk, he⟩, hfr⟩ => ⟨⟨tb ++ vb ++ kb, eb, ?_, .cons htag hvr hk, he⟩, fits_cons.mpr ⟨hfv, hfr⟩⟩
    simp only [hr, List.append_assoc]
  all_goals nofun

/-- the derivation is taken apart one constructor deep: its parts are words shorter than the input, which the callbacks
answer -/
theorem loopF_complete {t : FT} (E : Exact o (loopF o f) (loopG o f) f) (hp : p.length < f + 1) (he : Encodes o t p)
    (hfit : Fits o.max t d) : loopF o (f + 1) p d = .ok t := by
  cases he with
  | nil => rfl
  | @cons num wt v rest tb vb rb htag hv hr =>
    have htp := tagRepr_length_pos htag
    obtain ⟨hfv, hfr⟩ := fits_cons.mp hfit
    simp only [List.append_assoc, List.length_append] at hp ⊢
    rw [loopF_cons (consumeTag_complete htag _)
        (value_complete E (by simp only [List.length_append]; omega) hv hfv),
      E.cF _ _ _ (by omega) hr hfr]
    rfl

theorem loopG_complete {t : FT} {r : Bytes} (E : Exact o (loopF o f) (loopG o f) f) (hp : p.length < f + 1)
    (he : GroupRepr o g t p r) (hfit : Fits o.max t (d + 1)) : loopG o (f + 1) p g d = .ok (t, r) := by
  obtain ⟨kb, eb, rfl, he, hend⟩ := he
  cases he with
  | nil => exact loopG_end (consumeTag_complete hend r)
  | @cons num wt v rest tb vb rb htag hv hr =>
    have htp := tagRepr_length_pos htag
    obtain ⟨hfv, hfr⟩ := fits_cons.mp hfit
    simp only [List.append_assoc, List.length_append] at hp ⊢
    rw [loopG_cons (consumeTag_complete htag _)
        (value_complete E (by simp only [List.length_append]; omega) hv hfv),
      E.cG _ _ _ _ _ (by simp only [List.length_append]; omega) ⟨rb, eb, rfl, hr, hend⟩ hfr]
    rfl

end Callbacks

theorem exact_all (o : Opts) : ∀ f, Exact o (loopF o f) (loopG o f) f
  | 0 => ⟨nofun, nofun, nofun, nofun⟩
  | f + 1 =>
    have ih := exact_all o f
    ⟨fun _ _ => loopF_ans ih, fun _ _ _ => loopG_ans ih, fun _ _ _ => loopF_complete ih,
      fun _ _ _ _ _ => loopG_complete ih⟩

theorem parse_ans (o : Opts) (data : Bytes) : Ans (fun t => Encodes o t data ∧ Fits o.max t 0) (parse o data) := by
  rw [parse_eq]
  exact (exact_all o _).aF data 0 (Nat.lt_succ_self _)

theorem parse_iff (o : Opts) (data : Bytes) (t : FT) :
    parse o data = .ok t ↔ Encodes o t data ∧ Fits o.max t 0 := by
  refine ⟨(parse_ans o data).ok, fun ⟨he, hf⟩ => ?_⟩
  rw [parse_eq]
  exact (exact_all o _).cF data 0 t (Nat.lt_succ_self _) he hf

end Proofs.Wire
