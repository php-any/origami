import Model.Wire
import Spec.Wire
/-! The wire primitives against the grammar of `Spec.Wire`: a `consume*` accepts exactly the prefixes the grammar
describes (hence non-empty ones); an `append*`, and with them the tree encoder, writes a word of the grammar. That a
`consume*` reads back what its `append*` wrote is the two put together. -/
namespace Proofs.Wire
open Model.Wire Spec.Wire

/-- what `avAux f` can still write: `f` bytes of seven bits, then the tenth byte, which carries one bit (`cvAux` refuses
`2 ≤ b` there): `lim 9 = 2^64` -/
def lim : Nat → Nat
  | 0 => 2
  | f + 1 => 128 * lim f

/-- `omega` is much quicker on the small divisor -/
theorem div_pow256 (v : Nat) :
    v / 65536 = v / 256 / 256 ∧ v / 16777216 = v / 256 / 256 / 256 ∧
    v / 4294967296 = v / 256 / 256 / 256 / 256 ∧ v / 1099511627776 = v / 256 / 256 / 256 / 256 / 256 ∧
    v / 281474976710656 = v / 256 / 256 / 256 / 256 / 256 / 256 ∧
    v / 72057594037927936 = v / 256 / 256 / 256 / 256 / 256 / 256 / 256 := by
  simp only [Nat.div_div_eq_div_mul, Nat.reduceMul, and_self]

/-- `cvAux` counts the bytes still allowed down from 10, `Varint` counts the position of the next byte up from 0: with `k`
bytes allowed the next byte is the one at position `i`, `i + k = 10` (here and in `cvAux_complete`) -/
theorem cvAux_sound (k : Nat) (data : Bytes) : ∀ (i v : Nat) (rest : Bytes), i + k = 10 →
    cvAux k data = some (v, rest) → ∃ pre, data = pre ++ rest ∧ Varint i v pre := by
  fun_induction cvAux k data <;> intro i v rest hk h
  -- 4: a byte below 128, accepted as the last; 5: a continuation byte and the rest read; the other arms answer `none`
  case case4 k b tl hb hnot =>
    cases h
    exact ⟨[b], rfl, .last hb (by omega) (by omega)⟩
  case case5 k b tl hb v' r' hr ih =>
    cases h
    have hk0 : k ≠ 0 := by rintro rfl; cases hr
    obtain ⟨pre, rfl, hv⟩ := ih (i + 1) v' r' (by omega) hr
    exact ⟨b :: pre, rfl, .more (by omega) (by omega) hv⟩
  all_goals cases h
section Consumers
variable {data rest : Bytes} {v : Nat}

theorem consumeVarint_sound
    (h : consumeVarint data = some (v, rest)) : ∃ pre, data = pre ++ rest ∧ Varint 0 v pre :=
  cvAux_sound 10 data 0 v rest rfl h

theorem consumeTag_sound {num wt : Nat}
    (h : consumeTag data = some (num, wt, rest)) : ∃ tb, data = tb ++ rest ∧ TagRepr num wt tb := by
  revert h
  fun_cases consumeTag data <;> intro h
  case case4 x r hv h1 h2 =>
    cases h
    obtain ⟨pre, hpre, hvr⟩ := consumeVarint_sound hv
    exact ⟨pre, hpre, x, hvr, rfl, rfl, by omega, by omega⟩
  all_goals cases h

theorem consumeBytes_sound {payload : Bytes} (h : consumeBytes data = some (payload, rest)) :
    ∃ lb, data = lb ++ payload ++ rest ∧ Varint 0 payload.length lb := by
  revert h
  fun_cases consumeBytes data <;> intro h
  case case3 m r hv hm =>
    cases h
    obtain ⟨pre, rfl, hvr⟩ := consumeVarint_sound hv
    refine ⟨pre, ?_, ?_⟩
    · rw [List.append_assoc, List.take_append_drop]
    · rwa [List.length_take, Nat.min_eq_left (by omega)]
  all_goals cases h
theorem consumeFixed32_sound
    (h : consumeFixed32 data = some (v, rest)) :
    ∃ b0 b1 b2 b3, data = b0 :: b1 :: b2 :: b3 :: rest ∧ v = le32 b0 b1 b2 b3 := by
  match data, h with
  | b0 :: b1 :: b2 :: b3 :: r, h => cases h; exact ⟨b0, b1, b2, b3, rfl, rfl⟩

theorem consumeFixed64_sound
    (h : consumeFixed64 data = some (v, rest)) :
    ∃ b0 b1 b2 b3 b4 b5 b6 b7, data = b0 :: b1 :: b2 :: b3 :: b4 :: b5 :: b6 :: b7 :: rest ∧
      v = le64 b0 b1 b2 b3 b4 b5 b6 b7 := by
  match data, h with
  | b0 :: b1 :: b2 :: b3 :: b4 :: b5 :: b6 :: b7 :: r, h =>
    cases h; exact ⟨b0, b1, b2, b3, b4, b5, b6, b7, rfl, rfl⟩

theorem varint_length_pos {i v : Nat} {bs : Bytes} (h : Varint i v bs) : 0 < bs.length := by
  cases h <;> exact Nat.succ_pos _

theorem tagRepr_length_pos {num wt : Nat} {tb : Bytes} (h : TagRepr num wt tb) : 0 < tb.length := by
  obtain ⟨x, hx, _⟩ := h
  exact varint_length_pos hx

theorem consumeVarint_lt (h : consumeVarint data = some (v, rest)) : rest.length < data.length := by
  obtain ⟨pre, rfl, hv⟩ := consumeVarint_sound h
  have := varint_length_pos hv
  rw [List.length_append]; omega

theorem consumeTag_lt {num wt : Nat} (h : consumeTag data = some (num, wt, rest)) :
    rest.length < data.length := by
  obtain ⟨tb, rfl, x, hx, _⟩ := consumeTag_sound h
  have := varint_length_pos hx
  rw [List.length_append]; omega

theorem consumeBytes_lt {payload : Bytes} (h : consumeBytes data = some (payload, rest)) :
    payload.length + rest.length < data.length := by
  obtain ⟨lb, rfl, hx⟩ := consumeBytes_sound h
  have := varint_length_pos hx
  simp only [List.length_append]; omega

theorem consumeFixed32_lt (h : consumeFixed32 data = some (v, rest)) : rest.length < data.length := by
  obtain ⟨_, _, _, _, rfl, _⟩ := consumeFixed32_sound h
  simp only [List.length_cons]; omega

theorem consumeFixed64_lt (h : consumeFixed64 data = some (v, rest)) : rest.length < data.length := by
  obtain ⟨_, _, _, _, _, _, _, _, rfl, _⟩ := consumeFixed64_sound h
  simp only [List.length_cons]; omega

end Consumers

theorem cvAux_complete {i v : Nat} {pre : Bytes} (h : Varint i v pre) (rest : Bytes) :
    ∀ k, i + k = 10 → cvAux k (pre ++ rest) = some (v, rest) := by
  induction h with
  | last hb hi h9 =>
    intro k hk
    cases k with
    | zero => omega
    | succ k => rw [List.singleton_append, cvAux, if_pos hb, if_neg (by omega)]
  | more hb hi _ ih =>
    intro k hk
    cases k with
    | zero => omega
    | succ k => rw [List.cons_append, cvAux, if_neg (by omega), ih k (by omega)]

theorem consumeVarint_complete {v : Nat} {pre : Bytes} (h : Varint 0 v pre) (rest : Bytes) :
    consumeVarint (pre ++ rest) = some (v, rest) := cvAux_complete h rest 10 rfl

theorem consumeTag_complete {num wt : Nat} {tb : Bytes} (h : TagRepr num wt tb) (rest : Bytes) :
    consumeTag (tb ++ rest) = some (num, wt, rest) := by
  obtain ⟨x, hx, rfl, rfl, h1, h2⟩ := h
  rw [consumeTag, consumeVarint_complete hx]
  simp only
  rw [if_neg (by omega), if_neg (by omega)]

theorem consumeBytes_complete {payload lb : Bytes} (h : Varint 0 payload.length lb) (rest : Bytes) :
    consumeBytes (lb ++ payload ++ rest) = some (payload, rest) := by
  rw [consumeBytes, List.append_assoc, consumeVarint_complete h]
  simp

theorem avAux_varint (f v : Nat) : ∀ i, i + f = 9 → v < lim f → Varint i v (avAux f v) := by
  fun_induction avAux f v <;> intro i hf hv <;> simp only [lim] at hv
  -- 1: no fuel left, this is the tenth byte: `lim 0 = 2` makes it 0 or 1, which is what `Varint.last` asks at `i = 9`;
  -- 2: `v < 128`, the last byte; 3: a continuation byte, then `v / 128`
  case case1 v =>
    rw [Nat.mod_eq_of_lt (by omega)]
    exact .last (by omega) (by omega) (fun _ => hv)
  case case2 f v h => exact .last h (by omega) (by omega)
  case case3 f v h ih =>
    have h2 := Varint.more (b := v % 128 + 128) (by omega) (by omega) (ih (i + 1) (by omega) (by omega))
    rwa [show v % 128 + 128 - 128 + 128 * (v / 128) = v by omega] at h2

theorem varint_append {v : Nat} (hv : v < 2 ^ 64) : Varint 0 v (appendVarint v) :=
  avAux_varint 9 v 0 rfl hv

theorem tagRepr_append {num wt : Nat} (hn : validNum num) (hw : wt < 8) : TagRepr num wt (appendTag num wt) :=
  ⟨_, varint_append (by have := hn.2; omega), by omega, by omega, hn.1, hn.2⟩

theorem appendFixed32_le {v : Nat} (hv : v < 2 ^ 32) :
    ∃ b0 b1 b2 b3, appendFixed32 v = [b0, b1, b2, b3] ∧ le32 b0 b1 b2 b3 = v := by
  obtain ⟨e2, e3, _⟩ := div_pow256 v
  refine ⟨_, _, _, _, rfl, ?_⟩
  rw [le32, e2, e3]
  omega

theorem appendFixed64_le {v : Nat} (hv : v < 2 ^ 64) :
    ∃ b0 b1 b2 b3 b4 b5 b6 b7, appendFixed64 v = [b0, b1, b2, b3, b4, b5, b6, b7] ∧
      le64 b0 b1 b2 b3 b4 b5 b6 b7 = v := by
  obtain ⟨e2, e3, e4, e5, e6, e7⟩ := div_pow256 v
  refine ⟨_, _, _, _, _, _, _, _, rfl, ?_⟩
  rw [le64, e2, e3, e4, e5, e6, e7]
  omega

theorem varint_roundtrip (v : Nat) (rest : Bytes) (hv : v < 2 ^ 64) :
    consumeVarint (appendVarint v ++ rest) = some (v, rest) :=
  consumeVarint_complete (varint_append hv) rest

theorem tag_roundtrip (num wt : Nat) (rest : Bytes) (hn : validNum num) (hw : wt < 8) :
    consumeTag (appendTag num wt ++ rest) = some (num, wt, rest) :=
  consumeTag_complete (tagRepr_append hn hw) rest

theorem bytes_roundtrip (bs rest : Bytes) (hl : bs.length < 2 ^ 64) :
    consumeBytes (appendBytes bs ++ rest) = some (bs, rest) :=
  consumeBytes_complete (varint_append hl) rest

theorem fixed32_roundtrip (v : Nat) (rest : Bytes) (hv : v < 2 ^ 32) :
    consumeFixed32 (appendFixed32 v ++ rest) = some (v, rest) := by
  obtain ⟨_, _, _, _, e, rfl⟩ := appendFixed32_le hv
  rw [e]; rfl

theorem fixed64_roundtrip (v : Nat) (rest : Bytes) (hv : v < 2 ^ 64) :
    consumeFixed64 (appendFixed64 v ++ rest) = some (v, rest) := by
  obtain ⟨_, _, _, _, _, _, _, _, e, rfl⟩ := appendFixed64_le hv
  rw [e]; rfl

/-- what a fuelled reader may answer -/
def Ans {α : Type} (S : α → Prop) : Except Err α → Prop
  | .ok a => S a
  | .error e => e ≠ .fuel

section Ans
variable {α β : Type} {S : α → Prop} {r : Except Err α} {a : α} {e : Err}

theorem Ans.of_ok (h : S a) : Ans S (.ok a) := h

theorem Ans.ok (h : Ans S r) (hr : r = .ok a) : S a := by subst hr; exact h

theorem Ans.error (h : Ans S r) (hr : r = .error e) : e ≠ .fuel := by subst hr; exact h

theorem Ans.ne_fuel (h : Ans S r) : r ≠ .error .fuel := fun hr => h.error hr rfl

/-- the wrappers: `subOf`, `subOfG`, `packedOf`, `consF`, `consG` -/
theorem Ans.wrap {T : β → Prop} {w : Except Err α → Except Err β} {k : α → β} (hok : ∀ a, w (.ok a) = .ok (k a))
    (herr : ∀ e, w (.error e) = .error e) (h : Ans S r) (hk : ∀ a, S a → T (k a)) : Ans T (w r) := by
  cases r with
  | ok a => rw [hok]; exact hk a h
  | error e => rw [herr]; exact h
end Ans

/-- `u` is the packed loop for element type `et`: it has the shape the three loops of the model share, a loop around the
consumer `c` that answers `e` when `c` refuses (`nil`, `cons`, each by unfolding), `et` is an element type and `e` is not
`fuel` (`et_ok`, `ne_fuel`), and `c` accepts exactly the first element of a payload (`first_sound`, `first_complete`). -/
structure PackedLoop (et : Nat) (u : Nat → Bytes → Except Err (List Nat)) (c : Bytes → Option (Nat × Bytes)) (e : Err) :
    Prop where
  nil : ∀ f, u (f + 1) [] = .ok []
  cons : ∀ f b tl, u (f + 1) (b :: tl) =
    match c (b :: tl) with
    | none => .error e
    | some (v, rest) =>
        match u f rest with
        | .ok vs => .ok (v :: vs)
        | .error e => .error e
  et_ok : et = 0 ∨ et = 1 ∨ et = 5
  ne_fuel : e ≠ .fuel
  first_sound : ∀ data v rest, c data = some (v, rest) →
    rest.length < data.length ∧ ∀ vs, Elems et vs rest → Elems et (v :: vs) data
  first_complete : ∀ v vs data, Elems et (v :: vs) data →
    ∃ rest, c data = some (v, rest) ∧ rest.length < data.length ∧ Elems et vs rest

theorem unpackVarints_loop : PackedLoop 0 unpackVarints consumeVarint .varint where
  nil _ := rfl
  cons _ _ _ := rfl
  et_ok := .inl rfl
  ne_fuel := nofun
  first_sound data v rest hc := by
    obtain ⟨pre, rfl, hv⟩ := consumeVarint_sound hc
    exact ⟨consumeVarint_lt hc, fun vs => .varint hv⟩
  first_complete v vs data h := by
    cases h with
    | @varint _ _ pre rest hv hes =>
      have := varint_length_pos hv
      exact ⟨rest, consumeVarint_complete hv rest, by rw [List.length_append]; omega, hes⟩

theorem unpackFixed32_loop : PackedLoop 5 unpackFixed32 consumeFixed32 .fixed32 where
  nil _ := rfl
  cons _ _ _ := rfl
  et_ok := .inr (.inr rfl)
  ne_fuel := nofun
  first_sound data v rest hc := by
    obtain ⟨_, _, _, _, rfl, rfl⟩ := consumeFixed32_sound hc
    exact ⟨consumeFixed32_lt hc, fun vs => .fixed32⟩
  first_complete v vs data h := by
    cases h with
    | fixed32 hes => exact ⟨_, rfl, by simp only [List.length_cons]; omega, hes⟩

theorem unpackFixed64_loop : PackedLoop 1 unpackFixed64 consumeFixed64 .fixed64 where
  nil _ := rfl
  cons _ _ _ := rfl
  et_ok := .inr (.inl rfl)
  ne_fuel := nofun
  first_sound data v rest hc := by
    obtain ⟨_, _, _, _, _, _, _, _, rfl, rfl⟩ := consumeFixed64_sound hc
    exact ⟨consumeFixed64_lt hc, fun vs => .fixed64⟩
  first_complete v vs data h := by
    cases h with
    | fixed64 hes => exact ⟨_, rfl, by simp only [List.length_cons]; omega, hes⟩

section Loop
variable {et : Nat} {u : Nat → Bytes → Except Err (List Nat)} {c : Bytes → Option (Nat × Bytes)} {e : Err}

theorem PackedLoop.ans (L : PackedLoop et u c e) (fuel : Nat) :
    ∀ data : Bytes, data.length < fuel → Ans (Elems et · data) (u fuel data) := by
  induction fuel with
  | zero => nofun
  | succ f ih =>
    intro data hl
    cases data with
    | nil => rw [L.nil]; exact .nil L.et_ok
    | cons b tl =>
      rw [L.cons]
      cases hc : c (b :: tl) with
      | none => exact L.ne_fuel
      | some p =>
        obtain ⟨v, rest⟩ := p
        obtain ⟨hlt, hs⟩ := L.first_sound _ _ _ hc
        have ih := ih rest (by simp only [List.length_cons] at hl hlt; omega)
        simp only
        -- `c` has read `v`: the rest unpacks to `vs`, or fails with `e'`
        cases hr : u f rest with
        | ok vs => exact hs vs (ih.ok hr)
        | error e' => exact ih.error hr

theorem PackedLoop.complete (L : PackedLoop et u c e) (vs : List Nat) :
    ∀ (fuel : Nat) (data : Bytes), Elems et vs data → data.length < fuel → u fuel data = .ok vs := by
  induction vs with
  | nil =>
    intro fuel data h hf
    cases h
    cases fuel with
    | zero => cases hf
    | succ f => exact L.nil f
  | cons v vs ih =>
    intro fuel data h hf
    obtain ⟨rest, hc, hlt, hr⟩ := L.first_complete _ _ _ h
    cases fuel with
    | zero => cases hf
    | succ f =>
      cases data with
      | nil => cases hlt
      | cons b tl =>
        rw [L.cons, hc]
        simp only
        rw [ih f rest hr (by simp only [List.length_cons] at hf hlt; omega)]

end Loop

theorem unpackPacked_complete {et : Nat} {vs : List Nat} {pb : Bytes} (h : Elems et vs pb) :
    unpackPacked et pb = .ok vs := by
  have het : et = 0 ∨ et = 1 ∨ et = 5 := by
    cases h with
    | nil h => exact h
    | varint => exact .inl rfl
    | fixed32 => exact .inr (.inr rfl)
    | fixed64 => exact .inr (.inl rfl)
  unfold unpackPacked
  rcases het with rfl | rfl | rfl
  · rw [if_pos rfl]
    exact unpackVarints_loop.complete vs _ pb h (Nat.lt_succ_self _)
  · rw [if_neg (by decide), if_neg (by decide), if_pos rfl]
    exact unpackFixed64_loop.complete vs _ pb h (Nat.lt_succ_self _)
  · rw [if_neg (by decide), if_pos rfl]
    exact unpackFixed32_loop.complete vs _ pb h (Nat.lt_succ_self _)

theorem elems_enc {et : Nat} (het : et = 0 ∨ et = 1 ∨ et = 5) :
    ∀ vs : List Nat, (∀ v ∈ vs, v < (if et = 5 then 2 ^ 32 else 2 ^ 64)) → Elems et vs (encElems et vs)
  | [], _ => .nil het
  | v :: vs, h => by
    have hv := h v (List.mem_cons_self ..)
    have ih := elems_enc het vs (fun x hx => h x (List.mem_cons_of_mem _ hx))
    rcases het with rfl | rfl | rfl
    · exact .varint (varint_append hv) ih
    · obtain ⟨_, _, _, _, _, _, _, _, e, rfl⟩ := appendFixed64_le hv
      simp only [encElems, e]
      exact .fixed64 ih
    · obtain ⟨_, _, _, _, e, rfl⟩ := appendFixed32_le hv
      simp only [encElems, e]
      exact .fixed32 ih

theorem unpackPacked_ans (et : Nat) (data : Bytes) : Ans (Elems et · data) (unpackPacked et data) := by
  unfold unpackPacked
  split
  · subst et; exact unpackVarints_loop.ans _ _ (Nat.lt_succ_self _)
  split
  · subst et; exact unpackFixed32_loop.ans _ _ (Nat.lt_succ_self _)
  split
  · subst et; exact unpackFixed64_loop.ans _ _ (Nat.lt_succ_self _)
  · nofun

theorem valRepr_leaf {o : Opts} {num : Nat} {l : Leaf} (hl : ValidLeaf o num l) :
    ValRepr o num (.leaf l) (leafWt l) (encVal l) := by
  cases l with
  | varint v => exact .varint (varint_append hl)
  | fixed64 v =>
    obtain ⟨_, _, _, _, _, _, _, _, e, rfl⟩ := appendFixed64_le hl
    rw [encVal, e]
    exact .fixed64
  | fixed32 v =>
    obtain ⟨_, _, _, _, e, rfl⟩ := appendFixed32_le hl
    rw [encVal, e]
    exact .fixed32
  | bytes bs => exact .bytes (varint_append hl.2.1) hl.2.2.1 hl.2.2.2
  | packed et vs =>
    obtain ⟨hp, he, het, hr, hlen⟩ := hl
    exact .packed (varint_append hlen) hp he (elems_enc het vs hr)

theorem encodes_encode {o : Opts} : ∀ t : FT, Valid o t → Encodes o t (encode t)
  | .nil, _ => .nil
  | .leaf num l rest, ⟨hn, hl, hr⟩ =>
      .cons (v := .leaf l) (tagRepr_append hn (by cases l <;> simp only [leafWt] <;> omega)) (valRepr_leaf hl)
        (encodes_encode rest hr)
  | .sub num false kids rest, ⟨hn, hp, hm, hl, hk, hr⟩ =>
      .cons (v := .sub false kids) (tagRepr_append hn (by decide))
        (.msg (varint_append hl) hp hm (encodes_encode kids hk)) (encodes_encode rest hr)
  | .sub num true kids rest, ⟨hn, hk, hr⟩ => by
      have := Encodes.cons (v := .sub true kids) (tagRepr_append hn (by decide))
        (.group (encodes_encode kids hk) (tagRepr_append hn (by decide))) (encodes_encode rest hr)
      rwa [← List.append_assoc] at this

end Proofs.Wire
