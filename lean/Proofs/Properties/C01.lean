import Proofs.Lemmas.LexShebang
import Proofs.Lemmas.LexVectors
import Proofs.Lemmas.Backtrack
import Spec.Backtrack
import Proofs.Properties.C18
import Generated.C01Rewinds
import Spec.TypedNil
import Generated.C01TypedNil
/-!
# C01 — lexing is total: for every byte string, in both modes, the model lexer answers a token
list and never `crash` (no index is out of range); every loop-body step consumes at least one byte;
and the script-mode main loop needs at most `size + 1` iterations. The loops of the model answer
`.ok` on zero fuel too, so "a token list" alone does not say the run was complete: that the fuel
`size + 1` is enough is `C01_lex_main_loop_linear`, and it is shown for script mode only.

Of the parser clause (parse terminates with a program or a positioned error; an accepted program
runs without an internal crash) two parts are modelled. Section `ParseWork`, for "within a time
bounded by a modest function of the input length": the bounds on `work` in the cost model
`Model.Backtrack` (its header tells the model and the three bounds). The tie to parser/*.go is the
regenerated list of every write of a parser cursor (`Generated.C01.positionWrites`,
extract/c01/rewinds.go) with the decidable obligation `gen_rewinds_bounded`: every write that moves
a cursor backwards over a nested parse of the same tokens is one of the `guardedRewinds`, whose
reading is decided by a token look-ahead before anything is parsed. The harness measures the same
quantity on the real parser (allocation count always, cursor advances when the tree carries the
verif hook) on every bracketed construct of the token table and of the corpus nested in itself.
Section `TypedNil`: the missing-operand guard of an accepted program. Termination and
crash-freedom of the real parser are not modelled: they are decided by the violation search of the
harness only (crash / hang / time-bound observation in child processes) — see DESIGN.md §5 C01,
"partial".
-/
namespace C01
open Model.Lex Proofs.Lex

/-- **No crash, any input.** For every configuration meeting `WF`, every byte
string and both modes, the raw tokenizer returns a token list: none of the reads
the Go code performs without a guard of its own (`input[pos+1]`, `input[pos+2]`
in the full-width-space test, `input[pos-1]` in the number scanner,
`input[start+1]` in the comment scanner) is out of range. -/
theorem C01_lex_total {cfg : Cfg} (wf : WF cfg) (inp : Input) (mode : Mode) :
    ∃ ts, tokenizeRaw cfg inp mode = .ok ts :=
  let ⟨ts, h, _⟩ := tokenizeRaw_ok wf inp mode
  ⟨ts, h⟩

/-- the same for `lexer.Tokenize` / `TokenizeTemplate` with the regenerated
tables, including the shebang / DOCTYPE dispatch and `Preprocessor.Process` -/
theorem C01_tokenize_no_crash (inp : Input) (mode : Mode) (w : String) :
    (tokenize genCfg inp mode).1 ≠ .crash w := by
  rcases tokenize_spec C18.gen_wf C18.gen_wf2 inp mode with e | ⟨ts, e, _⟩ <;> rw [e] <;> nofun

/-- **Progress.** Every loop-body step at a position holding a byte other than
`\n` produces a token that ends strictly after the position and inside the input. -/
theorem C01_step_progress {cfg : Cfg} (wf : WF cfg) (inp : Input) (tmpl : Bool) (pos line : Nat)
    (hlt : pos < inp.size) (hnl : bAt inp pos ≠ 10) :
    ∃ s, scanTok cfg inp tmpl pos line = .ok s ∧ pos < s.newPos ∧ s.newPos ≤ inp.size := by
  obtain ⟨s, h, ok⟩ := scanTok_spec wf inp tmpl pos line hlt hnl
  exact ⟨s, h, ok.progress, ok.bound⟩

/-- **Linear number of main-loop iterations** (script mode): running the loop
with any fuel above `size` gives the same result as with `size + 1`, i.e. the
loop is never cut short. -/
theorem C01_lex_main_loop_linear {cfg : Cfg} (wf : WF cfg) (inp : Input) (f : Nat) (hf : inp.size < f) :
    scriptLoop cfg inp f 0 0 false [] = tokenizeRaw cfg inp .script :=
  let ⟨_, _, run⟩ := script_run wf inp
  (run f hf).trans (run _ (Nat.lt_succ_self _)).symm

/-- the two sources on which the lexer crashed before its `fix:` commits in /repo:
a source ending in `E3 80`, and a source ending in `$` -/
example : (tokenize genCfg #[97, 0xe3, 0x80] .script).1.toks.length = 3 :=
  let ⟨_, _, truncatedFullWidth, _⟩ := gen_vectors
  truncatedFullWidth
example : (tokenize genCfg #[97, 59, 36] .script).1.toks.map (·.ty) = [274, 230, 228] :=
  let ⟨_, _, _, trailingDollar⟩ := gen_vectors
  trailingDollar

section ParseWork
open Model.Backtrack Proofs.Backtrack

/-- **Linear work.** A parser whose readings only move forward or re-read a group's own tokens
(no look-ahead scan, no retry over a nested parse) advances its cursor at most `2·size` times, for
every source. -/
theorem C01_parse_work_linear {pol : Nat → Policy} (h : ∀ k, pol k = .direct ∨ pol k = .retryFlat)
    (t : Tree) : work pol t ≤ 2 * t.size :=
  work_le_linear h t

/-- **Polynomial work.** With token look-ahead scans to the matching closer allowed too — but no
reading that rewinds over a nested parse — the work is at most `2·size·(depth+1)`, hence at most
`2·size²`: a modest function of the input length, whatever the source. (The harness checks
`advances ≤ 2·tokens·(depth+1) + 64` on the real parser when the tree carries the verif hook.) -/
theorem C01_parse_work_polynomial {pol : Nat → Policy} (h : ∀ k, (pol k).nestedRetry = false)
    (t : Tree) : work pol t ≤ 2 * t.size * (t.depth + 1) ∧ work pol t ≤ 2 * t.size * t.size :=
  ⟨work_le_quadratic h t, work_le_size_sq h t⟩

/-- **Negation witness: rewind after a nested parse doubles per level.** If the reading of one
bracket kind parses an element, rewinds and parses it again, the source that nests that construct
`d` deep — `2d+1` tokens — costs at least `2^d` advances. -/
theorem C01_nested_retry_exponential {pol : Nat → Policy} {k : Nat} (hk : (pol k).nestedRetry = true)
    (d : Nat) : (nest k d).size = 2 * d + 1 ∧ 2 ^ d ≤ work pol (nest k d) :=
  ⟨size_nest k d, two_pow_le_work_nest hk d⟩

/-- … so no bound of the form `c·size²` holds for such a parser (the full statement "bounded by a
modest function of the input length" fails). -/
theorem C01_nested_retry_no_square_bound {pol : Nat → Policy} {k : Nat} (hk : (pol k).nestedRetry = true) :
    ¬ ∃ c, ∀ t : Tree, work pol t ≤ c * (t.size * t.size) :=
  no_square_bound hk

/-- **Characterisation (model = spec).** The work of a backtracking recursive-descent parser is a
modest function of the input length for every source **iff** none of its readings rewinds over a
nested parse. -/
theorem C01_modest_work_iff (pol : Nat → Policy) :
    Spec.Backtrack.ModestWork pol ↔ ∀ k, (pol k).nestedRetry = false := by
  constructor
  · intro hm k
    cases h : (pol k).nestedRetry
    · rfl
    · exact absurd hm (no_square_bound h)
  · intro h
    exact ⟨2, fun t => by
      have := work_le_size_sq h t
      rwa [Nat.mul_assoc] at this⟩

/-- The cursor writes that move backwards over a nested parse and are nevertheless bounded: the
speculative multi-assignment reading `$a, $b = …` of `parseAssignment` is entered only when the
token look-ahead `multiAssignAhead` has seen `(, $var)+ =` — every element is then a single
variable token, the reading succeeds, and the restore is not reached with a nested parse behind
it (before /repo commit 75ece56 the look-ahead accepted any assignment operator at bracket depth 0
and `[$a, [$a, 1] = $x] = $y` doubled per level: harness finding `work:nest:[] after start`). -/
def guardedRewinds : List (String × String × String) :=
  [("parser/expression_parser.go", "ExpressionParser.parseAssignment", "checkPositionIs,multiAssignAhead")]

/-- obligation on the regenerated facts: the translator recognised every cursor write -/
theorem gen_rewinds_shape : Generated.C01.rewindShapeChanged = [] := by decide

/-- obligation on the regenerated facts: no cursor write of parser/*.go moves backwards over a nested
parse of the same tokens, except the guarded ones. A change that saves the position, calls a
recursive parse and restores the position (`try A, rewind, parse B`) breaks this `decide`. -/
theorem gen_rewinds_bounded : sitesBounded guardedRewinds Generated.C01.positionWrites = true := by decide +kernel

theorem tableOf_noNestedRetry {g : List (String × String × String)} {ws : List PosWrite}
    (h : sitesBounded g ws = true) : ∀ k, (tableOf g ws k).nestedRetry = false := by
  intro k
  unfold tableOf
  cases hw : ws[k]? with
  | none => rfl
  | some w =>
    have hb := (List.all_eq_true.mp h) w (List.mem_of_getElem? hw)
    rw [← policyOf_bounded] at hb
    exact (Bool.not_eq_true' _).mp hb

/-- **The pinned parser's policy table is quadratic.** For the table read off the regenerated
cursor writes (guarded writes cost a scan), every source is parsed with at most
`2·size·(depth+1) ≤ 2·size²` cursor advances. -/
theorem C01_parse_work_generated (t : Tree) :
    work (tableOf guardedRewinds Generated.C01.positionWrites) t ≤ 2 * t.size * (t.depth + 1) ∧
    work (tableOf guardedRewinds Generated.C01.positionWrites) t ≤ 2 * t.size * t.size :=
  C01_parse_work_polynomial (tableOf_noNestedRetry gen_rewinds_bounded) t

/-- `C01_modest_work_iff` at the regenerated table -/
theorem C01_generated_modest_work :
    Spec.Backtrack.ModestWork (tableOf guardedRewinds Generated.C01.positionWrites) :=
  (C01_modest_work_iff _).mpr (tableOf_noNestedRetry gen_rewinds_bounded)

/-- a table with a scan and a flat retry meets the hypothesis of `C01_parse_work_polynomial` … -/
example : ∀ k, ((fun k => if k = 0 then Policy.scan else if k = 1 then .retryFlat else .direct) k).nestedRetry = false := by
  intro k; by_cases h0 : k = 0 <;> by_cases h1 : k = 1 <;> simp [h0, h1, Policy.nestedRetry]
/-- … the regenerated list does contain a backwards write over a nested parse (the guarded one) … -/
example : ∃ w ∈ Generated.C01.positionWrites, w.reparsesNested = true := by decide
/-- … and the seeded shape — a restore after a nested parse in `LbraceParser.Parse` — fails the obligation -/
example : sitesBounded guardedRewinds
    [{ file := "parser/lbrace_parser.go", fn := "LbraceParser.Parse", kind := .restore, swap := false, nested := true, guard := "" }] = false := by decide
/-- 24 bare blocks around one token: 49 tokens, at least 16 777 216 advances under a nested retry -/
example : (nest 0 24).size = 49 ∧ 16777216 ≤ work (fun _ => .retryFirst) (nest 0 24) := by
  have := C01_nested_retry_exponential (pol := fun _ => .retryFirst) (k := 0) rfl 24
  simpa using this

end ParseWork

/-! ## Accepted-program-is-complete clause: the missing-operand guard and Go's typed nil

`Parser.required` is a test `v == nil` on an interface value. It is sound for a producer exactly when
the producer reports "nothing found" as the UNTYPED nil. A sub-parser with a concrete pointer result
type that returns `nil` reaches the guard as a typed nil: accepted, and dereferenced when the program
is executed. The tie to parser/*.go: `Generated.C01.ifaceConversions` (extract/c01/typednil.go) lists
every conversion of a declared pointer result to an interface slot; obligation
`gen_no_typed_nil_guard_sites`. -/
section TypedNil
open Model.TypedNil Spec.TypedNil

/-- **The guard is sound for a producer iff "nothing found" arrives as the untyped nil** (for any
producer that hands back the node it found). -/
theorem C01_required_guard_sound_iff (conv : Found → Iface)
    (hnode : ∀ n, conv (some n) = .typed (.node n)) (hnone : ∀ n, conv none ≠ .typed (.node n)) :
    GuardSound conv ↔ conv none = .untyped := by
  constructor
  · intro h
    cases hc : conv none with
    | untyped => rfl
    | typed p =>
      cases p with
      | node n => exact absurd hc (hnone n)
      | nil =>
        have := h none (.typed .nil) (by simp [required, hc, Iface.isNil])
        simp [Iface.use] at this
  · intro h r w hw
    cases r with
    | none => simp [required, h, Iface.isNil] at hw
    | some n =>
      simp [required, hnode, Iface.isNil] at hw
      subst hw; simp [Iface.use]

/-- and then the guard is also complete: a missing operand is rejected with the diagnostic -/
theorem C01_required_guard_complete_iff (conv : Found → Iface) :
    GuardComplete conv ↔ conv none = .untyped := by
  unfold GuardComplete required
  cases hc : conv none with
  | untyped => simp [Iface.isNil]
  | typed p => simp [Iface.isNil]

/-- a sub-parser declared to return the interface is guarded soundly and completely … -/
theorem C01_iface_producer_guarded : GuardSound viaIface ∧ GuardComplete viaIface :=
  ⟨(C01_required_guard_sound_iff viaIface (fun _ => rfl) (fun _ => by simp [viaIface])).mpr rfl,
   (C01_required_guard_complete_iff viaIface).mpr rfl⟩

/-- … so is a pointer producer whose result is tested before the conversion … -/
theorem C01_checked_ptr_producer_guarded : GuardSound viaPtrChecked ∧ GuardComplete viaPtrChecked :=
  ⟨(C01_required_guard_sound_iff viaPtrChecked (fun _ => rfl) (fun _ => by simp [viaPtrChecked])).mpr rfl,
   (C01_required_guard_complete_iff viaPtrChecked).mpr rfl⟩

/-- **Negation witness (the seeded shape).** A helper declared `(*T, Control)` that returns `nil, nil`
for a missing operand defeats the guard: the incomplete construct is accepted and evaluating it
dereferences nil. Replayed on the real code by the hole stream (`[0, ...]`). -/
theorem C01_typed_nil_defeats_guard :
    required (viaPtr none) false = .accept (.typed .nil) ∧ (Iface.typed .nil).use = .nilDeref ∧
    ¬ GuardSound viaPtr ∧ ¬ GuardComplete viaPtr := by
  refine ⟨rfl, rfl, ?_, ?_⟩
  · intro h
    exact h none (.typed .nil) rfl rfl
  · intro h
    simp [GuardComplete, required, viaPtr, Iface.isNil] at h

/-- **Table theorem.** If no regenerated conversion site can carry a typed nil, every conversion of
the table is guarded soundly and completely; -/
theorem C01_no_typed_nil_sound {tbl : List Conv} (h : noTypedNil tbl = true) :
    ∀ c ∈ tbl, GuardSound c.conv ∧ GuardComplete c.conv := by
  intro c hc
  have hb := (List.all_eq_true.mp h) c hc
  have hconv : c.conv none = .untyped ∧ (∀ n, c.conv (some n) = .typed (.node n)) := by
    unfold Conv.conv
    cases hn : c.nilOk <;> cases hk : c.checked <;> simp [Conv.typedNil, hn, hk] at hb ⊢ <;>
      exact ⟨rfl, fun _ => rfl⟩
  exact ⟨(C01_required_guard_sound_iff c.conv hconv.2 (fun n => by simp [hconv.1])).mpr hconv.1,
         (C01_required_guard_complete_iff c.conv).mpr hconv.1⟩

/-- and conversely a site that can is unsound: the obligation is exactly the property of the table -/
theorem C01_typed_nil_site_unsound {c : Conv} (h : c.typedNil = true) :
    ¬ GuardSound c.conv ∧ ¬ GuardComplete c.conv := by
  have hc : c.conv = viaPtr := by
    unfold Conv.conv
    simp [Conv.typedNil] at h
    simp [h.1, h.2]
  rw [hc]
  exact ⟨C01_typed_nil_defeats_guard.2.2.1, C01_typed_nil_defeats_guard.2.2.2⟩

theorem C01_no_typed_nil_iff (tbl : List Conv) :
    noTypedNil tbl = true ↔ ∀ c ∈ tbl, GuardSound c.conv := by
  constructor
  · intro h c hc
    exact (C01_no_typed_nil_sound h c hc).1
  · intro h
    apply List.all_eq_true.mpr
    intro c hc
    cases ht : c.typedNil with
    | false => rfl
    | true => exact absurd (h c hc) (C01_typed_nil_site_unsound ht).1

theorem gen_typednil_shape : Generated.C01.typedNilShapeChanged = [] := by decide

/-- obligation on the regenerated facts ("no typed-nil guard sites"): no function of package parser
with a concrete pointer result type that may return (nil, no error) has that result converted to an
interface slot without a nil test. A helper `parseX() (*node.X, data.Control)` under
`p.required(p.parseX())` breaks this `decide`. -/
theorem gen_no_typed_nil_guard_sites : noTypedNil Generated.C01.ifaceConversions = true := by decide

/-- **The pinned parser's conversions are all guarded soundly and completely.** -/
theorem C01_guard_sound_generated :
    ∀ c ∈ Generated.C01.ifaceConversions, GuardSound c.conv ∧ GuardComplete c.conv :=
  C01_no_typed_nil_sound gen_no_typed_nil_guard_sites

/-- the regenerated table is not empty … -/
example : Generated.C01.ifaceConversions ≠ [] := by decide
/-- … an accepted operand is used … -/
example : required (viaIface (some 7)) false = .accept (.typed (.node 7)) ∧ (Iface.typed (.node 7)).use = .ok 7 := by decide
/-- … and the seeded shape — `ep.required(ep.parseSpread())` with `parseSpread` returning `nil, acl` — fails the obligation -/
example : noTypedNil [{ file := "parser/lbracket_parser.go", fn := "LbracketParser.Parse", producer := "parseSpread", form := .forward, consumer := "required", nilOk := true, checked := false }] = false := by decide

end TypedNil

end C01
