import Proofs.Lemmas.CtlSim
import Proofs.Lemmas.CtlMono
import Proofs.Lemmas.CtlExit
import Proofs.Lemmas.CtlIso
import Proofs.Lemmas.CtlWitness
import Proofs.Lemmas.CtlShape
import Generated.C02Shapes
import Proofs.Lemmas.CtlScan
import Generated.C02BodyScans
import Proofs.Lemmas.CtlTable
/-!
# C02 — control flow and function calls behave as the reference semantics prescribe

`Spec.Ctl` is the reference semantics (big-step, fuel-indexed,
structured outcomes `normal | brk n | cont n | ret v`, every loop and `switch` consumes one
level, a call has its own locals, static locals are cells shared by all activations).
`Model.Ctl` is the interpreter as coded: `compile` builds the node tree the parser builds
(variable indexes in order of first appearance, the fused integer nodes of
`node/fused_assign.go` chosen by the same patterns) and the evaluator follows the `GetValue`
of each node (`node/while.go`, `do_while.go`, `for.go`, `foreach.go`, `switch.go`, `call.go`,
`function.go`, `var.go` as they are after the fixes `C02-while-continue`,
`C02-for-incr-alias`, `C02-static-cell`, `C02-switch-fallthrough`, `C02-stray-break`,
`C02-switch-loose-compare`).

Every theorem quantifies over all programs of the language (`Spec.Ctl.Prog`: any nesting
depth, any number of functions and variables) and all amounts of fuel.
-/
namespace C02
open Spec.Ctl Model.Ctl Proofs.Ctl

/-! ## the model follows the reference semantics

Full statement (false on the pinned interpreter, see the four witnesses below):

    ∀ p fuel r, Spec.Ctl.run p fuel = some r → Model.Ctl.run p fuel = some r
-/

/-- **Refinement** on the fragment `inFragment` (single-level `break`/`continue`, function
bodies end in `return`, calls pass between the required and the declared number of
arguments, parameter names distinct): whenever the reference semantics gives a program an
answer — output and done/error — within the fuel, the model of the interpreter gives exactly
that answer with the same fuel. -/
theorem C02_refines_partial (p : Prog) (h : inFragment p = true) (fuel : Nat) (r : List String × Status)
    (hs : Spec.Ctl.run p fuel = some r) : Model.Ctl.run p fuel = some r := by
  simp only [inFragment, Bool.and_eq_true, List.all_eq_true] at h
  have hsim := (simAt h.1 fuel).execB (mainScope p) none p.main .null St.init (MSt.init (mainScope p).length)
    (by intro g sv e; cases e) (rel_init p.funs _) (covers_mkScope _) h.2
  unfold Spec.Ctl.run at hs
  unfold Model.Ctl.run runM
  simp only [compile]
  -- in each completed case both runs report the output of related states under the same status; the cases are those
  -- of `relO_cases`, in its order: out of fuel, then normal / brk / cont / ret / err
  refine relO_cases hsim (fun e => by rw [e] at hs; cases hs) ?_ ?_ ?_ ?_ ?_
  · rintro s v m e1 e2 hr; rw [e1] at hs; rw [e2]; simpa [hr.out] using hs
  · rintro s l m e1 e2 hr; rw [e1] at hs; rw [e2]; simpa [hr.out] using hs
  · rintro s m e1 e2 hr; rw [e1] at hs; rw [e2]; simpa [hr.out] using hs
  · rintro s v m e1 e2 hr; rw [e1] at hs; rw [e2]; simpa [hr.out] using hs
  · rintro s m e1 e2 hr; rw [e1] at hs; rw [e2]; simpa [hr.out] using hs

/-- **Fuel monotonicity**: more fuel never changes an answer of the reference semantics, so
`C02_refines_partial` speaks about every terminating program: the model agrees at the fuel
where the reference run completes and at every larger one. -/
theorem C02_fuel_mono (p : Prog) (fuel k : Nat) (r : List String × Status)
    (h : Spec.Ctl.run p fuel = some r) : Spec.Ctl.run p (fuel + k) = some r := by
  have mono : Res.le (execB p.funs fuel none p.main St.init) (execB p.funs (fuel+k) none p.main St.init) := by
    induction k with
    | zero => exact Res.le_refl _
    | succ k ih =>
      cases ih with
      | inl h => exact Or.inl h
      | inr h => rw [h]; exact (monoAt p.funs (fuel+k)).execB
  unfold Spec.Ctl.run at h ⊢
  cases mono with
  | inl ht => rw [ht] at h; cases h
  | inr he => rw [← he]; exact h

theorem C02_refines_all_fuel (p : Prog) (h : inFragment p = true) (fuel k : Nat) (r : List String × Status)
    (hs : Spec.Ctl.run p fuel = some r) : Model.Ctl.run p (fuel + k) = some r :=
  C02_refines_partial p h (fuel + k) r (C02_fuel_mono p fuel k r hs)

-- non-vacuity: a program with every loop, `switch`, `match`, a static and a defaulted call is in the fragment,
-- terminates, and prints this
example : inFragment progAll = true := progAll_inFragment
set_option maxRecDepth 20000 in
example : Spec.Ctl.run progAll 40 = some (["w", "1", "w", "3", "s", "0", "s", "1", "d", "z", "n", "7", "4"], .done) :=
  progAll_run
set_option maxRecDepth 20000 in
example : Model.Ctl.run progAll 40 = some (["w", "1", "w", "3", "s", "0", "s", "1", "d", "z", "n", "7", "4"], .done) :=
  C02_refines_partial progAll progAll_inFragment 40 _ progAll_run

/-! ### negation witnesses (each is replayed on the real interpreter by the harness) -/

/-- `break 2` ends only the innermost loop: every loop node consumes *any* Break. -/
theorem C02_refines_break_level_counterexample :
    ¬ (∀ p fuel r, Spec.Ctl.run p fuel = some r → Model.Ctl.run p fuel = some r) :=
  not_refines_of (p := progBreak2) (fuel := 12) (a := ([], .done)) (b := (["a", "a"], .done)) (by decide +kernel) (by decide +kernel) (by decide)

/-- `continue 2` (parsed as `continue; 2;`) is consumed by the switch it is written in. -/
theorem C02_refines_continue_level_counterexample :
    ¬ (∀ p fuel r, Spec.Ctl.run p fuel = some r → Model.Ctl.run p fuel = some r) :=
  not_refines_of (p := progContinue2) (fuel := 12) (a := ([], .done)) (b := (["a", "a"], .done)) (by decide +kernel) (by decide +kernel) (by decide)

/-- A function body that runs off its end yields the value of its last statement, not null. -/
theorem C02_refines_implicit_return_counterexample :
    ¬ (∀ p fuel r, Spec.Ctl.run p fuel = some r → Model.Ctl.run p fuel = some r) :=
  not_refines_of (p := progNoReturn) (fuel := 12) (a := (["[", "", "]"], .done)) (b := (["[", "5", "]"], .done)) (by decide +kernel) (by decide +kernel) (by decide)

/-- A missing required argument is silently null instead of an error. -/
theorem C02_refines_arity_counterexample :
    ¬ (∀ p fuel r, Spec.Ctl.run p fuel = some r → Model.Ctl.run p fuel = some r) :=
  not_refines_of (p := progTooFew) (fuel := 12) (a := ([], .error)) (b := (["1", "after"], .done)) (by decide +kernel) (by decide +kernel) (by decide)

-- none of the four witnesses is in the fragment
example : inFragment progBreak2 = false ∧ inFragment progContinue2 = false ∧
    inFragment progNoReturn = false ∧ inFragment progTooFew = false := by decide

/-- **A `break n` / `continue n` leaves at most `n` constructs, and none it does not name.**
If every `break n` / `continue n` in a statement is written under at least `n - k` enclosing
loops or switches of that statement (`closedS k`), the statement's outcome leaves at most
`k` constructs around it (`brk m` / `cont m` with `1 ≤ m ≤ k`) — at every fuel, from every
state. -/
theorem C02_exit_targets (funs : List FunDecl) (fuel k : Nat) (cur : Cur) (st : Stmt) (s s' : St) (o : Out)
    (hcl : closedS k st = true) (h : execS funs fuel cur st s = .ok o s') : OutLe k o :=
  (exitAt funs fuel).execS hcl o s' h

/-- In particular a statement whose jumps all name constructs inside it (`closedS 0`) ends
normally or by `return`: no loop outside it is ever left or restarted. -/
theorem C02_exit_targets_closed (funs : List FunDecl) (fuel : Nat) (cur : Cur) (st : Stmt) (s s' : St) (o : Out)
    (hcl : closedS 0 st = true) (h : execS funs fuel cur st s = .ok o s') :
    o = .normal ∨ ∃ v, o = .ret v := by
  have := C02_exit_targets funs fuel 0 cur st s s' o hcl h
  cases o with
  | normal => exact Or.inl rfl
  | ret v => exact Or.inr ⟨v, rfl⟩
  | brk m => simp only [OutLe] at this; omega
  | cont m => simp only [OutLe] at this; omega

/-- A `while` loop hands a `break` that names a construct further out (`n + 2` levels) on at once, one
level lower, in the state the body left: no further iteration, no condition. (`continue n+2` and the other loops
are covered through the bound of `C02_exit_targets` only.) -/
theorem C02_exit_loop_immediate (funs : List FunDecl) (fuel : Nat) (cur : Cur) (c : Expr) (b : Block)
    (s s1 s2 : St) (vc : Val) (n : Nat)
    (hc : evalE funs fuel cur c s = .ok vc s1) (ht : vc.truthy = true)
    (hb : execB funs fuel cur b s1 = .ok (.brk (n+2)) s2) :
    execWhile funs (fuel+1) cur c b s = .ok (.brk (n+1)) s2 :=
  execWhile_exit funs fuel cur c b s s1 s2 vc _ _ hc ht hb rfl

/-- `break 1` in a `while` body ends exactly that loop: the loop completes normally in the
state the body left, and what follows the loop runs next (`execB` on `cons`). -/
theorem C02_exit_loop_break (funs : List FunDecl) (fuel : Nat) (cur : Cur) (c : Expr) (b : Block)
    (s s1 s2 : St) (vc : Val)
    (hc : evalE funs fuel cur c s = .ok vc s1) (ht : vc.truthy = true)
    (hb : execB funs fuel cur b s1 = .ok (.brk 1) s2) :
    execWhile funs (fuel+1) cur c b s = .ok .normal s2 :=
  execWhile_exit funs fuel cur c b s s1 s2 vc _ _ hc ht hb rfl

/-- `return` unwinds to the nearest enclosing call and no further; `break` / `continue` never
cross a call: whatever the body does, a call yields a value or an error. -/
theorem C02_exit_call (env : Env) (r : Res Out) :
    (∀ v s, r = .ok (.ret v) s → callResult env r = .ok v { s with env := env }) ∧
    (∀ n s, r = .ok (.brk n) s → callResult env r = .err { s with env := env }) ∧
    (∀ n s, r = .ok (.cont n) s → callResult env r = .err { s with env := env }) := by
  refine ⟨?_, ?_, ?_⟩ <;> intro a s e <;> subst e <;> rfl

-- non-vacuity: `for { for { break 2; } echo }` is closed, its inner loop alone is not
example : closedS 0 (forUpTo 0 2 [forUpTo 1 2 [.brk 2], echo [str "a"]]) = true ∧
    closedS 0 (forUpTo 1 2 [.brk 2]) = false ∧ closedS 1 (forUpTo 1 2 [.brk 2]) = true := by decide

/-- **The caller's slots are untouched by the callee.** After a call (however it ends) the
running Context holds exactly the slot vector that evaluating the arguments left. -/
theorem C02_locals_isolated (mf : List MFun) (fuel : Nat) (g : FName) (args : MArgs) (s : MSt) (d : MFun)
    (hd : Model.Ctl.lookupFun mf g = some d) (slots : List Val) (s1 : MSt)
    (hb : bindArgs mf fuel d.params args s (List.replicate d.nvars .null) = .ok slots s1) (fr : Frame)
    (h : frameOf (evalM mf (fuel+1) (.call g args) s) = some fr) : fr = s1.fr := by
  rw [call_unfold mf fuel g args s d hd, hb] at h
  exact callResultM_frame _ _ _ h

/-- **A call depends only on its argument values, the static cells and the output so far.**
Two calls of `g` from arbitrary contexts whose arguments bind to the same fresh slot vector,
with the same static cells and output, give the same result, static cells and output —
whatever the callers' own variables hold. -/
theorem C02_call_depends_only_on_args (mf : List MFun) (fuel : Nat) (g : FName) (argsA argsB : MArgs)
    (sA sB : MSt) (d : MFun) (hd : Model.Ctl.lookupFun mf g = some d) (slots : List Val) (sA1 sB1 : MSt)
    (hA : bindArgs mf fuel d.params argsA sA (List.replicate d.nvars .null) = .ok slots sA1)
    (hB : bindArgs mf fuel d.params argsB sB (List.replicate d.nvars .null) = .ok slots sB1)
    (hst : sA1.statics = sB1.statics) (hout : sA1.out = sB1.out) :
    noFrame (evalM mf (fuel+1) (.call g argsA) sA) = noFrame (evalM mf (fuel+1) (.call g argsB) sB) := by
  rw [call_unfold mf fuel g argsA sA d hd, call_unfold mf fuel g argsB sB d hd, hA, hB]
  simp only [MRes.bind, hst, hout]
  exact callResultM_noFrame _ _ _

-- non-vacuity: `f(1)` called with the caller's slots holding [7] resp. [9, 9]
set_option maxRecDepth 8000 in
example :
    noFrame (evalM (compile progAll).funs 20 (.call 0 (.cons (.lit (.int 1)) .nil))
        { fr := { slots := [.int 7], bound := [], fn := none }, statics := [], out := [] }) =
      noFrame (evalM (compile progAll).funs 20 (.call 0 (.cons (.lit (.int 1)) .nil))
        { fr := { slots := [.int 9, .int 9], bound := [], fn := none }, statics := [], out := [] }) := by
  decide +kernel

/-- VarPostIncr / VarPostDecr (`$x++`, `$x--`): integer path = PostfixIncr / PostfixDecr. -/
theorem C02_fastpath_eq_incr (s : MSt) (i : Nat) :
    incFused .postInc s i = incGeneral .postInc s i ∧ incFused .postDec s i = incGeneral .postDec s i :=
  ⟨incFused_post _ (.inl rfl) s i, incFused_post _ (.inr rfl) s i⟩

/-- VarStmtIncr (the `$x++` of a `for` increment): same effect as PostfixIncr, the value is
never used. -/
theorem C02_fastpath_eq_stmt_incr (mf : List MFun) (fuel : Nat) (e : MExpr) (m : MSt) (k : MSt → MRes Val) :
    (evalM mf (fuel+1) (toStmtIncr e) m).bind (fun _ m1 => k m1) =
      (evalM mf (fuel+1) e m).bind (fun _ m1 => k m1) :=
  toStmtIncr_effect mf fuel e m k

/-- VarFastAssign, for every assignment `$x = e` the parser turns into one: same value, same
state as BinaryAssignVariable on the same right-hand side (which may need more fuel). -/
theorem C02_fastpath_eq (mf : List MFun) (sc : List Var) (x : Var) (e : Expr) (m : MSt) (fuel : Nat) :
    evalM mf (fuel+1) (.assignVar (idx sc x) (compE sc e)) m = .timeout ∨
    evalM mf (fuel+1) (mkAssign sc x e (compE sc e)) m =
      evalM mf (fuel+1) (.assignVar (idx sc x) (compE sc e)) m :=
  mkAssign_eq mf sc x e m fuel

/-- VarIntLe (`$x <= n`): the boolean of what BinaryLe gives. -/
theorem C02_fastpath_eq_le (mf : List MFun) (i : Nat) (n : Int) (m : MSt) (fuel : Nat) :
    evalM mf (fuel+1) (.bin .le (.var i) (.lit (.int n))) m = .timeout ∨
    evalM mf (fuel+1) (.varIntLe i n (.bin .le (.var i) (.lit (.int n)))) m =
      (evalM mf (fuel+1) (.bin .le (.var i) (.lit (.int n))) m).bind fun v s => .ok (.bool v.truthy) s := by
  cases fuel with
  | zero => left; simp [evalM, binM, MRes.bind]
  | succ f =>
    right
    simp only [evalM, binM]
    cases hg : m.getSlot i with
    | none => simp [MRes.bind]
    | some v => cases v <;> simp [MRes.bind, binop, Val.truthy]

-- non-vacuity: `$x = $x * 3` on an int slot takes the integer path and agrees
example :
    evalM [] 3 (mkAssign [0] 0 (.bin .mul (.var 0) (.lit (.int 3))) (compE [0] (.bin .mul (.var 0) (.lit (.int 3)))))
        { fr := { slots := [.int 4], bound := [], fn := none }, statics := [], out := [] } =
      evalM [] 3 (.assignVar 0 (compE [0] (.bin .mul (.var 0) (.lit (.int 3)))))
        { fr := { slots := [.int 4], bound := [], fn := none }, statics := [], out := [] } := rfl

/-! ## the node rules are what the source says (regenerated facts)

`Model.Ctl`'s loop, switch, call, `if` and `static` rules are hand-written mirrors of the Go
nodes.  `extract/c02` regenerates, on every run, the shape of those nodes from the source
(`Generated.C02`, data only; `Model.CtlShape` says what the data means).  For each rule there is
(1) a generic theorem over EVERY table — the evaluator the facts describe equals the
hand-written rule whenever the table passes the decidable test `…OK` (all programs, all fuel,
all states) — and (2) the obligation `…OK Generated.C02.…` by `decide`. No instance for the generated table is stated
for the `elseif` and clause-scan rules, and no negation witness for foreach, switch body and block.
A source change that invalidates a rule breaks the obligation that names the rule. -/

open Model.CtlShape Proofs.CtlShape

/-- `while`: condition, body; Break ends the loop, Continue goes back to the condition,
Return / Throw go up. -/
theorem C02_tie_while (L : LoopFacts) (h : whileOK L = true) (funs : List MFun) (fuel : Nat) (c : MExpr)
    (incs : MArgs) (b : MBlock) (v : Val) (s : MSt) :
    loopBy L funs fuel c incs b v s = whileM funs fuel c b v s := by
  simp only [whileOK, LoopFacts.base, Bool.and_eq_true, Bool.or_eq_true, beq_iff_eq] at h
  obtain ⟨⟨⟨⟨⟨hbase, hce⟩, _⟩, _⟩, hph⟩, hcont⟩ := h
  induction fuel generalizing v s with
  | zero => simp [loopBy, whileM]
  | succ f ih =>
    simp only [loopBy, whileM, hph, runPhases, hce, Bool.not_true, Bool.or_false, ih]
    congr 1
    funext vc s1
    split
    · exact (loopArms_of hbase).afterBody_last hcont funs f b v s1 _
    · rfl

/-- `do-while`: body, condition; Continue still evaluates the condition. -/
theorem C02_tie_do (L : LoopFacts) (h : doOK L = true) (funs : List MFun) (fuel : Nat) (c : MExpr)
    (incs : MArgs) (b : MBlock) (v : Val) (s : MSt) :
    loopBy L funs fuel c incs b v s = doM funs fuel b c v s := by
  simp only [doOK, LoopFacts.base, Bool.and_eq_true, beq_iff_eq] at h
  obtain ⟨⟨⟨⟨⟨hbase, hce⟩, _⟩, _⟩, hph⟩, hn⟩ := h
  have A := hn ▸ loopArms_of hbase
  induction fuel generalizing v s with
  | zero => simp [loopBy, doM]
  | succ f ih =>
    simp only [loopBy, doM, hph, runPhases, hce, Bool.not_true, Bool.or_false, ih]
    exact A.afterBody (by decide) (by decide) funs f b v s _ _

/-- `for`: condition, body, increments; Continue still runs the increments; no path around
the loop, no assertion on the header other than the BoolTest short cut. -/
theorem C02_tie_for (L : LoopFacts) (h : forOK L = true) (funs : List MFun) (fuel : Nat) (c : MExpr)
    (incs : MArgs) (b : MBlock) (v : Val) (s : MSt) :
    loopBy L funs fuel c incs b v s = Model.Ctl.forM funs fuel c incs b v s := by
  simp only [forOK, LoopFacts.base, Bool.and_eq_true, beq_iff_eq] at h
  obtain ⟨⟨⟨⟨⟨hbase, hce⟩, _⟩, _⟩, hph⟩, hn⟩ := h
  have A := hn ▸ loopArms_of hbase
  induction fuel generalizing v s with
  | zero => simp [loopBy, Model.Ctl.forM]
  | succ f ih =>
    simp only [loopBy, Model.Ctl.forM, hph, runPhases, hce, Bool.not_true, Bool.or_false, ih]
    congr 1
    funext vc s1
    split
    · exact A.afterBody (by decide) (by decide) funs f b v s1 _ _
    · rfl

/-- `foreach` over an array. -/
theorem C02_tie_foreach (d : Dispatch) (h : foreachOK d = true) (funs : List MFun) (fuel : Nat) (k : Option Nat)
    (vi : Nat) (b : MBlock) (xs : List Int) (i : Nat) (v : Val) (s : MSt) :
    foreachBy d funs fuel k vi b xs i v s = foreachM funs fuel k vi b xs i v s := by
  simp only [foreachOK, Bool.and_eq_true, Bool.or_eq_true, beq_iff_eq] at h
  obtain ⟨hbase, hcont⟩ := h
  induction fuel generalizing xs i v s with
  | zero => simp [foreachBy, foreachM]
  | succ f ih =>
    cases xs with
    | nil => simp [foreachBy, foreachM]
    | cons x xs =>
      simp only [foreachBy, foreachM, ih]
      congr 1
      funext _ s1
      exact (loopArms_of hbase).afterBody_last hcont funs f b v _ _

/-- the bodies of a `switch`: fall through until Break or Continue, which end the switch. -/
theorem C02_tie_switch_body (d : Dispatch) (h : switchBodyOK d = true) (funs : List MFun) (fuel : Nat)
    (cs : MCases) (dflt : MBlock) (s : MSt) :
    runBodiesBy d funs fuel cs dflt s = runBodiesM funs fuel cs dflt s := by
  simp only [switchBodyOK, Bool.and_eq_true, beq_iff_eq] at h
  obtain ⟨⟨⟨⟨_, hb⟩, hc⟩, hr⟩, ht⟩ := h
  have A : Arms d .leave .leave := ⟨fun _ => hb, hc, fun _ => hr, ht⟩
  induction fuel generalizing cs s with
  | zero => simp [runBodiesBy, runBodiesM]
  | succ f ih =>
    cases cs <;> simp only [runBodiesBy, runBodiesM, ih] <;> exact A.afterBody (by decide) (by decide) funs f _ _ s _ _

/-- branches of `if` and arms of `match` consume no control. -/
theorem C02_tie_block (d : Dispatch) (h : blockOK d = true) (funs : List MFun) (fuel : Nat) (b : MBlock) (v : Val)
    (s : MSt) : blockBy d funs fuel b v s = execMB funs fuel b v s := by
  simp only [blockOK, Bool.and_eq_true, beq_iff_eq] at h
  obtain ⟨⟨⟨⟨_, hb⟩, hc⟩, hr⟩, ht⟩ := h
  have A : Arms d .propagate .propagate := ⟨fun _ => hb, hc, fun _ => hr, ht⟩
  refine (A.afterBody (by decide) (by decide) funs fuel b v s _ _).trans ?_
  cases execMB funs fuel b v s with
  | ctl c s' => cases c <;> rfl
  | _ => rfl

/-- the call boundary: Return is the value, an escaping Break / Continue becomes a thrown error. -/
theorem C02_tie_call (d : Dispatch) (h : callOK d = true) (caller : Frame) (r : MRes Val) :
    callResultBy d caller r = callResultM caller r := by
  simp only [callOK, Bool.and_eq_true, beq_iff_eq] at h
  obtain ⟨⟨⟨⟨_, hr⟩, hb⟩, hc⟩, ht⟩ := h
  cases r with
  | timeout => rfl
  | ok v s => rfl
  | ctl c s => cases c <;> simp [callResultBy, callResultM, callArm, hr, hb, hc, ht]

/-- the `elseif` chain runs the first branch whose test succeeds and evaluates no later test. -/
theorem C02_tie_elseif (F : ScanFacts) (h : ifScanOK F = true) (funs : List MFun) (fuel : Nat) (es : MElseIfs)
    (els : MBlock) (s : MSt) : elifsBy F funs fuel es els none s = elifsM funs fuel es els s := by
  simp only [ifScanOK, Bool.and_eq_true, beq_iff_eq] at h
  induction fuel generalizing es s with
  | zero => simp [elifsBy, elifsM]
  | succ f ih =>
    cases es with
    | nil => simp [elifsBy, elifsM]
    | cons c b rest =>
      simp only [elifsBy, elifsM, Option.isSome_none, Bool.false_and, Option.isNone_none, Bool.and_true, h.2]
      cases hc : evalM funs f c s with
      | timeout => simp [MRes.bind]
      | ctl cc s1 => simp [MRes.bind]
      | ok vc s1 => cases ht : vc.truthy <;> simp [MRes.bind, ht, ih]

/-- every clause scan (`elseif`, `match` arms, `switch` labels) evaluates the tests up to and
including the first that succeeds, whatever the outcomes `ts` of the tests would be. -/
theorem C02_tie_scan (F : ScanFacts) (h : scanOK F = true) (ts : List Bool) : scanTests F false ts = refTests ts := by
  simp only [scanOK, Bool.and_eq_true, Bool.or_eq_true, beq_iff_eq] at h
  induction ts with
  | nil => rfl
  | cons t ts ih =>
    cases t with
    | false => simp [scanTests, refTests, ih]
    | true =>
      cases h.2 with
      | inl hg =>
        simp only [scanTests, refTests]
        cases F.afterMatch <;> simp [scanTests_matched_guarded F hg]
      | inr hs => simp [scanTests, refTests, hs]

/-- the `static` statement: the cell is created once and never dropped or overwritten by the store. -/
theorem C02_tie_static_store (F : StoreFacts) (h : storeOK F = true) (g : FName) (s : MSt) (i : Nat) (init : Val) :
    bindStaticBy F g s i init = bindStatic g s i init := by
  simp only [bindStaticBy, bindStatic, initBy_eq F h]

/-- …and in terms of the cells alone: whatever was there stays, for every key. -/
theorem C02_tie_static_cells_kept (F : StoreFacts) (h : storeOK F = true) (cells : List (Nat × Val)) (i j : Nat)
    (v z : Val) (hj : aget cells j = some z) : aget (initBy F cells i v) j = some z := by
  rw [initBy_eq F h]
  split
  · rename_i hi
    have hne : j ≠ i := by intro e; subst e; simp [hj] at hi
    rw [aget_aset_ne _ _ _ _ hne]
    exact hj
  · exact hj

/-- the translator found every named thing -/
theorem C02_tie_shape : Generated.C02.shapeNotes = [] := by first | decide +kernel | fail "obligation C02_tie_shape no longer holds: the translator extract/c02 did not find a construct it names (see Generated.C02.shapeNotes)"

theorem C02_tie_while_facts :
    Generated.C02.whileLoops.all whileOK = true ∧ Generated.C02.whileLoops ≠ [] := by first | decide +kernel | fail "obligation C02_tie_while_facts no longer holds: node/while.go no longer has the shape of Model.Ctl.whileM (phases cond,body; Break leaves, Continue goes to the condition, Return/Throw propagate) — see Generated.C02.whileLoops / unknownWhy"

theorem C02_tie_do_facts :
    Generated.C02.doLoops.all doOK = true ∧ Generated.C02.doLoops ≠ [] := by first | decide +kernel | fail "obligation C02_tie_do_facts no longer holds: node/do_while.go no longer has the shape of Model.Ctl.doM (phases body,cond; Continue must still reach the condition) — see Generated.C02.doLoops / unknownWhy"

theorem C02_tie_for_facts :
    Generated.C02.forLoops.all forOK = true ∧ Generated.C02.forLoops ≠ [] := by first | decide +kernel | fail "obligation C02_tie_for_facts no longer holds: node/for.go no longer has the shape of Model.Ctl.forM (phases cond,body,incr; Continue must still reach the increments; no early path around the loop; no assertion on the header but BoolTest) — see Generated.C02.forLoops / unknownWhy"

theorem C02_tie_foreach_facts : foreachAllOK Generated.C02.foreachBodies = true := by first | decide +kernel | fail "obligation C02_tie_foreach_facts no longer holds: node/foreach.go: a statement loop no longer obeys the loop rule of Model.Ctl.foreachM (Break leaves, Continue goes to the next element) — see Generated.C02.foreachBodies / unknownWhy"

theorem C02_tie_switch_facts :
    Generated.C02.switchBodies.all (fun B => switchBodyOK B.dispatch) = true ∧ Generated.C02.switchBodies ≠ [] := by
  first | decide +kernel | fail "obligation C02_tie_switch_facts no longer holds: node/switch.go: runSwitchBody no longer has the arms of Model.Ctl.runBodiesM (Break and Continue end the switch, Return/Throw propagate, otherwise fall through) — see Generated.C02.switchBodies"

theorem C02_tie_call_facts :
    Generated.C02.callBodies.all (fun B => callOK B.dispatch) = true ∧ Generated.C02.callBodies ≠ [] := by first | decide +kernel | fail "obligation C02_tie_call_facts no longer holds: node/function.go: FunctionStatement.Call no longer has the arms of Model.Ctl.callResultM (Return is the value, Break/Continue become a thrown error, Throw propagates) — see Generated.C02.callBodies"

theorem C02_tie_block_facts : Generated.C02.blocks.all (fun B => blockOK B.dispatch) = true := by first | decide +kernel | fail "obligation C02_tie_block_facts no longer holds: a branch of if / an arm of match consumes a control (Model.Ctl.execMB hands every control up) — see Generated.C02.blocks"

/-- all three scans evaluate a prefix of the tests; the `if` node's scan stops at the branch -/
theorem C02_tie_scan_facts :
    Generated.C02.scans.all scanOK = true ∧ Generated.C02.scans.map (·.over) = ["ElseIf", "Arms", "Cases"] ∧
    (Generated.C02.scans.filter (·.over == "ElseIf")).all ifScanOK = true := by first | decide +kernel | fail "obligation C02_tie_scan_facts no longer holds: a clause scan (if/elseif, match arms, switch labels) may evaluate a test behind the first that succeeds, or the if node no longer runs the branch inside the scan — see Generated.C02.scans"

theorem C02_tie_static_store_facts : storeOK Generated.C02.store = true := by first | decide +kernel | fail "obligation C02_tie_static_store_facts no longer holds: data/static_locals.go / node/var.go: the store of static cells may drop, overwrite or re-create an existing cell (Model.Ctl.bindStatic creates a cell once and keeps it) — see Generated.C02.store"

/-- the header of `for`: one parse-time rewrite (`$x++` increment → VarStmtIncr, same slot, same
fallback), parameters stored in their own fields, one BoolTest type whose GetValue is its
testBool, and `IsBreak` / `IsContinue` are the constants the dispatch code takes them for -/
theorem C02_tie_for_header_facts :
    forCtorOK Generated.C02.forCtor = true ∧
    Generated.C02.boolTests = [{ type := "VarIntLe", getValueViaTestBool := true }] ∧
    controlsOK Generated.C02.controls = true := by first | decide +kernel | fail "obligation C02_tie_for_header_facts no longer holds: the specialised nodes around the for header changed (NewForStatement rewrites, ForStatement fields, BoolTest implementors, IsBreak/IsContinue constants) — see Generated.C02.forCtor / boolTests / controls"

theorem C02_tie_loops_generated (funs : List MFun) (fuel : Nat) (c : MExpr) (incs : MArgs) (b : MBlock) (v : Val)
    (s : MSt) :
    (∀ L ∈ Generated.C02.whileLoops, loopBy L funs fuel c incs b v s = whileM funs fuel c b v s) ∧
    (∀ L ∈ Generated.C02.doLoops, loopBy L funs fuel c incs b v s = doM funs fuel b c v s) ∧
    (∀ L ∈ Generated.C02.forLoops, loopBy L funs fuel c incs b v s = Model.Ctl.forM funs fuel c incs b v s) :=
  ⟨fun L hL => C02_tie_while L (List.all_eq_true.mp C02_tie_while_facts.1 L hL) funs fuel c incs b v s,
   fun L hL => C02_tie_do L (List.all_eq_true.mp C02_tie_do_facts.1 L hL) funs fuel c incs b v s,
   fun L hL => C02_tie_for L (List.all_eq_true.mp C02_tie_for_facts.1 L hL) funs fuel c incs b v s⟩

theorem C02_tie_bodies_generated (funs : List MFun) (fuel : Nat) :
    (∀ B ∈ Generated.C02.foreachBodies, B.isArrayPath = true → ∀ k vi b xs i v s,
      foreachBy B.dispatch funs fuel k vi b xs i v s = foreachM funs fuel k vi b xs i v s) ∧
    (∀ B ∈ Generated.C02.switchBodies, ∀ cs dflt s,
      runBodiesBy B.dispatch funs fuel cs dflt s = runBodiesM funs fuel cs dflt s) ∧
    (∀ B ∈ Generated.C02.blocks, ∀ b v s, blockBy B.dispatch funs fuel b v s = execMB funs fuel b v s) ∧
    (∀ B ∈ Generated.C02.callBodies, ∀ caller r, callResultBy B.dispatch caller r = callResultM caller r) := by
  refine ⟨?_, ?_, ?_, ?_⟩
  · intro B hB hA k vi b xs i v s
    have h := C02_tie_foreach_facts
    simp only [foreachAllOK, Bool.and_eq_true, List.all_eq_true] at h
    have hB' := h.2 B hB
    rw [hA] at hB'
    exact C02_tie_foreach _ hB' funs fuel k vi b xs i v s
  · intro B hB cs dflt s
    exact C02_tie_switch_body _ (List.all_eq_true.mp C02_tie_switch_facts.1 B hB) funs fuel cs dflt s
  · intro B hB b v s
    exact C02_tie_block _ (List.all_eq_true.mp C02_tie_block_facts B hB) funs fuel b v s
  · intro B hB caller r
    exact C02_tie_call _ (List.all_eq_true.mp C02_tie_call_facts.1 B hB) caller r

theorem C02_tie_static_store_generated (g : FName) (s : MSt) (i : Nat) (init : Val) :
    bindStaticBy Generated.C02.store g s i init = bindStatic g s i init :=
  C02_tie_static_store _ C02_tie_static_store_facts g s i init

/-- what a witness looks at: slots and output -/
def tieObs : MRes Val → Option (List Val × List String)
  | .ok _ s => some (s.fr.slots, s.out.reverse)
  | .ctl _ s => some (s.fr.slots, s.out.reverse)
  | .timeout => none

def tieSt (slots : List Val) : MSt := { fr := { slots := slots, bound := [], fn := none }, statics := [], out := [] }

def tieOkDispatch : Dispatch :=
  { noneProceeds := true, onBreak := [.leave], onContinue := [.next], onReturn := [.propagate], onThrow := [.propagate] }

/-- `if ($x == n) { continue; }` on slot `i` -/
def tieContinueWhen (i : Nat) (n : Int) : MStmt :=
  .ite (.bin .eq (.var i) (.lit (.int n))) (.cons .cont .nil) .nil .nil

/-- the seeded change `C02-dowhile-continue-skips-condition`: the Continue arm of do-while
restarts the Go loop (`continue loop`). `do { $i++; if ($i == 1) { continue; } } while (false);`
runs the body twice. -/
def tieDoRestart : LoopFacts :=
  { fn := "DoWhileStatement.GetValue", phases := [.body, .cond], condFalseExits := true,
    dispatch := { tieOkDispatch with onContinue := [.restart] }, preExits := [], asserts := [] }

theorem C02_tie_do_counterexample :
    doOK tieDoRestart = false ∧
    tieObs (loopBy tieDoRestart [] 9 (.lit (.bool false)) .nil
      (.cons (.expr (.postIncr 0)) (.cons (tieContinueWhen 0 1) .nil)) .null (tieSt [.int 0])) = some ([.int 2], []) ∧
    tieObs (doM [] 9 (.cons (.expr (.postIncr 0)) (.cons (tieContinueWhen 0 1) .nil)) (.lit (.bool false)) .null
      (tieSt [.int 0])) = some ([.int 1], []) := by decide +kernel

/-- Continue in `for` that skips the increments:
`for (; $i < 2; $i++) { $j++; if ($j == 2) { continue; } }` makes three passes instead of two. -/
def tieForRestart : LoopFacts :=
  { fn := "ForStatement.GetValue", phases := [.cond, .body, .incr], condFalseExits := true,
    dispatch := { tieOkDispatch with onContinue := [.restart] }, preExits := [], asserts := [] }

theorem C02_tie_for_counterexample :
    forOK tieForRestart = false ∧
    tieObs (loopBy tieForRestart [] 9 (.bin .lt (.var 0) (.lit (.int 2))) (.cons (.stmtIncr 0) .nil)
      (.cons (.expr (.postIncr 1)) (.cons (tieContinueWhen 1 2) .nil)) .null (tieSt [.int 0, .int 0])) =
        some ([.int 2, .int 3], []) ∧
    tieObs (Model.Ctl.forM [] 9 (.bin .lt (.var 0) (.lit (.int 2))) (.cons (.stmtIncr 0) .nil)
      (.cons (.expr (.postIncr 1)) (.cons (tieContinueWhen 1 2) .nil)) .null (tieSt [.int 0, .int 0])) =
        some ([.int 2, .int 2], []) := by decide +kernel

/-- the defect `C02-while-continue` (fixed 9e604f1): Go's `continue` bound to the statement
loop, so the control was dropped and the rest of the body still ran:
`while ($i < 3) { $i++; if ($i == 2) { continue; } echo $i; }` printed 123. -/
def tieWhileSwallow : LoopFacts :=
  { fn := "WhileStatement.GetValue", phases := [.cond, .body], condFalseExits := true,
    dispatch := { tieOkDispatch with onContinue := [.swallow] }, preExits := [], asserts := [] }

theorem C02_tie_while_counterexample :
    whileOK tieWhileSwallow = false ∧
    tieObs (loopBy tieWhileSwallow [] 12 (.bin .lt (.var 0) (.lit (.int 3))) .nil
      (.cons (.expr (.postIncr 0)) (.cons (tieContinueWhen 0 2) (.cons (.echo (.cons (.var 0) .nil)) .nil))) .null
      (tieSt [.int 0])) = some ([.int 3], ["1", "2", "3"]) ∧
    tieObs (whileM [] 12 (.bin .lt (.var 0) (.lit (.int 3)))
      (.cons (.expr (.postIncr 0)) (.cons (tieContinueWhen 0 2) (.cons (.echo (.cons (.var 0) .nil)) .nil))) .null
      (tieSt [.int 0])) = some ([.int 3], ["1", "3"]) := by decide +kernel

/-- the seeded change `C02-counted-for-native-loop`: a path around the loop for one header
shape, with its own statement loop inside a Go counted loop, is refused by name -/
theorem C02_tie_for_early_path_refused :
    forOK { fn := "ForStatement.GetValue", phases := [.cond, .body, .incr], condFalseExits := true,
            dispatch := tieOkDispatch, preExits := ["if le, ok := u.Condition.(*VarIntLe); ok && len(u.Increments) == 1"],
            asserts := [("Condition", "*VarIntLe"), ("Increments", "*VarStmtIncr"), ("Condition", "BoolTest")] } = false ∧
    forOK { fn := "ForStatement.runCounted", phases := [.other], condFalseExits := false,
            dispatch := tieOkDispatch, preExits := [], asserts := [] } = false := by decide

/-- the defect `C02-stray-break` (fixed 765fc7d): the call boundary handed Break on, so a
`break` in a loop-less function body ended the caller's loop -/
theorem C02_tie_call_counterexample :
    callOK { tieOkDispatch with onBreak := [.propagate], onContinue := [.propagate], onReturn := [.leave] } = false ∧
    (∃ s, callResultBy { tieOkDispatch with onBreak := [.propagate], onContinue := [.propagate], onReturn := [.leave] }
        (tieSt []).fr (.ctl (.brk 1) (tieSt [])) = .ctl (.brk 1) s) ∧
    (∃ s, callResultM (tieSt []).fr (.ctl (.brk 1) (tieSt [])) = .ctl .thr s) :=
  ⟨by decide, ⟨_, rfl⟩, ⟨_, rfl⟩⟩

/-- the seeded change `C02-elseif-conditions-all-evaluated`: the branch is only selected in the
scan and run behind it. `if (false) {} elseif (true) { echo "t"; } elseif ($x++ == 9) {}` still
increments `$x`. -/
def tieScanGoOn : ScanFacts :=
  { fn := "IfStatement.GetValue", over := "ElseIf", forward := true, testGuard := .always, afterMatch := .goOn }

theorem C02_tie_elseif_counterexample :
    ifScanOK tieScanGoOn = false ∧ scanOK tieScanGoOn = false ∧
    scanTests tieScanGoOn false [true, false] = [true, true] ∧ refTests [true, false] = [true, false] ∧
    tieObs (elifsBy tieScanGoOn [] 9
      (.cons (.lit (.bool true)) (.cons (.echo (.cons (.lit (.str "t")) .nil)) .nil)
        (.cons (.bin .eq (.postIncr 0) (.lit (.int 9))) .nil .nil)) .nil none (tieSt [.int 0])) = some ([.int 1], ["t"]) ∧
    tieObs (elifsM [] 9
      (.cons (.lit (.bool true)) (.cons (.echo (.cons (.lit (.str "t")) .nil)) .nil)
        (.cons (.bin .eq (.postIncr 0) (.lit (.int 9))) .nil .nil)) .nil (tieSt [.int 0])) = some ([.int 0], ["t"]) := by
  decide +kernel

/-- the seeded change `C02-static-locals-slice-grow-copy`: the grow step copies in the wrong
direction, so the new container never receives the existing cells: creating cell 1 loses cell 0 -/
def tieStoreDrop : StoreFacts :=
  { container := "[]*ZVal", presentGuard := true, initOps := [.clobber, .growDrop, .insertFresh], otherWrites := [],
    stmtSameKey := true, stmtBindsAlways := true, stmtInitGuarded := false }

/-- the tree's container (a map) with Init's own guard only; the regenerated `Generated.C02.store` has the
statement's guard (`stmtInitGuarded`) as well -/
def tieStoreMap : StoreFacts :=
  { container := "map[int]*ZVal", presentGuard := true, initOps := [.insertFresh], otherWrites := [],
    stmtSameKey := true, stmtBindsAlways := true, stmtInitGuarded := false }

theorem C02_tie_static_store_counterexample :
    storeOK tieStoreDrop = false ∧
    aget (initBy tieStoreDrop [(0, Val.int 7)] 1 (.int 0)) 0 = none ∧
    aget (initBy tieStoreMap [(0, Val.int 7)] 1 (.int 0)) 0 = some (.int 7) ∧
    -- and without the "already there" test a second execution of the statement resets the cell
    storeOK { tieStoreMap with presentGuard := false } = false ∧ storeOK { tieStoreMap with presentGuard := false, stmtInitGuarded := true } = true ∧
    initBy { tieStoreMap with presentGuard := false } [(0, Val.int 7)] 0 (.int 0) = [(0, Val.int 0)] := by
  decide

-- non-vacuity: the loop the regenerated `for` facts describe really runs:
-- `for (; $i <= 2; $i++) { echo $i; }`
example : ∀ L ∈ Generated.C02.forLoops, forOK L = true →
    tieObs (loopBy L [] 9 (.varIntLe 0 2 (.bin .le (.var 0) (.lit (.int 2)))) (.cons (.stmtIncr 0) .nil)
      (.cons (.echo (.cons (.var 0) .nil)) .nil) .null (tieSt [.int 0])) = some ([.int 3], ["0", "1", "2"]) := by decide +kernel

/-! ### pre-scans of a function body (seeded change `C02-static-binding-skipped-by-scan`)

A flag computed when the function node is built, by a scan that opens the statement-list fields `o` only, stands
for "the body holds the construct". Theorems over every body (any nesting), every set of opened fields.
This scan (`ScanFn`, `scanBlk`) is not the scan over `elseif` clauses of `C02_tie_scan` (`ScanFacts`): its obligation
is `C02_tie_scan_opens_every_container` and the witness of that obligation is `C02_tie_scan_counterexample`. -/
section BodyScan
open Model.CtlScan Proofs.CtlScan

/-- a scan never reports a construct that is not there -/
theorem C02_scan_sound (o : List String) (body : Blk) : scanBlk o body = true → hasBlk body = true :=
  scanBlk_sound o body

/-- a scan that opens every statement-list field occurring in the body is exact -/
theorem C02_scan_complete (o : List String) (body : Blk) (h : ∀ f ∈ fieldsBlk body, f ∈ o) :
    scanBlk o body = hasBlk body := scanBlk_complete o body h

/-- … and that is the only way: a scan is exact on all bodies built from the containers `cs` iff it opens all of `cs` -/
theorem C02_scan_exact_iff (o cs : List String) :
    (∀ body, (∀ f ∈ fieldsBlk body, f ∈ cs) → scanBlk o body = hasBlk body) ↔ ∀ c ∈ cs, c ∈ o := by
  constructor
  · intro h c hc
    refine Classical.byContradiction fun hn => ?_
    have := h (missBody c) (by simp [missBody_fields, hc])
    rw [missBody_scan o c hn, missBody_has] at this
    exact Bool.noConfusion this
  · intro h body hb
    exact scanBlk_complete o body fun f hf => h f (hb f hf)

/-- `FunctionStatement.Call` with the store bound under the flag of a scan = the store always bound
(`Model.Ctl.bindStatics`, the rule `C02_refines_partial` is about), when the scan opens every field of the body.
`statics` are the declarations the body executes; `hdecl`: a body without the construct declares none. -/
theorem C02_static_flag_bind (o : List String) (body : Blk) (g : FName) (statics : List (Nat × Val)) (s : MSt)
    (hopen : ∀ f ∈ fieldsBlk body, f ∈ o) (hdecl : hasBlk body = false → statics = []) :
    bindStaticsIf (scanBlk o body) g statics s = bindStatics g statics s := by
  rw [scanBlk_complete o body hopen]
  cases hb : hasBlk body
  · simp [bindStaticsIf, hdecl hb, bindStatics, localStatics]
  · simp [bindStaticsIf]

/-- the seeded change, for EVERY field a scan leaves out: a `static` alone inside that field is a fresh local —
no cell is created, the slot is not bound (so the next call starts from the initialiser again) -/
theorem C02_static_flag_unbound_counterexample (o : List String) (f : String) (hf : f ∉ o) :
    ∃ body, fieldsBlk body = [f] ∧ hasBlk body = true ∧
      ∀ g : FName, ∃ s : MSt,
        (bindStaticsIf (scanBlk o body) g [(0, Val.int 0)] s).statics = [] ∧
        (bindStaticsIf (scanBlk o body) g [(0, Val.int 0)] s).fr.bound = [] ∧
        (bindStatics g [(0, Val.int 0)] s).statics = [((g, 0), Val.int 0)] ∧
        (bindStatics g [(0, Val.int 0)] s).fr.bound = [0] := by
  refine ⟨missBody f, missBody_fields f, missBody_has f, fun g => ?_⟩
  refine ⟨{ fr := { slots := [.null], bound := [], fn := some g }, statics := [], out := [] }, ?_⟩
  rw [missBody_scan o f hf]
  simp [bindStaticsIf, localStatics, localStatic, bindStatics, bindStatic, aget, aset]

/-- obligation over the regenerated facts: every body scan of node/ opens every statement-list field of node/ that
can occur in a function body (minus the pairs with a known finding) -/
theorem C02_tie_scan_opens_every_container :
    Generated.C02.bodyScans.all (scanFnOK Generated.C02.stmtContainers) = true := by
  first | decide +kernel | fail "obligation C02_tie_scan_opens_every_container no longer holds: a pre-scan of the function body in node/ (containsYield, containsStatic, … — a recursive bool walk over statements whose answer decides how the body is run) does not open a node field that holds statements: a construct placed there is silently treated as absent — compare Generated.C02.bodyScans with Generated.C02.stmtContainers"

/-- the regenerated scans are exact on every body built from the containers they have to open -/
theorem C02_tie_body_scans_generated :
    ∀ S ∈ Generated.C02.bodyScans, ∀ body,
      (∀ f ∈ fieldsBlk body, f ∈ mustOpen Generated.C02.stmtContainers S.name) → scanBlk S.opened body = hasBlk body := by
  intro S hS body hb
  have hall := List.all_eq_true.mp C02_tie_scan_opens_every_container S hS
  refine scanBlk_complete S.opened body fun f hf => ?_
  have := List.all_eq_true.mp hall f (hb f hf)
  simpa using this

/-- the seeded scan as a table: it opens what `containsYield` opens; the obligation refuses it, and the body it gets
wrong is a `static` in a switch case -/
def tieSeededScan : ScanFn :=
  { name := "containsStatic", opened := ["DoWhileStatement.Body", "ElseIfBranch.ThenBranch", "ForStatement.Body",
      "ForeachStatement.Body", "IfStatement.ElseBranch", "IfStatement.ThenBranch", "WhileStatement.Body"] }

/-- witness of `C02_tie_scan_opens_every_container` (the body scan, not `C02_tie_scan`) -/
theorem C02_tie_scan_counterexample :
    scanFnOK ["IfStatement.ThenBranch", "SwitchCase.Statements", "WhileStatement.Body"] tieSeededScan = false ∧
    scanBlk tieSeededScan.opened (missBody "SwitchCase.Statements") = false ∧
    hasBlk (missBody "SwitchCase.Statements") = true ∧
    scanBlk tieSeededScan.opened (missBody "IfStatement.ThenBranch") = true := by decide +kernel

-- non-vacuity: the pinned tree has a body scan and it has containers to open; the fields it opens (those of
-- `tieSeededScan`) find a construct three containers deep
example : Generated.C02.bodyScans ≠ [] ∧
    (Generated.C02.bodyScans.all fun S => decide (2 ≤ (mustOpen Generated.C02.stmtContainers S.name).length)) = true := by decide +kernel
example : scanBlk tieSeededScan.opened
    (.cons .other (.cons (.node (.cons "IfStatement.ThenBranch" (.cons (.node (.cons "WhileStatement.Body"
      (.cons (.node (.cons "ForStatement.Body" (.cons .hit .nil) .nil)) .nil) .nil)) .nil) .nil)) .nil)) = true := by decide +kernel

end BodyScan

/-! ## a clause list dispatched through a construction-time table

`switch` / `match` / `if-elseif` are ordered scans: the FIRST clause carrying the key is the entry point and the tests
in front of it are evaluated. A table built when the node is constructed may replace the scan exactly when it maps
every key to the first clause carrying it and the scan would have performed no effect. (`Model.CtlTable`; the harness
stream `clause-list` runs clause lists with repeated and loosely-equal keys on the real code.) -/
section ClauseTable
open Model.CtlTable Proofs.CtlTable

/-- one lookup equals the ordered scan for every condition **iff** the table maps each key to the first clause
carrying it (and keys no clause carries to nothing) -/
theorem C02_table_dispatch_iff_first_wins (ls : List Nat) (t : Table) :
    (∀ k, tableDispatch t k = scanDispatch ls k) ↔ FirstWins ls t :=
  forall_congr' fun k => eq_comm.trans (scan_iff ls k (t k))

/-- the guarded construction loop (`if _, ok := t[l]; !ok { t[l] = i }`) builds exactly the scan, for every clause list -/
theorem C02_table_guarded_build_exact (ls : List Nat) (k : Nat) :
    tableDispatch (buildBy true ls 0 Table.empty) k = scanDispatch ls k := by
  rw [tableDispatch, buildBy_guarded]
  cases scanDispatch ls k <;> simp [Table.empty]

/-- the plain construction loop (`t[l] = i`, the seeded one) dispatches to the LAST clause carrying the key -/
theorem C02_table_overwrite_build_last (ls : List Nat) (k : Nat) :
    tableDispatch (buildBy false ls 0 Table.empty) k = lastDispatch ls k := by
  rw [tableDispatch, buildBy_overwrite]
  cases lastDispatch ls k <;> simp [Table.empty]

/-- … so it is exact on a clause list **iff** no key is repeated -/
theorem C02_table_overwrite_exact_iff_nodup (ls : List Nat) :
    (∀ k, tableDispatch (buildBy false ls 0 Table.empty) k = scanDispatch ls k) ↔ ls.Nodup := by
  rw [← last_eq_scan_iff_nodup]
  exact forall_congr' fun k => by rw [C02_table_overwrite_build_last]

/-- the lookup evaluates no label; the scan performs no effect for condition `k` **iff** every label up to and
including the first that carries `k` is effect-free -/
theorem C02_table_scan_effect_free_iff (cs : List Clause) (k : Nat) :
    scanEffects cs 0 k = [] ↔
      ∀ (n : Nat) (c : Clause), cs[n]? = some c →
        (∀ j : Nat, j < n → (cs[j]?.map Clause.key) ≠ some k) → c.effect = false :=
  scanEffects_nil_iff cs 0 k

/-- negation witness (the seeded change; the harness replays it on the real code): labels 1, 2, 3, 2 — the scan enters
`case 2` at clause 1, the overwriting table at clause 3; the guarded table agrees with the scan; and with an effectful
label in front the scan prints where the lookup does not -/
theorem C02_table_last_wins_counterexample :
    scanDispatch [1, 2, 3, 2] 2 = some 1 ∧
    tableDispatch (buildBy false [1, 2, 3, 2] 0 Table.empty) 2 = some 3 ∧
    tableDispatch (buildBy true [1, 2, 3, 2] 0 Table.empty) 2 = some 1 ∧
    ¬ FirstWins [1, 2, 3, 2] (buildBy false [1, 2, 3, 2] 0 Table.empty) ∧
    scanEffects [⟨1, true⟩, ⟨2, false⟩] 0 2 = [0] := by
  refine ⟨by decide, by decide, by decide, ?_, by decide⟩
  intro h
  have := (C02_table_dispatch_iff_first_wins [1, 2, 3, 2] _).mpr h 2
  revert this
  decide

-- non-vacuity: a list without repetition where both constructions agree with the scan, and one with an absent key
example : [4, 7, 9].Nodup ∧ tableDispatch (buildBy false [4, 7, 9] 0 Table.empty) 7 = scanDispatch [4, 7, 9] 7 ∧
    scanDispatch [4, 7, 9] 5 = none ∧ FirstWins [4, 7, 9] (buildBy false [4, 7, 9] 0 Table.empty) :=
  ⟨by decide, by decide, by decide,
   (C02_table_dispatch_iff_first_wins _ _).mp ((C02_table_overwrite_exact_iff_nodup _).mpr (by decide))⟩

end ClauseTable

/-! ## switch labels are compared by the language's `==` (fix C02-switch-loose-compare)

A label matches iff `data.LooseCompare v1 v2 == 0` (what `BinaryEq` computes); `Spec.Ctl.looseEq`, the comparison both
the reference semantics and the model use for a label, states that rule on the value layer of the core. Before the fix
`SwitchStatement.isMatch` compared `AsInt` with `AsInt`, else `AsString` with `AsString`: `switch (true) { case 1: }` did
not match, `switch (1.5) { case 1: }` did. -/
section LabelCompare

/-- wherever the core's `==` operator is defined, a switch label matches iff `==` says true -/
theorem C02_switch_label_agrees_with_eq (a b : Val) (r : Bool)
    (h : binop .eq a b = some (.bool r)) : looseEq a b = r := by
  cases a <;> cases b <;> simp [binop] at h <;> simp [looseEq, Val.truthy, ← h]

/-- the comparison is symmetric: condition and label can be exchanged -/
theorem C02_switch_label_symmetric (a b : Val) : looseEq a b = looseEq b a := by
  cases a <;> cases b <;> simp [looseEq, Val.truthy, Bool.beq_comm]

/-- a bool condition (or label) compares both sides as booleans; `null` is `""` against a string and
`false` against the ints `0` and `1` -/
theorem C02_switch_label_bool_null (b : Bool) (v : Val) (s : String) :
    looseEq (.bool b) v = (b == v.truthy) ∧ looseEq v (.bool b) = (v.truthy == b) ∧
    looseEq .null (.str s) = (s == "") ∧ looseEq .null (.int 0) = true ∧ looseEq .null (.int 1) = false := by
  have h1 : looseEq (.bool b) v = (b == v.truthy) := by cases v <;> simp [looseEq, Val.truthy]
  exact ⟨h1, by rw [C02_switch_label_symmetric, h1, Bool.beq_comm], by simp [looseEq], by decide, by decide⟩

/-- the repaired finding cond-bool on the value layer (cond-frac needs a float, which `Val` has not): `true` against
`1`, `2`, `'a'` matches, `false` against `0`, `''`, `null` matches; then int, string and list pairs -/
theorem C02_switch_label_loose_witness :
    looseEq (.bool true) (.int 1) = true ∧ looseEq (.int 2) (.bool true) = true ∧
    looseEq (.bool true) (.str "a") = true ∧ looseEq (.bool false) (.int 0) = true ∧
    looseEq (.bool false) (.str "") = true ∧ looseEq (.bool false) .null = true ∧
    looseEq (.bool true) (.int 0) = false ∧ looseEq (.int 1) (.str "1") = true ∧
    looseEq (.int 1) (.str "a") = false ∧ looseEq (.int 1) (.int 2) = false ∧
    looseEq (.list [1]) (.list [1]) = false ∧ looseEq (.list []) .null = true := by
  decide +kernel

end LabelCompare

end C02
