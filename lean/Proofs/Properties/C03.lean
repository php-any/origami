import Model.Ops
import Spec.Ops
import Generated.C03Truthiness
import Proofs.Lemmas.Ops
import Proofs.Lemmas.OpsRefine
import Proofs.Lemmas.OpsCompare
import Proofs.Lemmas.OpsKind
/-!
# C03 — scalar operators give reference results; truthiness is context-independent

Theorems about `Model.Ops` (the operator nodes as coded in /repo, which has the `fixes/C03-*` repairs)
for **all** operand values, any float carrier `F` and any primitives `P : Prim F`; IEEE / Go
conversion facts a statement needs are explicit hypotheses (`h_…`), never axioms.

Tie to the source: `Generated.C03Truthiness` (regenerated by `extract/c03` on every run) —
`C03_table_wf`, `C03_implements_regenerated`, `C03_unchecked_safe`, `C03_compare_sites_regenerated` are re-checked by
kernel evaluation (`decide`);
everything else in `Model.Ops` is tied by the exhaustive correspondence run of `harness/c03`.
-/
namespace C03
open Model.Ops Proofs.Ops

/-- every truthiness site of the source (if, elseif, while, do-while, for, ?:, !, && left/right,
|| left/right, (bool)) and every `AsBool` body applies the reference test of each value kind.
On the tree before `fix: … truthiness` this is false (`IntValue.AsBool`/`FloatValue.AsBool` are `> 0`). -/
theorem C03_table_wf : wf Generated.C03Truthiness.table = true := by decide +kernel

/-- the accessor interfaces the model assumes each value type implements are the method sets of
package `data` (e.g. a string is no `data.AsInt`: its `AsInt` returns `int64`) -/
theorem C03_implements_regenerated :
    Kind.all.all (fun k => [Iface.asInt, .asFloat, .asBool, .asString, .value].all (fun i =>
      implements k i == (match Generated.C03Truthiness.implementsTbl.find? (fun p => p.1 == k) with
        | some p => p.2.contains i
        | none => false))) = true := by decide

/-- no operator node asserts an operand's type without comma-ok unless every value kind (or the
kind selected by the enclosing `case`) implements the asserted interface.
On the tree before `fix: … operand checks` this is false (`rv.(data.AsInt)` in `-`, `*`, `%`, `<<`, `>>`, …). -/
theorem C03_unchecked_safe : Generated.C03Truthiness.unchecked.all Assertion.safe = true := by decide

/-- every comparison node (`== != < <= > >= <=>`) derives its result from the one call
`data.LooseCompare(left, right)` with exactly the test the model applies (`== 0`, `!= 0`, `== -1`,
`== -1 || == 0`, `== 1`, `== 1 || == 0`, the integer with Unordered as 0), and only `==` / `!=` have
the identity shortcut. On the tree before `fix: … one loose comparison` this is false (each node
had its own type switch on the left operand: `test := .other`). -/
theorem C03_compare_sites_regenerated : Generated.C03Truthiness.compareSites = cmpSites := by decide

section
variable {F : Type} (P : Prim F)

/-- the site table means what the model computes: each operator of `Model.Ops.eval` is the node its
`CmpSite` describes -/
theorem C03_sites_are_model {T : TruthTable} (s : CmpSite) (hs : s ∈ cmpSites) (same : Bool) (a b : Val F) :
    eval P T s.op same a b = s.eval P T same a b := by
  simp only [cmpSites, List.mem_cons, List.mem_nil_iff, or_false] at hs
  rcases hs with rfl | rfl | rfl | rfl | rfl | rfl | rfl
  -- only `==` and `!=` have an identity shortcut and look at `same`; every row unfolds to the same test of the one call
  · cases same <;> rfl
  · cases same <;> rfl
  all_goals rfl

/-- Generic over the table: a well-formed table makes every context agree with the reference truthiness. -/
theorem C03_truthy_reference {T : TruthTable} (hT : wf T = true) (v : Val F) (ctx : String)
    (hc : ctx ∈ contexts) : truthyAt P T ctx v = some (Spec.Ops.truthy P v) :=
  wf_truthyAt P hT hc v

/-- **A value is truthy in if, elseif, while, do-while, for, ?:, !, &&, || and (bool) alike**
(all values incl. arrays and objects; the table is the regenerated one). -/
theorem C03_truthy_uniform (v : Val F) (ctx₁ ctx₂ : String) (h₁ : ctx₁ ∈ contexts) (h₂ : ctx₂ ∈ contexts) :
    truthyAt P Generated.C03Truthiness.table ctx₁ v = truthyAt P Generated.C03Truthiness.table ctx₂ v := by
  rw [wf_truthyAt P C03_table_wf h₁, wf_truthyAt P C03_table_wf h₂]

/-- the table of the tree as delivered, before /repo commit 0db6cf1 (`AsBool` of int/float is `> 0`) -/
def pinnedTable : TruthTable :=
  { Generated.C03Truthiness.table with
    asBoolImpl := [(.int, .gt0), (.float, .gt0), (.bool, .field), (.str, .nonEmpty), (.null, .constFalse),
                   (.arr, .lenGt0), (.obj, .constTrue), (.cls, .constTrue)] }

/-- negation witness on that table (`known_findings.json` keeps the replay `truthy:int` as a `fixed` entry): `if (-1)` is
false while `-1 ? a : b` takes `a`. -/
theorem C03_truthy_uniform_counterexample_pinned :
    truthyAt P pinnedTable "if" (.int (BitVec.ofInt 64 (-1))) = some false ∧
    truthyAt P pinnedTable "ternary" (.int (BitVec.ofInt 64 (-1))) = some true ∧
    wf pinnedTable = false :=
  ⟨rfl, rfl, by decide⟩

/-- **Every operator on every pair of values (arrays, objects and instances included) yields a value
or a catchable error — never a Go panic**, for any well-formed truthiness table. -/
theorem C03_no_crash {T : TruthTable} (hT : wf T = true) (op : BinOp) (same : Bool) (a b : Val F) :
    eval P T op same a b ≠ .crash := by
  cases op
  case add => exact (add_yields P a b).ne_crash
  case sub => exact (sub_yields P a b).ne_crash
  case mul => exact (mul_yields P a b).ne_crash
  case quo => exact (quo_yields P a b).ne_crash
  case rem => exact (rem_yields P a b).ne_crash
  case pow => exact (pow_yields P a b).ne_crash
  case band | bor | bxor => nofun  -- a value by definition
  case shl => exact (shl_yields P a b).ne_crash
  case shr => exact (shr_yields P a b).ne_crash
  -- the comparison, identity and logical operators and `.` always yield a value
  all_goals exact ne_crash_of_val (eval_always_value P hT _ same a b rfl)

theorem C03_no_crash_unary {T : TruthTable} (hT : wf T = true) (op : UnOp) (a : Val F) :
    evalUn P T op a ≠ .crash := by
  cases op
  case neg => exact (neg_yields P a).ne_crash
  case bnot => exact (bnot_yields P a).ne_crash
  case not => rw [evalUn, lnot_wf P hT a]; nofun
  case castb => rw [evalUn, castB_wf P hT a]; nofun
  case casti | castf =>
    dsimp only [evalUn, castI, castF]
    rw [wf_asBool P hT a]
    repeat' split
    all_goals first | contradiction | (intro h; cases h)

/-- complement of a boolean result; errors stay errors -/
def negate : Res F → Res F
  | .val (.bool b) => .val (.bool (!b))
  | r => r

/-- **`!=` is the complement of `==`** on every pair of values (same object or not): both nodes test
the same `data.LooseCompare` result. -/
theorem C03_ne_is_not_eq {T : TruthTable} (same : Bool) (a b : Val F) :
    eval P T .ne same a b = negate (eval P T .eq same a b) := by
  cases same <;> simp only [eval, nev, eqv, viaCompare, negate, if_true, if_false, Bool.false_eq_true] <;>
    (try rfl)
  cases looseCompare P T a b <;> rfl

/-- **`!==` is the complement of `===`** on every pair of values. -/
theorem C03_strict_ne_is_not_strict_eq {T : TruthTable} (same : Bool) (a b : Val F) :
    eval P T .sne same a b = negate (eval P T .seq same a b) := by
  simp [eval, sne, seq, negate]

/-- **All seven comparison operators are readings of one comparison** (`data.LooseCompare`): for every
operand pair there is one result `o ∈ {<, =, >, unordered}` such that `==` is `o = eq`, `!=` its
negation, `<` is `o = lt`, `<=` is `o = lt ∨ o = eq`, `>` is `o = gt`, `>=` is `o = gt ∨ o = eq` and
`<=>` is −1 / 0 / 1 / 0. The coherence laws below are corollaries. -/
theorem C03_one_comparison {T : TruthTable} (hT : wf T = true) (a b : Val F) :
    ∃ o : Ord4,
      eval P T .eq false a b = .val (.bool (o == .eq)) ∧
      eval P T .ne false a b = .val (.bool (o != .eq)) ∧
      eval P T .lt false a b = .val (.bool (o == .lt)) ∧
      eval P T .le false a b = .val (.bool (o == .lt || o == .eq)) ∧
      eval P T .gt false a b = .val (.bool (o == .gt)) ∧
      eval P T .ge false a b = .val (.bool (o == .gt || o == .eq)) ∧
      eval P T .cmp false a b = .val (.int o.toInt) := by
  obtain ⟨o, ho⟩ := looseCompare_some P hT a b
  have h := fun test => viaCompare_of P (T := T) ho test
  exact ⟨o, h _, h _, h _, h _, h _, h _, by rw [eval, cmp, ho]⟩

/-- **The one comparison is antisymmetric**: swapping the operands reverses the result (unordered
stays unordered) — for all values, mixed kinds included — given that float `==` is symmetric and float
`<` asymmetric. -/
theorem C03_compare_antisymm {T : TruthTable}
    (h_eq_symm : ∀ x y : F, P.eq x y = P.eq y x)
    (h_lt_asymm : ∀ x y : F, P.lt x y = true → P.lt y x = false) (a b : Val F) :
    looseCompare P T b a = (looseCompare P T a b).map Ord4.rev :=
  looseCompare_rev P h_eq_symm h_lt_asymm a b

/-- **`==` is symmetric** on every pair of values — `0 == false`, `null == 0`, `"1" == 1`,
`1.5 == "a"`, arrays and objects included (same hypotheses). -/
theorem C03_eq_symm {T : TruthTable}
    (h_eq_symm : ∀ x y : F, P.eq x y = P.eq y x)
    (h_lt_asymm : ∀ x y : F, P.lt x y = true → P.lt y x = false) (a b : Val F) :
    eval P T .eq false a b = eval P T .eq false b a :=
  viaCompare_mirror P h_eq_symm h_lt_asymm (fun o => by cases o <;> rfl) a b

/-- `a < b` exactly when `b > a`, `a <= b` exactly when `b >= a` (same hypotheses). -/
theorem C03_lt_gt_mirror {T : TruthTable}
    (h_eq_symm : ∀ x y : F, P.eq x y = P.eq y x)
    (h_lt_asymm : ∀ x y : F, P.lt x y = true → P.lt y x = false) (a b : Val F) :
    eval P T .lt false a b = eval P T .gt false b a ∧ eval P T .le false a b = eval P T .ge false b a :=
  ⟨viaCompare_mirror P h_eq_symm h_lt_asymm (fun o => by cases o <;> rfl) a b,
   viaCompare_mirror P h_eq_symm h_lt_asymm (fun o => by cases o <;> rfl) a b⟩

/-- **`<=>` agrees with `<` and `>`** on every pair of values, without hypotheses: `<=>` is −1 exactly
when `<` is true and 1 exactly when `>` is true. -/
theorem C03_spaceship_agrees {T : TruthTable} (a b : Val F) :
    (eval P T .cmp false a b = .val (.int (BitVec.ofInt 64 (-1))) ↔ eval P T .lt false a b = .val (.bool true)) ∧
    (eval P T .cmp false a b = .val (.int 1#64) ↔ eval P T .gt false a b = .val (.bool true)) := by
  simp only [eval, cmp, lt, gt, viaCompare]
  cases looseCompare P T a b with
  | none => simp
  | some o => cases o <;> simp [Ord4.toInt, Ord4.isLt, Ord4.isGt]

/-- `<=>` is 0 whenever `==` is true (the converse fails only for unordered operands such as NaN). -/
theorem C03_eq_implies_spaceship_zero {T : TruthTable} (a b : Val F)
    (h : eval P T .eq false a b = .val (.bool true)) : eval P T .cmp false a b = .val (.int 0#64) := by
  simp only [eval, eqv, cmp, viaCompare, Bool.false_eq_true, if_false] at h ⊢
  cases hc : looseCompare P T a b with
  | none => rw [hc] at h; cases h
  | some o => rw [hc] at h; cases o <;> simp [Ord4.isEq, Ord4.toInt] at h ⊢

/-- what the operand pairs of the `eq-asym:*` / `cmp-lt:*` findings, repaired by `fix: … one loose
comparison`, evaluate to (the harness replays them on the real code): `0 == null`, `null == 0`, `0 == false`,
`false == 0` are all true; `null <=> 0` is 0 and `null < 1` is true. -/
theorem C03_repaired_pairs :
    eval P Generated.C03Truthiness.table .eq false (.int 0#64) .null = .val (.bool true) ∧
    eval P Generated.C03Truthiness.table .eq false .null (.int 0#64) = .val (.bool true) ∧
    eval P Generated.C03Truthiness.table .eq false (.int 0#64) (.bool false) = .val (.bool true) ∧
    eval P Generated.C03Truthiness.table .eq false (.bool false) (.int 0#64) = .val (.bool true) ∧
    eval P Generated.C03Truthiness.table .cmp false .null (.int 0#64) = .val (.int 0#64) ∧
    eval P Generated.C03Truthiness.table .lt false .null (.int 1#64) = .val (.bool true) := by
  have h0 := wf_asBool P C03_table_wf (.int 0#64)
  have h1 := wf_asBool P C03_table_wf (.int 1#64)
  have hn := wf_asBool P C03_table_wf (Val.null : Val F)
  have hb := wf_asBool P C03_table_wf (.bool false)
  simp [eval, eqv, cmp, lt, viaCompare, looseCompare, isNullOrBool, h0, h1, hn, hb, Spec.Ops.truthy,
    ordBool, Ord4.isEq, Ord4.isLt, Ord4.toInt]

/-! ## the result kind (type) the language fixes — on ALL operand pairs

The exact-result theorem `C03_exact` speaks about the documented domain only. The *kind* of the result
of `. == != === !== < <= > >= <=> && || / & | ^ << >>` (and `! (bool) (int) (float) ~`) does not depend
on the operands at all, so it is stated for every pair of values — mixed kinds, `''`, `null`, `false`,
arrays and objects included. The harness asserts the same table (`Spec.Ops.fixedKind`, handed out by the
driver) on the real interpreter's results as an oracle of its own. -/

/-- **Whenever `a OP b` yields a value, the value has the kind the language fixes for `OP`**: `.` a
string; `== != === !== < <= > >= && ||` a bool; `<=>` an int; `/` a float; `& | ^ << >>` an int —
for all operand values, same object or not, any truthiness table. -/
theorem C03_result_kind {T : TruthTable} (op : BinOp) (same : Bool) (a b : Val F) (k : Kind)
    (hk : Spec.Ops.fixedKind op = some k) (v : Val F) (hv : eval P T op same a b = .val v) : v.kind = k := by
  cases op <;> cases hk
  case quo => exact eq_of_beq ((quo_yields P a b).kind hv)
  case band | bor | bxor | seq | sne | dot => cases hv; rfl
  case shl => exact eq_of_beq ((shl_yields P a b).kind hv)
  case shr => exact eq_of_beq ((shr_yields P a b).kind hv)
  case eq | ne =>
    cases same
    · exact viaCompare_kind P _ a b v hv
    · cases hv; rfl
  case lt | le | gt | ge => exact viaCompare_kind P _ a b v hv
  case cmp => rcases cmp_range P a b v hv with rfl | rfl | rfl <;> rfl
  case land | lor =>
    dsimp only [eval, land, lor] at hv
    repeat' split at hv
    all_goals cases hv
    all_goals rfl

/-- `!` and `(bool)` yield a bool, `(int)` and `~` an int, `(float)` a float — on every value. -/
theorem C03_result_kind_unary {T : TruthTable} (op : UnOp) (a : Val F) (k : Kind)
    (hk : Spec.Ops.fixedKindUn op = some k) (v : Val F) (hv : evalUn P T op a = .val v) : v.kind = k := by
  cases op <;> cases hk
  case bnot => exact eq_of_beq ((bnot_yields P a).kind hv)
  case not | castb | casti | castf =>
    dsimp only [evalUn, lnot, castB, castI, castF] at hv
    repeat' split at hv
    all_goals cases hv
    all_goals rfl

/-- **`.`, the comparison and identity operators, `<=>`, `&&`, `||` are defined on every operand pair**:
they always yield a value, never an error (with `C03_result_kind`: always a string / bool / int). -/
theorem C03_always_value {T : TruthTable} (hT : wf T = true) (op : BinOp) (same : Bool) (a b : Val F)
    (h : Spec.Ops.alwaysValue op = true) : ∃ v, eval P T op same a b = .val v :=
  Proofs.Ops.eval_always_value P hT op same a b h

theorem C03_always_value_unary {T : TruthTable} (hT : wf T = true) (op : UnOp) (a : Val F)
    (h : Spec.Ops.alwaysValueUn op = true) : ∃ v, evalUn P T op a = .val v := by
  cases op <;> cases h
  · exact ⟨_, lnot_wf P hT a⟩
  · exact ⟨_, castB_wf P hT a⟩

/-- **`.` yields a string on every operand pair** — `true . false`, `null . null`, `5 . ''`, arrays and
objects included; never one of its operands as it is. -/
theorem C03_dot_is_string {T : TruthTable} (same : Bool) (a b : Val F) :
    ∃ s, eval P T .dot same a b = .val (.str s) := ⟨_, rfl⟩

/-- **`.` on scalars is the concatenation of the documented string forms** (`Spec.Ops.render`: a string
as it is, an int in decimal, a float as the language prints it, `true` as `"1"`, `false` and `null` as
`""`) — every scalar pair, not only string/string. -/
theorem C03_dot_exact_scalars {T : TruthTable} (same : Bool) (a b : Val F) (x y : Str)
    (ha : Spec.Ops.render P a = some x) (hb : Spec.Ops.render P b = some y) :
    eval P T .dot same a b = .val (.str (x ++ y)) :=
  dot_render P ha hb

/-- `%` yields a number of the dividend's kind (int for an int dividend — the documented `int % int`
— float for a float dividend, origami's choice); any other dividend yields no value. -/
theorem C03_rem_kind {T : TruthTable} (same : Bool) (a b : Val F) (v : Val F)
    (hv : eval P T .rem same a b = .val v) :
    (a.kind = .int ∧ v.kind = .int) ∨ (a.kind = .float ∧ v.kind = .float) := by
  change rem P a b = _ at hv
  revert hv
  fun_cases rem P a b <;> intro hv <;> cases hv
  · exact .inl ⟨rfl, rfl⟩
  · exact .inr ⟨rfl, rfl⟩

/-- `- * ** %` yield an int or a float whenever they yield a value (never a string, bool, null …). -/
theorem C03_arith_is_number {T : TruthTable} (op : BinOp) (same : Bool) (a b : Val F)
    (h : Spec.Ops.numericResult op = true) (v : Val F) (hv : eval P T op same a b = .val v) :
    Spec.Ops.isNumberKind v.kind = true := by
  cases op <;> cases h
  case sub => exact (sub_yields P a b).kind hv
  case mul => exact (mul_yields P a b).kind hv
  case rem => exact (rem_yields P a b).kind hv
  case pow => exact (pow_yields P a b).kind hv

theorem C03_neg_is_number {T : TruthTable} (a : Val F) (v : Val F) (hv : evalUn P T .neg a = .val v) :
    Spec.Ops.isNumberKind v.kind = true :=
  (neg_yields P a).kind hv

/-- `<=>` yields −1, 0 or 1 and nothing else. -/
theorem C03_spaceship_range {T : TruthTable} (same : Bool) (a b : Val F) (v : Val F)
    (hv : eval P T .cmp same a b = .val v) :
    v = .int (BitVec.ofInt 64 (-1)) ∨ v = .int 0#64 ∨ v = .int 1#64 :=
  Proofs.Ops.cmp_range P a b v hv

/-- the documented results themselves have the fixed kinds (`Spec.Ops.eval` never defines, say, a
non-string for `.`): sanity of the specification, no hypothesis. -/
theorem C03_spec_result_kind (op : BinOp) (a b : Val F) (k : Kind) (hk : Spec.Ops.fixedKind op = some k)
    (v : Val F) (hs : Spec.Ops.eval P op a b = some (.val v)) : v.kind = k := by
  cases op <;> cases hk
  case quo => exact eq_of_beq ((spec_quo_yields P a b _ hs).kind rfl)
  case band | bor | bxor => exact bitop_kind _ a b v hs
  case shl | shr => exact eq_of_beq ((spec_shift_yields _ a b _ hs).kind rfl)
  case eq | seq => exact map_mkBool_kind (g := fun e : Bool => e) hs
  case ne | sne => exact map_mkBool_kind (g := fun e : Bool => !e) hs
  case lt | gt => exact map_mkBool_kind (g := fun o : Bool × Bool => o.1) hs
  case le | ge => exact map_mkBool_kind (g := fun o : Bool × Bool => o.2) hs
  case cmp =>
    change Spec.Ops.spaceship P a b = _ at hs; unfold Spec.Ops.spaceship at hs
    split at hs <;> cases hs
    rfl
  case land | lor => cases hs; rfl
  case dot =>
    simp only [Spec.Ops.eval] at hs
    split at hs <;> cases hs
    rfl

/-- **`/` never yields an integer**: on any operands the outcome is a float or a catchable error. -/
theorem C03_div_is_float {T : TruthTable} (a b : Val F) :
    (∃ f, eval P T .quo false a b = .val (.float f)) ∨ (∃ e, eval P T .quo false a b = .err e) := by
  show (∃ f, quo P a b = _) ∨ ∃ e, quo P a b = _
  have h := quo_yields P a b
  generalize quo P a b = r at h
  cases h with
  | val v hk => cases v <;> cases hk; exact .inl ⟨_, rfl⟩
  | err e => exact .inr ⟨_, rfl⟩

def isNumber : Val F → Bool
  | .int _ => true | .float _ => true | _ => false

/-- **`/` and `%` by zero raise the catchable division-by-zero error** for every numeric dividend and
every zero divisor (`0`, `0.0`, `-0.0`), given `float64(0) == 0` and `int(z) = 0` for a float zero. -/
theorem C03_divmod_zero_errors {T : TruthTable}
    (h_ofInt_zero : P.eq (P.ofInt 0#64) P.zero = true)
    (h_zero_toInt : ∀ z : F, P.eq z P.zero = true → P.toInt z = 0#64)
    (a : Val F) (ha : isNumber a = true) :
    eval P T .quo false a (.int 0#64) = .err .divZero ∧ eval P T .rem false a (.int 0#64) = .err .divZero ∧
    ∀ z : F, P.eq z P.zero = true →
      eval P T .quo false a (.float z) = .err .divZero ∧ eval P T .rem false a (.float z) = .err .divZero := by
  -- `/` tests the divisor as a float (`h_ofInt_zero` for the divisor `0`); `%` of an int dividend tests
  -- it as an int (`h_zero_toInt` for a float zero), `%` of a float dividend tests both
  cases a <;> cases ha <;> refine ⟨?_, ?_, fun z hz => ⟨?_, ?_⟩⟩
  · simp only [eval, quo, asFloatI, h_ofInt_zero, if_true]
  · rfl
  · simp only [eval, quo, asFloatI, hz, if_true]
  · simp only [eval, rem, operandAsInt, asIntI, h_zero_toInt z hz, beq_self_eq_true, if_true]
  · simp only [eval, quo, operandAsFloat, asFloatI, h_ofInt_zero, if_true]
  · simp only [eval, rem, operandAsFloat, asFloatI, h_ofInt_zero, Bool.true_or, if_true]
  · simp only [eval, quo, operandAsFloat, asFloatI, hz, if_true]
  · simp only [eval, rem, operandAsFloat, asFloatI, hz, Bool.true_or, if_true]

/-- **Whenever the documentation (Spec.Ops) defines the result of `a OP b`, the operator node computes
exactly that value / that error** — 64-bit wrap-around `+ - *`, float as soon as one operand is a
float, `/` always float, truncated `%`, `**`, bit operations and shifts, numeric and bytewise
comparisons, `===`, `<=>`, `&&`, `||`, string concatenation. Hypotheses: a float zero converts to
the integer 0 (used by float `%`); `FloatOrder P` — float `==` symmetric, `<` asymmetric, `x == y`
excludes `x < y`, `x <= y` iff `x < y` or `x == y` (the comparison operators derive their answer
from the three-way `data.LooseCompare`, which applies `<`, `>`, `==` in turn). -/
theorem C03_exact {T : TruthTable} (hT : wf T = true) (hF : FloatOrder P)
    (h_zero_toInt : ∀ z : F, P.eq z P.zero = true → P.toInt z = 0#64)
    (op : BinOp) (a b : Val F) (r : Res F) (hs : Spec.Ops.eval P op a b = some r) :
    eval P T op false a b = r := by
  -- the helper's one answer `o`, for the cases `eq ne lt le gt ge cmp` below
  obtain ⟨o, ho, hlt, hgt, heq⟩ := compare_reads P hT hF a b
  cases op <;> dsimp only [Spec.Ops.eval] at hs
  case add =>
    split at hs
    · rename_i x y hxy
      obtain ⟨rfl, rfl⟩ := bothStr_some hxy
      cases hs
      rfl
    · exact exact_arith P wrap_add hs
  case sub => exact exact_arith P wrap_sub hs
  case mul => exact exact_arith P wrap_mul hs
  case quo =>
    unfold Spec.Ops.quo at hs
    split at hs <;> cases hs
    rename_i x y hx hy
    rcases toF_some P hx with ⟨i, rfl, rfl⟩ | rfl <;>
      simp only [eval, quo, operandAsFloat, asFloatI_of_toF P hy]
  case rem =>
    unfold Spec.Ops.rem at hs
    split at hs <;> cases hs
    · exact rem_int P _ _
    · exact rem_float P h_zero_toInt _ _
  case pow =>
    unfold Spec.Ops.pow at hs
    split at hs
    · rename_i x y hx hy
      rcases toF_some P hx with ⟨i, rfl, rfl⟩ | rfl <;> rcases toF_some P hy with ⟨j, rfl, rfl⟩ | rfl <;>
        cases hs <;> rfl
    · cases hs
  case band | bor | bxor => exact exact_bitop hs
  case shl =>
    unfold Spec.Ops.shift at hs
    split at hs <;> cases hs
    rename_i x n hxn
    obtain ⟨rfl, rfl⟩ := bothInt_some hxn
    rw [if_pos rfl, if_pos rfl]
    change shl P (.int x) (.int n) = _
    rw [shl, shiftWith_int, shl_cap]
    congr 1
    exact apply_ite (fun v => Outcome.val (Val.int v)) ..
  case shr =>
    unfold Spec.Ops.shift at hs
    split at hs <;> cases hs
    rename_i x n hxn
    obtain ⟨rfl, rfl⟩ := bothInt_some hxn
    rw [if_neg Bool.false_ne_true, if_neg Bool.false_ne_true]
    change shr P (.int x) (.int n) = _
    rw [shr, shiftWith_int, shr_cap]
    congr 1
    exact apply_ite (fun v => Outcome.val (Val.int v)) ..
  case eq =>
    obtain ⟨e, he, rfl⟩ := Option.map_eq_some_iff.mp hs
    exact (viaCompare_of P ho _).trans (congrArg Spec.Ops.mkBool (heq e he))
  case ne =>
    obtain ⟨e, he, rfl⟩ := Option.map_eq_some_iff.mp hs
    exact (viaCompare_of P ho _).trans (congrArg (fun e => Spec.Ops.mkBool (!e)) (heq e he))
  case seq =>
    obtain ⟨e, he, rfl⟩ := Option.map_eq_some_iff.mp hs
    exact congrArg Spec.Ops.mkBool (strictEq_spec P he)
  case sne =>
    obtain ⟨e, he, rfl⟩ := Option.map_eq_some_iff.mp hs
    exact congrArg (fun e => Spec.Ops.mkBool (!e)) (strictEq_spec P he)
  case lt =>
    obtain ⟨p, hp, rfl⟩ := Option.map_eq_some_iff.mp hs
    exact (viaCompare_of P ho _).trans (congrArg Spec.Ops.mkBool (hlt p hp).1)
  case le =>
    obtain ⟨p, hp, rfl⟩ := Option.map_eq_some_iff.mp hs
    exact (viaCompare_of P ho _).trans (congrArg Spec.Ops.mkBool (hlt p hp).2)
  case gt =>
    obtain ⟨p, hp, rfl⟩ := Option.map_eq_some_iff.mp hs
    exact (viaCompare_of P ho _).trans (congrArg Spec.Ops.mkBool (hgt p hp).1)
  case ge =>
    obtain ⟨p, hp, rfl⟩ := Option.map_eq_some_iff.mp hs
    exact (viaCompare_of P ho _).trans (congrArg Spec.Ops.mkBool (hgt p hp).2)
  case cmp =>
    unfold Spec.Ops.spaceship at hs
    split at hs <;> cases hs
    rename_i l _ g _ h1 h2
    simp only [eval, cmp, ho, Ord4.toInt_tests, (hlt _ h1).1, (hgt _ h2).1]
    rfl
  case land => cases hs; exact land_wf P hT a b
  case lor => cases hs; exact lor_wf P hT a b
  case dot =>
    split at hs <;> cases hs
    rename_i x y hx hy
    exact dot_render P hx hy

theorem C03_exact_unary {T : TruthTable} (hT : wf T = true)
    (op : UnOp) (a : Val F) (r : Res F) (hs : Spec.Ops.evalUn P op a = some r) :
    evalUn P T op a = r := by
  revert hs
  -- along the arms of `Spec.Ops.evalUn` (numbered in its order); on those not named the node computes the documented term itself
  fun_cases Spec.Ops.evalUn P op a <;> intro hs <;> cases hs
  case case1 x => exact congrArg (fun i => Outcome.val (Val.int i)) (wrap_neg x).symm  -- `-` of an int
  case case4 => exact lnot_wf P hT a
  case case5 => exact castB_wf P hT a
  case case8 b => simp only [evalUn, castI, asIntI, wf_asBool P hT]; rfl  -- `(int)` of a bool goes through `AsBool`
  case case12 b => simp only [evalUn, castF, asFloatI, wf_asBool P hT]; rfl  -- `(float)` of a bool likewise
  case case14 s f hf => simp only [evalUn, castF, asFloatI, hf]  -- `(float)` of a numeric string
  all_goals rfl

end

/-- a concrete instance of the primitives over `Int` (exact arithmetic standing in for floats):
shows the hypotheses of the theorems above are jointly satisfiable -/
def toyPrim : Prim Int := {
  add := (· + ·), sub := (· - ·), mul := (· * ·), div := (· / ·), pow := fun x y => x ^ y.toNat,
  neg := fun x => -x, trunc := id, ofInt := BitVec.toInt, toInt := BitVec.ofInt 64,
  lt := fun a b => decide (a < b), le := fun a b => decide (a ≤ b), eq := fun a b => decide (a = b),
  zero := 0, one := 1, maxIntF := 9223372036854775808, minIntF := -9223372036854775808,
  parse := fun _ => none, atoi := fun _ => none, fmtG := fun _ => [], display := fun _ _ => [] }

example : ∀ x y : Int, toyPrim.eq x y = toyPrim.eq y x := by
  intro x y; simp [toyPrim, eq_comm]
example : ∀ x y : Int, toyPrim.lt x y = true → toyPrim.lt y x = false := by
  intro x y; simp [toyPrim]; omega
example : FloatOrder toyPrim :=
  ⟨by intro x y; simp [toyPrim, eq_comm], by intro x y; simp [toyPrim]; omega,
   by intro x y h; simp [toyPrim] at h ⊢; omega,
   by intro x y; simp [toyPrim, Int.le_iff_lt_or_eq]⟩
example : toyPrim.eq (toyPrim.ofInt 0#64) toyPrim.zero = true := by decide
example : ∀ z : Int, toyPrim.eq z toyPrim.zero = true → toyPrim.toInt z = 0#64 := by
  intro z h; simp [toyPrim] at h; subst h; rfl

/-- truthiness of −1 is `true` in two differently coded contexts of the regenerated table -/
example : truthyAt toyPrim Generated.C03Truthiness.table "if" (.int (BitVec.ofInt 64 (-1))) = some true ∧
    truthyAt toyPrim Generated.C03Truthiness.table "ternary" (.int (BitVec.ofInt 64 (-1))) = some true := by
  constructor <;> rfl

/-- the documented domain is inhabited and the model computes there: `7 % -2 = 1`, `1 - 5` with a float
right operand is the float `-4` (documented result), `1 <=> 2` is −1 -/
example : eval toyPrim Generated.C03Truthiness.table .rem false (.int 7#64) (.int (BitVec.ofInt 64 (-2))) = .val (.int 1#64) := by
  rfl
example : Spec.Ops.eval toyPrim .sub (.int 1#64) (.float 5) = some (.val (.float (-4))) := by rfl
example : eval toyPrim Generated.C03Truthiness.table .cmp false (.int 1#64) (.int 2#64) = .val (.int (BitVec.ofInt 64 (-1))) := by
  rfl
/-- mixed kinds are compared by one rule: `"abc" == 0` is false both ways (`toyPrim` parses nothing),
`true == 5` is true both ways, an array and a number are unordered -/
example : eval toyPrim Generated.C03Truthiness.table .eq false (.str [97, 98, 99]) (.int 0#64) = .val (.bool false) ∧
    eval toyPrim Generated.C03Truthiness.table .eq false (.int 0#64) (.str [97, 98, 99]) = .val (.bool false) ∧
    eval toyPrim Generated.C03Truthiness.table .eq false (.bool true) (.int 5#64) = .val (.bool true) ∧
    eval toyPrim Generated.C03Truthiness.table .eq false (.int 5#64) (.bool true) = .val (.bool true) ∧
    looseCompare toyPrim Generated.C03Truthiness.table (.arr 2) (.int 5#64) = some .un := by
  refine ⟨?_, ?_, ?_, ?_, ?_⟩ <;> rfl
/-- `.` on operands that render as the empty string gives a *string*, not the other operand:
`true . false` is `"1"`, `null . null` is `""`, `5 . ''` is `"5"`, and the next operator sees a string:
`(5 . '') + 1` is `"51"` (string `+` concatenates) -/
example : eval toyPrim Generated.C03Truthiness.table .dot false (.bool true) (.bool false) = .val (.str [49]) ∧
    eval toyPrim Generated.C03Truthiness.table .dot false .null .null = .val (.str []) ∧
    eval toyPrim Generated.C03Truthiness.table .dot false (.int 5#64) (.str []) = .val (.str [53]) ∧
    eval toyPrim Generated.C03Truthiness.table .add false (.str [53]) (.int 1#64) = .val (.str [53, 49]) := by
  refine ⟨?_, ?_, ?_, ?_⟩ <;> rfl
example : Spec.Ops.eval toyPrim .dot (.int 5#64) (.bool false) = some (.val (.str [53])) := by rfl
example : Spec.Ops.fixedKind .dot = some Kind.str ∧ Spec.Ops.alwaysValue .dot = true := ⟨rfl, rfl⟩
/-- `1 % "a"` is a catchable error, not a Go panic (an operand pair of the repair `fix: … operand checks`) -/
example : eval toyPrim Generated.C03Truthiness.table .rem false (.int 1#64) (.str [97]) = .err .unsupported := by rfl

end C03
