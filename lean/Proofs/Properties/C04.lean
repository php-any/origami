import Proofs.Lemmas.PrecRT
import Generated.C04Precedence
import Model.LexCfg
/-!
# C04 — expressions parse by the fixed precedence and associativity table;
adding or removing redundant parentheses never changes the tree (hence the value)

`Model.Prec` is a table-driven mirror of `parser/expression_parser.go`; the table is
regenerated from the source on every run (`Generated.C04.table`). The round trip is
proved once for EVERY well-formed table (`Prec_roundtrip`); the generated table is
shown well-formed and shown to satisfy the operator table of the property statement
by `decide`, so a change of the parser chain that violates either breaks the build.
-/
namespace C04
open Model.Prec Proofs.Prec

def allLevels (T : Table) (p : Nat → Level → Bool) : Bool := T.levels.zipIdx.all fun (L, j) => p j L

theorem allLevels_spec {T : Table} {p : Nat → Level → Bool} (h : allLevels T p = true) {j : Nat} {L : Level}
    (hL : levelAt T j = some L) : p j L = true :=
  List.all_eq_true.mp h (L, j) (List.mem_zipIdx_iff_getElem?.mpr hL)

/-- Boolean form of `WF`, sound by `wf_of_wfB` -/
def wfB (T : Table) : Bool :=
  allLevels T (fun j L => decide (∀ o ∈ L.ops, (if L.shape = .prefix then levelOfP T o else levelOfC T o) = j)) &&
  allLevels T (fun _ L => decide (L.shape ≠ .tern) ||
    allLevels T fun _ L' => decide (L'.shape ≠ .prefix → L.sep ∉ L'.ops)) &&
  T.reenter.all fun a => (levelAt T a).any fun L => decide (L.shape = .binR)

theorem wf_of_wfB {T : Table} (h : wfB T = true) : WF T := by
  simp only [wfB, Bool.and_eq_true] at h
  obtain ⟨⟨h1, h2⟩, h3⟩ := h
  refine ⟨fun o j L hL hs ho => ?_, fun o j L hL hs ho => ?_, fun j L hL hs i L' hL' hs' => ?_, fun a ha => ?_⟩
  · have := of_decide_eq_true (allLevels_spec h1 hL) o ho
    rwa [if_neg hs] at this
  · have := of_decide_eq_true (allLevels_spec h1 hL) o ho
    rwa [if_pos hs] at this
  · have := allLevels_spec h2 hL
    rw [decide_eq_false (not_not_intro hs), Bool.false_or] at this
    exact of_decide_eq_true (allLevels_spec this hL') hs'
  · rw [ha, Option.all_some] at h3
    cases hL : levelAt T a with
    | none => rw [hL] at h3; cases h3
    | some L => rw [hL] at h3; exact ⟨L, rfl, of_decide_eq_true h3⟩

open Generated.C04 in
/-- groups of the statement, tightest first; every group is strictly tighter than the next -/
def specGroups : List (Shape × List Nat) := [
  (.binR,   [O_POWER]),
  (.prefix, [O_SUB, O_NOT, O_BIT_NOT, O_CAST]),
  (.binL,   [O_MUL, O_QUO, O_REM]),
  (.binL,   [O_ADD, O_SUB]),
  (.binL,   [O_SHL, O_SHR]),
  (.binL,   [O_LT, O_LE, O_GT, O_GE, O_SPACESHIP]),
  (.binL,   [O_EQ, O_NE, O_EQ_STRICT, O_NE_STRICT]),
  (.binL,   [O_BIT_AND]),
  (.binL,   [O_BIT_XOR]),
  (.binL,   [O_BIT_OR]),
  (.binL,   [O_LAND]),
  (.binL,   [O_LOR]),
  (.binL,   [O_NULL_COALESCE]),
  (.tern,   [O_TERNARY]),
  (.binR,   [O_ASSIGN, O_ADD_EQ, O_SUB_EQ, O_MUL_EQ, O_QUO_EQ, O_REM_EQ, O_CONCAT_EQ, O_NULL_COALESCE_ASSIGN])]

def levelOfIn (T : Table) (s : Shape) (o : Nat) : Nat := if s == .prefix then levelOfP T o else levelOfC T o

/-- all operators of a group sit at one level of the group's shape -/
def groupOK (T : Table) (g : Shape × List Nat) : Bool :=
  match g.2 with
  | [] => true
  | o :: os =>
    let j := levelOfIn T g.1 o
    decide (j < T.levels.length) && shapeAt T j == some g.1 &&
      (o :: os).all (fun x => levelOfIn T g.1 x == j && (opsAt T j).contains x)

def groupLevel (T : Table) (g : Shape × List Nat) : Nat := levelOfIn T g.1 (g.2.headD 0)

/-- consecutive groups: the earlier (tighter) one has the larger level index -/
def chainOK (T : Table) : List (Shape × List Nat) → Bool
  | a :: b :: rest => decide (groupLevel T b < groupLevel T a) && chainOK T (b :: rest)
  | _ => true

open Generated.C04 in
/-- `.` is looser than arithmetic (`* / % + -`, shifts) and tighter than `??`; it is left-associative -/
def dotOK (T : Table) : Bool :=
  let d := levelOfC T O_DOT
  decide (d < T.levels.length) && shapeAt T d == some .binL && (opsAt T d).contains O_DOT &&
  decide (d < levelOfC T O_ADD) && decide (d < levelOfC T O_MUL) && decide (d < levelOfC T O_SHL) &&
  decide (levelOfC T O_NULL_COALESCE < d)

/-- the trusted reading of the statement's operator table: every group at one level of its shape (`groupOK`),
groups in strictly descending level (`chainOK`), `.` in its window (`dotOK`) -/
def satisfiesSpec (T : Table) : Bool :=
  specGroups.all (groupOK T) && chainOK T specGroups && dotOK T

/-- the translator found every syntactic shape it expects in `expression_parser.go` / `lparen_parser.go` -/
theorem C04_shape_unchanged : Generated.C04.shapeChanged = [] := by decide

/-- the generated table is well-formed: every operator belongs to one level, `:` is not an operator,
the re-entry level of `parseUnary` is the right-associative assignment level -/
theorem C04_table_wf : WF Generated.C04.table := wf_of_wfB (by decide +kernel)

/-- the generated table satisfies the operator table of the property statement -/
theorem C04_table_satisfies_spec : satisfiesSpec Generated.C04.table = true := by decide +kernel

/-- the operand of a cast is parsed by the prefix-operator level (casts bind like `! ~ -`) -/
theorem C04_cast_is_unary :
    ∃ j, Generated.C04.castLevel = some j ∧ shapeAt Generated.C04.table j = some .prefix := ⟨_, rfl, by decide⟩

/-- the assignment operators re-entered inside `parseUnary` are those of the assignment level -/
theorem C04_reenter_ops_match :
    (Generated.C04.reenterOpsSeen.all (fun o => (reenterOps Generated.C04.table).contains o) &&
     (reenterOps Generated.C04.table).all (fun o => Generated.C04.reenterOpsSeen.contains o)) = true := by decide +kernel

/-- **Round trip, every well-formed table.** Printing a tree with any choice of redundant
parentheses (`X`) and parsing the text gives the tree back. -/
theorem Prec_roundtrip {T : Table} (wf : WF T) (X : Expr → Bool) (e : Expr) (h : InLang T e) :
    ∃ f, parse T f 0 (pr T X 0 e) = .ok e [] := roundtrip wf X e h

/-- **Parentheses are irrelevant** for origami's table: minimal printing, full parenthesisation and
anything in between parse to the same tree — so any evaluation of the parsed tree gives the same value. -/
theorem C04_parens_irrelevant {α : Type} (eval : Expr → α) (e : Expr) (h : InLang Generated.C04.table e)
    (X Y : Expr → Bool) :
    ∃ f e₁ e₂, parse Generated.C04.table f 0 (pr Generated.C04.table X 0 e) = .ok e₁ [] ∧
               parse Generated.C04.table f 0 (pr Generated.C04.table Y 0 e) = .ok e₂ [] ∧
               eval e₁ = eval e ∧ eval e₂ = eval e := by
  obtain ⟨f, h1, h2⟩ := roundtrip_pair C04_table_wf e h X Y
  exact ⟨f, e, e, h1, h2, rfl, rfl⟩

/-- in particular `printMin` and `printFull` -/
theorem C04_min_full (e : Expr) (h : InLang Generated.C04.table e) :
    ∃ f, parse Generated.C04.table f 0 (printMin Generated.C04.table e) = .ok e [] ∧
         parse Generated.C04.table f 0 (printFull Generated.C04.table e) = .ok e [] :=
  roundtrip_pair C04_table_wf e h _ _

/-! ### known deviation (lexer level): a sign in front of a number literal is part of the number token,
so `-2 ** 2` reaches the parser as the literal `-2` raised to 2 (value 4) instead of `-(2 ** 2)` -/

/-- the bytes are the text `-2 ** 2`; its first token is `T_INT` with literal `-2`, not a minus sign -/
theorem C04_negative_literal_witness :
    ((Model.Lex.tokenize Model.Lex.genCfg #[45, 50, 32, 42, 42, 32, 50] .script).1.toks.map
      (fun t => (t.ty, t.lit))) =
      [(Generated.C01.T_INT, [45, 50]), (Generated.C01.T_POWER, [42, 42]), (Generated.C01.T_INT, [50])] := by
  decide +kernel

open Generated.C04 in
/-- `$a = -$b ** 2 * 3 + 4 . 5 ?? 6 ? 7 : 8` round-trips both ways, by evaluation. (The tree is in the
language of the table, but `InLang table e`, the hypothesis of the theorems above, is not part of this statement.) -/
example :
    let e : Expr := .bin O_ASSIGN (.atom 0)
      (.tern O_TERNARY
        (.bin O_NULL_COALESCE
          (.bin O_DOT (.bin O_ADD (.bin O_MUL (.un O_SUB (.bin O_POWER (.atom 1) (.atom 2))) (.atom 3)) (.atom 4)) (.atom 5))
          (.atom 6))
        (.atom 7) (.atom 8))
    parse table 64 0 (printMin table e) = .ok e [] ∧ parse table 400 0 (printFull table e) = .ok e [] ∧
    (printMin table e).length = 18 := by
  decide +kernel

end C04
