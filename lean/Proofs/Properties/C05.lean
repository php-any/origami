import Proofs.Lemmas.ExcCli
import Proofs.Lemmas.ExcRefine
import Proofs.Lemmas.ExcShape
import Proofs.Lemmas.HierGraph
import Model.ExcPairs
import Generated.C05Pairs
import Generated.C05TryShape
/-!
# C05 — first matching catch, finally exactly once, uncaught errors fail the process

All theorems quantify over every class table `G` (hypotheses: the extends chain has no cycle; declared
`Exception`/`Error` classes are `Throwable` — both C08 notions), every program of `Model.Exc` (arbitrary nesting and
length, any number of named functions that call themselves and each other to any depth: the semantics is structurally
recursive on the syntax and on the level, there is no fuel), every starting trace, every value of the enclosing catch
variable and every activation `A` — its level and *whatever its callees do* (`A.env` is universally quantified in the
statement-level theorems). `cfg.guarded = true` / `Cfg.fixed` is the tree with the C05 fixes; the pinned behaviour is
kept as `Cfg.pinned` with proved negation witnesses.
-/
namespace C05
open Model.Exc
open Model.Hier (Name Graph)
open Spec.Hier (NoCycle csucc)
open Spec.Exc (Rules TypeOk FirstMatch NoMatch ThrowableRooted mentionsB mentionsC mentionsP goodP proj Alternates)
open Proofs.Exc

/-- **First match.** A `try` whose body lets out the thrown value `x` (a user `throw`, a throw from a callee, a
rethrow, a converted host panic) at trace `tr₁`:
* if clause `k` with body `h` is the first clause in source order one of whose types is the class of `x`, an
  ancestor or an implemented interface (`FirstMatch`, over the declared hierarchy `Spec.Hier.IsA`), then exactly that
  body runs, after the event `caught i k x`, with the catch variable holding `x` (`cur = some x`), and then the
  finally phase;
* if no clause qualifies (`NoMatch`), no clause body runs: `x` is still pending when the finally phase starts and
  goes on to the enclosing `try` (the enclosing statement only ever sees this statement's outcome);
* one of the two cases always applies. -/
theorem C05_first_match (G : Graph) (hn : NoCycle (csucc G)) (hroot : ThrowableRooted G) (cfg : Cfg)
    (hg : cfg.guarded = true) (cur : Option Thrown) (A : Act) (i : Nat) (b : Block) (cs : Catches) (hasFin : Bool)
    (fin : Block) (tr tr₁ : List Ev) (x : Thrown)
    (hbody : protect (execB G cfg cur A b (tr ++ [.enterTry A.lvl i])) = (.thr x, tr₁)) :
    (∀ k h, FirstMatch G x cs 0 k h →
        exec G cfg cur A (.try_ i b cs hasFin fin) tr =
          finallyPhase A.lvl i hasFin (fun t => protect (execB G cfg cur A fin t))
            (protect (execB G cfg (some x) A h (tr₁ ++ [.caught A.lvl i k x])))) ∧
    (NoMatch G x cs →
        exec G cfg cur A (.try_ i b cs hasFin fin) tr =
          finallyPhase A.lvl i hasFin (fun t => protect (execB G cfg cur A fin t)) (.thr x, tr₁)) ∧
    ((∃ k h, FirstMatch G x cs 0 k h) ∨ NoMatch G x cs) := by
  have hscan : exec G cfg cur A (.try_ i b cs hasFin fin) tr =
      finallyPhase A.lvl i hasFin (fun t => protect (execB G cfg cur A fin t)) (protect (execC G cfg A i 0 x cs tr₁)) := by
    rw [exec_try hg, tryStmt, hbody]; rfl
  refine ⟨fun k h hf => ?_, fun hno => ?_, first_or_none G x cs 0⟩
  · obtain ⟨j, hs, rfl⟩ := sel_of_firstMatch G hn hroot x hf
    rw [hscan, execC_sel, hs]
    rfl
  · rw [hscan, execC_sel, sel_of_noMatch G hn hroot x cs hno]
    rfl

/-- `catchTypeMatches` decides exactly "one of the clause's types is the object's class, an ancestor or an
implemented interface" (for an object-less throwable: the type is named Throwable, Exception or Error). -/
theorem C05_clause_test (G : Graph) (hn : NoCycle (csucc G)) (hroot : ThrowableRooted G) (tys : List Name) (x : Thrown) :
    clauseMatches G tys x = true ↔ ∃ ty ∈ tys, TypeOk G x ty :=
  clauseMatches_iff G hn hroot tys x

/-- **Innermost first.** Whatever an inner `try` statement does with an exception, the clauses of the enclosing
`try` are consulted only about what the inner statement lets out: if the enclosing body ends without a pending
throwable, no clause of the enclosing `try` runs. -/
theorem C05_innermost_first (G : Graph) (cfg : Cfg) (hg : cfg.guarded = true) (cur : Option Thrown) (A : Act) (i : Nat)
    (b : Block) (cs : Catches) (hasFin : Bool) (fin : Block) (tr tr₁ : List Ev) (o : Out)
    (hbody : execB G cfg cur A b (tr ++ [.enterTry A.lvl i]) = (o, tr₁)) (hno : ∀ x, o ≠ .thr x) (hnp : o ≠ .panic) :
    exec G cfg cur A (.try_ i b cs hasFin fin) tr =
      finallyPhase A.lvl i hasFin (fun t => protect (execB G cfg cur A fin t)) (o, tr₁) := by
  rw [exec_try hg, tryStmt, hbody]
  cases o with
  | thr x => exact absurd rfl (hno x)
  | panic => exact absurd rfl hnp
  | _ => rfl

/- Full statement of the clause "the catch variable is that same object":
     ∀ x, Model.Exc.boundValue x = Spec.Exc.boundValue x
   It is false for the code: `tryValue` stores the `*data.ThrowValue` control in the variable, not `c.Object`
   (known finding C05-catch-variable-is-wrapper). What holds: the bound value wraps exactly the thrown object, and
   the handler runs with that object as the current exception (see `C05_first_match`: `some x`). -/
theorem C05_catch_variable_partial (x : Thrown) : (boundValue x).underlying = x := rfl

theorem C05_catch_variable_counterexample : ¬ ∀ x, boundValue x = Spec.Exc.boundValue x := by
  intro h; exact absurd (h .internal) (by decide)

/-- **Finally exactly once, one statement, one activation.** A `try` numbered `i` with a finally block, whose parts
contain no other `try` numbered `i`, executed by the activation of level `n` of any program (named functions `fns`
that may call themselves and each other from the try block, the catch bodies and the finally block of this very
statement): for every content of body, clauses and finally block, every class table, every pending catch variable —
hence on every exit path: fall-through, return, break, continue, throw (caught here or not), throw from a catch body,
throw/return/jump from the finally block, host panic anywhere, and however many deeper activations enter the same
statement meanwhile — this execution adds to the events of try `i` *of its own activation* exactly `enterTry`
followed by `enterFinally`, before control leaves the statement. -/
theorem C05_finally_once (G : Graph) (cfg : Cfg) (hg : cfg.guarded = true) (fns : List Block) (n : Nat) (i : Nat)
    (b : Block) (cs : Catches) (fin : Block) (hb : mentionsB i b = false) (hc : mentionsC i cs = false)
    (hf : mentionsB i fin = false) (cur : Option Thrown) (tr : List Ev) :
    ∃ ext, (exec G cfg cur (actAt G cfg fns n) (.try_ i b cs true fin) tr).2 = tr ++ ext ∧
      proj n i ext = [.enterTry n i, .enterFinally n i] :=
  try_once G cfg hg (actAt G cfg fns n) i b cs fin hb hc hf
    (envAt_noEv_above G cfg hg fns i n n (Nat.le_refl n)) cur tr

/-- **Finally exactly once, whole runs.** In the trace of any program in which the `try` statements numbered `i` have
a finally block and are not nested in one another syntactically (`goodP`; the number identifies a statement, it may be
executed many times by loops, calls and recursion), for every level `L` the events of try `i` in the activations of
level `L` are `enterTry, enterFinally, enterTry, enterFinally, …`: every entry is followed by exactly one run of the
finally block by the same activation before the next entry at that level or the end of the run — although the
activations below `L` that the body, the handlers and the finally block start re-enter the same statement in between. -/
theorem C05_finally_once_run (G : Graph) (cfg : Cfg) (hg : cfg.guarded = true) (i : Nat) (p : Prog)
    (hp : goodP i p = true) (L : Nat) : Alternates L i (proj L i (run G cfg p).2) := by
  simp only [goodP, Bool.and_eq_true, List.all_eq_true] at hp
  exact (execB_alt G cfg hg L i (actAt G cfg p.fns p.depth) (envAt_alt G cfg hg p.fns i hp.2 p.depth L)
    (fun e => envAt_noEv_above G cfg hg p.fns i p.depth L (by simp [actAt] at e; omega)) p.main hp.1 none).at_nil

/-- a `try` that is not mentioned emits nothing: the events of try `i` come from the statements numbered `i` only -/
theorem C05_no_foreign_events (G : Graph) (cfg : Cfg) (hg : cfg.guarded = true) (i : Nat) (p : Prog)
    (hp : mentionsP i p = false) (L : Nat) : proj L i (run G cfg p).2 = [] := by
  simp only [mentionsP, Bool.or_eq_false_iff, List.any_eq_false, Bool.not_eq_true] at hp
  exact (execB_closed (closed_noEv L i) (walk_noEv hg (A := actAt G cfg p.fns p.depth)
    (envAt_noEv_unmentioned G cfg hg p.fns i hp.2 p.depth L)) p.main (fun _ => hp.1) none).at_nil

/-- the pinned code (one deferred `recover` around the whole statement) skipped the finally block when the body
panicked at Go level: `try { host_panic(); } catch (Throwable $e) { echo 1; } finally { echo 2; }` -/
def witnessPanic : Block :=
  .cons (.try_ 1 (.cons .gopanic .nil) (.cons [0] (.cons (.echo 1) .nil) .nil) true (.cons (.echo 2) .nil)) .nil

theorem C05_finally_once_pinned_counterexample :
    (run ⟨[], []⟩ Cfg.pinned (.ofBlock witnessPanic)).2 = [.enterTry 0 1, .caught 0 1 0 .internal, .echo 0 1] ∧
    (run ⟨[], []⟩ Cfg.fixed (.ofBlock witnessPanic)).2 =
      [.enterTry 0 1, .caught 0 1 0 .internal, .echo 0 1, .enterFinally 0 1, .echo 0 2] := by
  constructor <;> decide +kernel

/-! ## what finally does replaces what was pending — and nothing else does -/

/-- **Override.** With `r₂` what is pending after the try/catch part (a return value, an exception, a jump, or
nothing) and `r₃` what the finally block did: if the finally block completes normally the pending outcome is
resumed, otherwise — `return`, `throw`, `break`, `continue` in finally — `r₃` replaces it. -/
theorem C05_finally_return_overrides (a i : Nat) (runFin : List Ev → Res) (r₂ : Res) :
    finallyPhase a i true runFin r₂ =
      (let r₃ := runFin (r₂.2 ++ [.enterFinally a i])
       if r₃.1 = .normal then (r₂.1, r₃.2) else r₃) := by
  rw [finallyPhase_eq]
  by_cases h : (runFin (r₂.2 ++ [.enterFinally a i])).1 = .normal <;> simp [h]

/-- `function f() { try { return a; } finally { return b; } }` returns `b`; with `throw new K` instead of
`return a` (and no matching clause) the exception is discarded and `f` returns `b`; for every class table. -/
theorem C05_finally_return_wins (G : Graph) (cfg : Cfg) (hg : cfg.guarded = true) (cur : Option Thrown) (A : Act)
    (i a b : Nat) (cls site : Nat) (tr : List Ev) :
    exec G cfg cur A (.call (.cons (.try_ i (.cons (.ret a) .nil) .nil true (.cons (.ret b) .nil)) .nil)) tr =
      (.normal, tr ++ [.enterTry A.lvl i] ++ [.enterFinally A.lvl i] ++ [.result (some (tag A.lvl b))]) ∧
    exec G cfg cur A (.call (.cons (.try_ i (.cons (.throw cls site) .nil) .nil true (.cons (.ret b) .nil)) .nil)) tr =
      (.normal, tr ++ [.enterTry A.lvl i] ++ [.enterFinally A.lvl i] ++ [.result (some (tag A.lvl b))]) := by
  constructor <;> (rw [exec_call, execB_single, exec_try hg]; rfl)

/-- **A pending outcome belongs to its activation.** `o` is what the try/catch part of a `try` statement executed by
activation `A` left pending — a return value, a thrown object (uncaught here, or thrown by a handler), a break, a
continue, or nothing. If the finally block completes normally, the statement's outcome is `o`, unchanged, whatever
the finally block did on the way: in particular whatever the functions it called returned or threw and caught —
`A.env` is arbitrary — including deeper activations of the enclosing function executing this same `return` / `throw`
/ `break` / `continue` statement. Only a control that leaves the finally block itself replaces `o`
(`C05_finally_return_overrides`). -/
theorem C05_pending_outcome_kept (G : Graph) (cfg : Cfg) (hg : cfg.guarded = true) (cur : Option Thrown) (A : Act)
    (i : Nat) (b : Block) (cs : Catches) (fin : Block) (tr tr₂ tr₃ : List Ev) (o : Out)
    (hpending : catchPhase (fun r => protect (tryValue (fun x t => execC G cfg A i 0 x cs t) r))
        (protect (execB G cfg cur A b (tr ++ [.enterTry A.lvl i]))) = (o, tr₂))
    (hfin : protect (execB G cfg cur A fin (tr₂ ++ [.enterFinally A.lvl i])) = (.normal, tr₃)) :
    exec G cfg cur A (.try_ i b cs true fin) tr = (o, tr₃) := by
  rw [exec_try hg, tryStmt, hpending]
  exact finallyPhase_normal hfin

/-- the same seen from the caller: `function g($n) { try { return v; } finally { … } }` — if the finally block
completes normally the call yields the value of *this* activation's `return` (`$n * 1000 + v` with this activation's
`$n`), whatever the activations started by the finally block returned -/
theorem C05_return_survives_finally (G : Graph) (cfg : Cfg) (hg : cfg.guarded = true) (A : Act) (i v : Nat)
    (fin : Block) (tr tr₃ : List Ev)
    (hfin : protect (execB G cfg none A fin (tr ++ [.enterTry A.lvl i] ++ [.enterFinally A.lvl i])) = (.normal, tr₃)) :
    callResult (execB G cfg none A (.cons (.try_ i (.cons (.ret v) .nil) .nil true fin) .nil) tr) =
      (.normal, tr₃ ++ [.result (some (tag A.lvl v))]) := by
  rw [execB_single, C05_pending_outcome_kept G cfg hg none A i (.cons (.ret v) .nil) .nil fin tr _ tr₃ (.ret (tag A.lvl v)) rfl hfin]
  rfl

/-- `function walk($n) { try { return $n*1000+v; } finally { if ($n > 0) { $r = walk($n - 1); echo $r; } } }` -/
def walk (v : Nat) : Block :=
  .cons (.try_ 1 (.cons (.ret v) .nil) .nil true (.cons (.callf 0) .nil)) .nil

/-- one activation of `walk`, whatever level, provided the call it makes (if any) comes back with a `return` -/
theorem C05_reentrant_return_step (G : Graph) (cfg : Cfg) (hg : cfg.guarded = true) (v : Nat) (A : Act)
    (hcallee : A.lvl ≠ 0 → ∀ t, ∃ w t', A.env 0 t = (.ret w, t')) (tr : List Ev) :
    ∃ t', execB G cfg none A (walk v) tr = (.ret (tag A.lvl v), t') := by
  have hfin : ∀ t, ∃ t', protect (execB G cfg none A (.cons (.callf 0) .nil) t) = (.normal, t') := by
    intro t
    rw [execB_single, exec_callf, callNamed]
    split
    · exact ⟨t, rfl⟩
    · rename_i h0
      obtain ⟨w, t', hr⟩ := hcallee h0 t
      exact ⟨t' ++ [.result (some w)], by rw [hr]; rfl⟩
  obtain ⟨t', ht'⟩ := hfin (tr ++ [.enterTry A.lvl 1] ++ [.enterFinally A.lvl 1])
  exact ⟨t', by
    rw [walk, execB_single, C05_pending_outcome_kept G cfg hg none A 1 (.cons (.ret v) .nil) .nil _ tr _ t' (.ret (tag A.lvl v)) rfl ht']⟩

/-- **Re-entrant return, every depth.** Each activation of `walk` returns its own value although its finally block
runs the whole rest of the recursion — the same `return` statement executed `n` more times — while that value is
pending: `walk(n)` returns `n * 1000 + v` for every `n`. -/
theorem C05_reentrant_return (G : Graph) (cfg : Cfg) (hg : cfg.guarded = true) (v : Nat) :
    ∀ (n : Nat) (tr : List Ev), ∃ t', envAt G cfg [walk v] (n+1) 0 tr = (.ret (tag n v), t')
  | 0, tr => by
    rw [envAt_succ]
    exact C05_reentrant_return_step G cfg hg v ⟨0, envAt G cfg [walk v] 0⟩ (fun h => absurd rfl h) tr
  | n+1, tr => by
    rw [envAt_succ]
    exact C05_reentrant_return_step G cfg hg v ⟨n+1, envAt G cfg [walk v] (n+1)⟩
      (fun _ t => ⟨tag n v, C05_reentrant_return G cfg hg v n t⟩) tr

/-! ## nothing survives an iteration -/

/-- **Iteration independence.** A loop `for (… k times …) { body }` executed by the activation of level `n` of any
program, for every body (any nesting of try / catch / finally, throws, returns, jumps, host panics, calls of named
functions that recurse to any depth), every pending catch variable and every trace so far: run the body once from
the *empty* trace — it ends with outcome `o` after the events `ext` — then the loop is `o`, `ext` repeated
(`repeatIter`: next iteration on normal / continue, stop on break, hand on anything else). No iteration can tell how
many came before it: no state survives a statement in the model. A real run whose n-th iteration departs from its
first therefore breaks the correspondence — that is how a resource of the interpreter that is not restored on some
exit path (a counter, a stack, a lock) is found, after however many iterations it takes. -/
theorem C05_iteration_independence (G : Graph) (cfg : Cfg) (hg : cfg.guarded = true) (fns : List Block) (n : Nat)
    (cur : Option Thrown) (k : Nat) (body : Block) (tr : List Ev) :
    exec G cfg cur (actAt G cfg fns n) (.loop k body) tr =
      repeatIter (execB G cfg cur (actAt G cfg fns n) body []).1 (execB G cfg cur (actAt G cfg fns n) body []).2 k tr := by
  have hu := (execB_uni G cfg hg (actAt G cfg fns n) (envAt_uni G cfg hg fns n) body cur).at_nil
  rw [exec_loop]
  exact loopN_repeat (step := fun t => execB G cfg cur (actAt G cfg fns n) body t) hu k tr

/-- **The n-th iteration behaves like the first.** Whatever the first `j` iterations of the loop left in the trace,
the next iteration of the body ends the way the first one (started from nothing) ends and appends the same events —
same handler (`caught i k x` is one of the events), same number of `enterFinally`. -/
theorem C05_nth_iteration_like_first (G : Graph) (cfg : Cfg) (hg : cfg.guarded = true) (fns : List Block) (n : Nat)
    (cur : Option Thrown) (body : Block) (j : Nat) (tr : List Ev) :
    let step := fun t => execB G cfg cur (actAt G cfg fns n) body t
    step (loopN step j tr).2 = ((step []).1, (loopN step j tr).2 ++ (step []).2) :=
  (execB_uni G cfg hg (actAt G cfg fns n) (envAt_uni G cfg hg fns n) body cur).at_nil _

/-- when an iteration ends normally or with `continue`, `k` iterations append its events `k` times and the loop
ends normally: handler identity and finally count are the same in every iteration -/
theorem C05_iterations_alike (G : Graph) (cfg : Cfg) (hg : cfg.guarded = true) (fns : List Block) (n : Nat)
    (cur : Option Thrown) (k : Nat) (body : Block) (tr ext : List Ev) (o : Out) (ho : o = .normal ∨ o = .cont)
    (hfirst : execB G cfg cur (actAt G cfg fns n) body [] = (o, ext)) :
    exec G cfg cur (actAt G cfg fns n) (.loop k body) tr = (.normal, tr ++ (List.replicate k ext).flatten) := by
  rw [C05_iteration_independence G cfg hg fns n cur k body tr, hfirst, repeatIter_eq]
  rcases ho with rfl | rfl <;> simp [loopOutcome, iterCount]

/-- **Long runs.** A program whose top level is one loop is evaluated by running the body once and repeating it
(`runLoop`: the events of the first iteration, `iterCount` times, in time linear in `k` — what the driver answers
for the long-running correspondence programs): the same as `run`. -/
theorem C05_long_run (G : Graph) (cfg : Cfg) (hg : cfg.guarded = true) (fns : List Block) (body : Block) (k d : Nat) :
    run G cfg ⟨fns, .cons (.loop k body) .nil, d⟩ = runLoop G cfg fns body k d := by
  simp only [run, runLoop, execB_single, C05_iteration_independence G cfg hg fns d none k body [], repeatIter_eq,
    List.nil_append]

/-! ## what the model leaves out: resources entered on the call path are left on every exit path

`Model.Exc` has no call-depth counter and no locks. `Generated.C05Pairs` (regenerated from `node/`, `runtime/`,
`data/` on every run) lists every Go function that enters a paired operation and how it leaves it. -/

open Model.ExcPairs in
/-- a site that passes `siteOK` gives the resource back on every exit path: return of a value, return of a control
(a propagating exception, break, continue, return), and — where the Leave is deferred — a Go panic -/
theorem C05_paired_restored (s : Site) (hok : siteOK s = true) (e : Exit)
    (he : s.mode = .deferred ∨ e ≠ .goPanic) (d : Nat) : after s e d = d := by
  rcases s with ⟨file, fn, en, lv, mode, ub, rs⟩
  cases mode
  · simp [after]
  · cases e with
    | goPanic => simp at he
    | returnAt l =>
      simp only [siteOK, Bool.and_eq_true, List.isEmpty_iff] at hok
      simp [after, hok.1]
  · simp [siteOK] at hok

open Model.ExcPairs in
/-- hence no drift: after any number of executions the resource is where it was — the iterations of a loop start
from the same interpreter state, as `C05_iteration_independence` takes for granted -/
theorem C05_paired_no_drift (s : Site) (hok : siteOK s = true) (e : Exit)
    (he : s.mode = .deferred ∨ e ≠ .goPanic) : ∀ (n d : Nat), afterN s e n d = d
  | 0, d => rfl
  | n+1, d => by rw [afterN, C05_paired_restored s hok e he d]; exact C05_paired_no_drift s hok e he n d

open Model.ExcPairs in
/-- … and a site that misses the Leave on one exit drifts by one per execution left that way, so that whatever the
limit of the recursion guard, after enough iterations every further call is refused -/
theorem C05_leak_drifts (s : Site) (e : Exit) (hleak : ∀ d, after s e d = d + 1) :
    (∀ (n d : Nat), afterN s e n d = d + n) ∧ ∀ limit d, ∃ n, refused limit (afterN s e n d) = true := by
  have h : ∀ (n d : Nat), afterN s e n d = d + n := by
    intro n
    induction n with
    | zero => intro d; rfl
    | succ n ih => intro d; rw [afterN, hleak, ih]; omega
  exact ⟨h, fun limit d => ⟨limit, by simp [refused, h]; omega⟩⟩

/-- **The regenerated obligation.** In the tree being checked every function of `node/`, `runtime/`, `data/` that
enters a paired operation (`EnterCall`/`LeaveCall` of the method-call recursion guard, locks, any `Enter…/Leave…`,
`Push…/Pop…`, `Begin…/End…`, `Acquire…/Release…` pair) defers the Leave, or — where no script code runs in between —
leaves on every return; `ClassMethod.Call` brackets the method body with `EnterCall`/`LeaveCall` (the translator
reports a missing guard in `shapeChanged`); the counter operations cancel. -/
theorem C05_call_path_pairs_balanced :
    Generated.C05Pairs.sites.all Model.ExcPairs.siteOK = true ∧
    Generated.C05Pairs.shapeChanged = [] ∧
    Model.ExcPairs.countersCancel Generated.C05Pairs.counters = true := by decide +kernel

/-- **The model is PHP.** For every program — any named functions, any depth of recursion — the repaired interpreter
model and the specification (`Spec.Exc`: first clause in source order by the declared hierarchy, handler run with the
thrown object as current exception (`cur = some x`; the value stored in the catch variable is outside `run`, see
`C05_catch_variable_*`), finally once, finally's own control replaces what was pending, `throw $e` rethrows the same
object, a host failure inside `try` is a class-less throwable, a call is a new activation) produce the same trace and
end the same way — for any rule set `R` that decides the hierarchy. -/
theorem C05_refines (G : Graph) (hn : NoCycle (csucc G)) (hroot : ThrowableRooted G) (R : Rules) (hR : R.Decides G)
    (p : Prog) : run G Cfg.fixed p = Spec.Exc.run R p := by
  simp only [run, Spec.Exc.run, actAt, envAt_refines G hn hroot R hR p.fns p.depth,
    execB_refines G hn hroot R hR _ p.main none []]

/-- the same for one statement in any context and any activation -/
theorem C05_refines_stmt (G : Graph) (hn : NoCycle (csucc G)) (hroot : ThrowableRooted G) (R : Rules) (hR : R.Decides G)
    (s : Stmt) (cur : Option Thrown) (A : Act) (tr : List Ev) :
    exec G Cfg.fixed cur A s tr = Spec.Exc.exec R cur A s tr :=
  exec_refines G hn hroot R hR A s cur tr

/-- `Exception` (1, implements `Throwable` 0) ← K3 ← K4 -/
def witnessG : Graph :=
  { classes := [⟨1, none, [0], [], []⟩, ⟨3, some 1, [], [], []⟩, ⟨4, some 3, [], [], []⟩],
    ifaces := [⟨0, [], []⟩] }

def witnessRethrow : Block :=
  .cons (.try_ 2
    (.cons (.try_ 1 (.cons (.throw 4 1) .nil) (.cons [3] (.cons .rethrow .nil) .nil) false .nil) .nil)
    (.cons [4] (.cons (.echo 1) .nil) (.cons [1] (.cons (.echo 2) .nil) .nil)) false .nil) .nil

/-- the pinned `throw $e` threw a class-less copy: the outer `catch (K4)` misses it, `catch (Exception)` gets it -/
theorem C05_refines_pinned_counterexample :
    (run witnessG Cfg.pinned (.ofBlock witnessRethrow)).2 =
      [.enterTry 0 2, .enterTry 0 1, .caught 0 1 0 (.obj 4 1), .caught 0 2 1 .internal, .echo 0 2] ∧
    (run witnessG Cfg.fixed (.ofBlock witnessRethrow)).2 =
      [.enterTry 0 2, .enterTry 0 1, .caught 0 1 0 (.obj 4 1), .caught 0 2 0 (.obj 4 1), .echo 0 1] := by
  constructor <;> decide +kernel

/-! ## the clause list: built as parsed, scanned first-match — and what leaving a clause out does

`execC` is the scan over the clauses *of the source*. Between the source and the scan sits the parser
(`parser/try_parser.go`), which builds `TryStatement.CatchBlocks`; a parse-time rewrite of the statement — leaving out
a clause whose body is "only `throw $e;`" or empty, merging, folding — changes what the scan sees without touching
`node/try.go`. This section says exactly when leaving clauses out is invisible, why a rethrow-only clause is not a
no-op, and pins the parser's clause loop and the scan loop of the tree being checked to the shape the model mirrors
(`Generated.C05TryShape`, regenerated on every run). "The clause that handles `x`" is `sel` on `Catches` (index and body)
in the statements about the scan and `selClause` on the clause list in those about rewrites; the two pick the same body
(`sel_toList`). -/

/-- **The scan in closed form.** For every clause list the catch phase runs the body of the first clause (source
order) whose `catchTypeMatches` answers yes — after that clause's `caught` event, the variable bound to the thrown
value — and nothing else; with no such clause the value stays pending. -/
theorem C05_handler_is_selection (G : Graph) (cfg : Cfg) (A : Act) (i : Nat) (x : Thrown) (cs : Catches) (tr : List Ev) :
    execC G cfg A i 0 x cs tr = handleWith G cfg A i 0 x tr (sel G x cs) ∧
    handleWith G cfg A i 0 x tr none = (.thr x, tr) ∧
    ∀ j h, handleWith G cfg A i 0 x tr (some (j, h)) = execB G cfg (some x) A h (tr ++ [.caught A.lvl i j x]) :=
  ⟨execC_sel G cfg A i x cs 0 tr, rfl, fun j h => by simp [handleWith]⟩

/-- **When may clauses be left out?** Any rewrite of a clause list that only leaves clauses out (`keepC keep`: the
clauses failing `keep` are dropped, the others keep their order) selects the same handler for the thrown value `x`
**iff** the clause that handles `x` in the source is kept. -/
theorem C05_clause_rewrite_iff (G : Graph) (x : Thrown) (keep : Clause → Bool) (cs : Catches) :
    selClause G x (keepC keep cs).toList = selClause G x cs.toList ↔
      ∀ c, selClause G x cs.toList = some c → keep c = true := by
  rw [toList_keepC]
  exact selClause_filter_iff G x keep cs.toList

/-- … hence it is invisible for *every* thrown value iff every clause it drops is dead (never the first match) -/
theorem C05_clause_rewrite_sound_iff (G : Graph) (keep : Clause → Bool) (cs : Catches) :
    (∀ x, selClause G x (keepC keep cs).toList = selClause G x cs.toList) ↔
      ∀ x c, selClause G x cs.toList = some c → keep c = true :=
  ⟨fun h x => (C05_clause_rewrite_iff G x keep cs).1 (h x), fun h x => (C05_clause_rewrite_iff G x keep cs).2 (h x)⟩

/-- **A rethrow-only clause handles.** If the first matching clause for `x` is `catch (T $e) { throw $e; }`, the catch
phase ends with `x` pending again — same object (`rethrowKeeps`: fix 3113568) — and *no later clause of the same try
has been consulted*: `x` goes through the finally block to the enclosing statement. -/
theorem C05_rethrow_only_clause_handles (G : Graph) (cfg : Cfg) (hk : cfg.rethrowKeeps = true) (A : Act) (i j : Nat)
    (x : Thrown) (cs : Catches) (h : Block) (hsel : sel G x cs = some (j, h)) (hr : rethrowOnly h = true) (tr : List Ev) :
    execC G cfg A i 0 x cs tr = (.thr x, tr ++ [.caught A.lvl i j x]) := by
  rw [(C05_handler_is_selection G cfg A i x cs tr).1, hsel]
  revert hr
  fun_cases rethrowOnly h with
  | case1 =>
    intro _
    rw [handleWith, execB_single]
    show (Out.thr (rethrown cfg (some x)), _) = _
    rw [rethrown, if_pos hk, Nat.zero_add]
  | case2 => exact fun hr => Bool.noConfusion hr

/-- the same for the whole statement: a `try` whose body lets out `x`, first matching clause rethrow-only: `x` is
pending over the finally phase, whatever the later clauses are -/
theorem C05_rethrow_only_try (G : Graph) (cfg : Cfg) (hg : cfg.guarded = true) (hk : cfg.rethrowKeeps = true)
    (cur : Option Thrown) (A : Act) (i j : Nat) (b : Block) (cs : Catches) (hasFin : Bool) (fin : Block)
    (tr tr₁ : List Ev) (x : Thrown) (h : Block)
    (hbody : protect (execB G cfg cur A b (tr ++ [.enterTry A.lvl i])) = (.thr x, tr₁))
    (hsel : sel G x cs = some (j, h)) (hr : rethrowOnly h = true) :
    exec G cfg cur A (.try_ i b cs hasFin fin) tr =
      finallyPhase A.lvl i hasFin (fun t => protect (execB G cfg cur A fin t)) (.thr x, tr₁ ++ [.caught A.lvl i j x]) := by
  rw [exec_try hg, tryStmt, hbody]
  show finallyPhase _ _ _ _ (protect (execC G cfg A i 0 x cs tr₁)) = _
  rw [C05_rethrow_only_clause_handles G cfg hk A i j x cs h hsel hr]
  rfl

/-- **Leaving the handling clause out hands the value to the next one.** Source clauses `pre ++ c :: post`, no clause of
`pre` matches `x`, `c` is dropped: the scan of the rewritten list stops at the first *kept* clause of `post` that
matches `x`. With `c` rethrow-only that is the difference between "`x` propagates" and "a later, more general clause
of the same try swallows `x`" — unless no kept clause of `post` matches, the only case in which dropping `c` is sound. -/
theorem C05_dropped_clause_next_takes_over (G : Graph) (x : Thrown) (keep : Clause → Bool) (pre post : List Clause)
    (c : Clause) (hpre : ∀ d ∈ pre, clauseMatches G d.1 x = false) (hk : keep c = false) :
    selClause G x (keepC keep (Catches.ofList (pre ++ c :: post))).toList = selClause G x (post.filter keep) := by
  rw [toList_keepC, toList_ofList, selClause_filter, selClause_filter, List.find?_append]
  have : pre.find? (fun c => keep c && clauseMatches G c.1 x) = none := by
    rw [List.find?_eq_none]
    intro d hd
    simp [hpre d hd]
  simp [this, hk]

/-- `try { throw new K4 } catch (K4 $e) { throw $e; } catch (Exception $e) { echo 2; }` -/
def witnessShield : Catches := .cons [4] (.cons .rethrow .nil) (.cons [1] (.cons (.echo 2) .nil) .nil)

/-- **Negation witness for "catch-and-rethrow is equivalent to not having the clause".** With the clause the script
dies of an uncaught `K4` (and a script that prints no marker in that clause shows `T1;` only: `hide`); with the
clause left out `catch (Exception)` swallows the object and the script ends normally. -/
theorem C05_rethrow_only_drop_counterexample :
    observe ⟨[], [], [(1, 0)]⟩ (run witnessG Cfg.fixed (.ofBlock (.cons (.try_ 1 (.cons (.throw 4 1) .nil) witnessShield false .nil) .nil))) =
      (.uncaught (.obj 4 1), [.enterTry 0 1]) ∧
    run witnessG Cfg.fixed (.ofBlock (.cons (.try_ 1 (.cons (.throw 4 1) .nil)
        (keepC (fun c => !rethrowOnly c.2) witnessShield) false .nil) .nil)) =
      (.ok, [.enterTry 0 1, .caught 0 1 0 (.obj 4 1), .echo 0 2]) := by
  constructor <;> decide +kernel

/-- **The parser's clause loop, generically.** A clause loop that passes `clauseLoopOK` (one append of the clause
parsed in this trip, under conditions that cannot fail for a parsed clause; no `continue` / `break` that can fire; no
other store into the list) hands `NewTryStatement` exactly the clauses of the source, in order — whatever the value
of any test on a clause. -/
theorem C05_parsed_clauses_kept (ev : String → Clause → Bool) (F : Model.ExcShape.ParserFacts)
    (hok : Model.ExcShape.clauseLoopOK F = true) (src : List Clause) : Model.ExcShape.built ev F src = src := by
  simp only [Model.ExcShape.clauseLoopOK, Bool.and_eq_true] at hok
  obtain ⟨⟨hw, hskip⟩, _⟩ := hok
  split at hw
  · rename_i w happ
    rw [built_filter ev F w happ hw, List.filter_eq_self]
    intro c _
    -- every skip is under a condition that cannot hold for a parsed clause
    rw [Bool.not_eq_true', List.any_eq_false]
    intro gs hgs hall
    obtain ⟨g, hg, hn⟩ := List.any_eq_true.1 (List.all_eq_true.1 hskip gs hgs)
    exact absurd ((List.all_eq_true.1 hall g hg).symm.trans (Guard.holds_of_isNever hn ev c)) (by decide)
  · cases hw

/-- … and a loop with a `continue` under a test `g` on the clause builds the source list *without* the clauses that
pass `g`, so (by `C05_clause_rewrite_iff`) the statement selects the handler the source names for `x` **iff** the
handling clause fails `g` -/
theorem C05_clause_skip_iff (ev : String → Clause → Bool) (F : Model.ExcShape.ParserFacts) (g : String)
    (w : Model.ExcShape.Write) (happ : F.appends = [w]) (hw : w.guards.all Model.ExcShape.Guard.isAlways = true)
    (hskip : F.skips = [[.other g]]) (G : Graph) (x : Thrown) (src : List Clause) :
    Model.ExcShape.built ev F src = src.filter (fun c => !ev g c) ∧
    (selClause G x (Model.ExcShape.built ev F src) = selClause G x src ↔
      ∀ c, selClause G x src = some c → ev g c = false) := by
  have hb : Model.ExcShape.built ev F src = src.filter (fun c => !ev g c) := by
    rw [built_filter ev F w happ hw, hskip]
    simp [Model.ExcShape.Guard.holds]
  refine ⟨hb, ?_⟩
  rw [hb, selClause_filter_iff]
  simp

/-- a scan that passes `scanOK` (one forward range over `CatchBlocks`, body = `if catchTypeMatches(…) { … return }`)
runs the first matching clause of the list it is given -/
theorem C05_scan_is_first_match (S : Model.ExcShape.ScanFacts) (hok : Model.ExcShape.scanOK S = true) (G : Graph)
    (x : Thrown) (cs : List Clause) : Model.ExcShape.scanSelect G x cs S.loops = selClause G x cs := by
  simp only [Model.ExcShape.scanOK, Bool.and_eq_true] at hok
  obtain ⟨⟨hl, _⟩, _⟩ := hok
  split at hl
  · rename_i l hl'
    simp only [Bool.and_eq_true] at hl
    rw [hl']
    simp only [Model.ExcShape.scanSelect, Model.ExcShape.ScanLoop.select, hl.1.1, hl.2, if_true, selClause]
    cases List.find? (fun c => clauseMatches G c.1 x) cs <;> rfl
  · simp at hl

/-- **The regenerated obligation.** In the tree being checked `TryParser.Parse` stores into the three variables it
hands to `node.NewTryStatement` exactly once each — the try block and the finally block as `parseBlock` returned them,
every clause `parseCatchBlock` returned appended under no test on the clause —, has no `continue` / `break` in the
clause loop that can fire, returns nothing but that statement; a clause's body is what `parseBlock` returned;
`tryValue` scans `t.CatchBlocks` with one forward range that returns at the first `catchTypeMatches`; nothing else in
`node/` or `parser/` touches `CatchBlocks`. -/
theorem C05_try_statement_as_parsed :
    Model.ExcShape.parserOK Generated.C05TryShape.parser = true ∧
    Model.ExcShape.scanOK Generated.C05TryShape.scan = true ∧
    Generated.C05TryShape.shapeChanged = [] := by decide +kernel

/-- **Source to handler, for this tree.** Whatever the clauses of the source look like, the clause whose body runs for
`x` is the first clause *of the source* that matches `x`. -/
theorem C05_source_clause_selected (ev : String → Clause → Bool) (G : Graph) (x : Thrown) (src : List Clause) :
    Model.ExcShape.scanSelect G x (Model.ExcShape.built ev Generated.C05TryShape.parser src)
      Generated.C05TryShape.scan.loops = selClause G x src := by
  have h := C05_try_statement_as_parsed
  simp only [Model.ExcShape.parserOK, Bool.and_eq_true] at h
  rw [C05_parsed_clauses_kept ev _ h.1.1, C05_scan_is_first_match _ h.2.1]

/-! ## a try statement has no memory: the dispatch does not depend on what the node met before -/

open Model.ExcMemo in
/-- **Memo-free dispatch is the model's scan.** The index `firstIdx` finds over the clauses of a statement is the
index `sel` (and by `C05_handler_is_selection` the catch phase) stops at — what every execution of a try statement
does, whatever the same node handled before. -/
theorem C05_dispatch_is_scan (G : Graph) (x : Thrown) (cs : Catches) :
    firstIdx (test G) cs.toList x = (sel G x cs).map (·.1) := by
  fun_induction sel G x cs with
  | case1 => rfl
  | case2 tys body rest h => rw [Catches.toList, firstIdx, test, if_pos h]; rfl
  | case3 tys body rest h ih =>
    rw [Catches.toList, firstIdx, test, if_neg h, ih, Option.map_map, Option.map_map]
    rfl

open Model.ExcMemo in
/-- **A node that remembers its dispatch, one clause list.** Give the statement a memo `key ↦ answer of the first
execution that met the key` (a clause index or "no clause"), consulted before any clause test. Along EVERY history of
thrown values — iterations of a loop, calls of the function, nested activations — the node answers like the memo-free
scan **iff** thrown values with equal keys are dispatched alike by the scan. Generic in the thrown values, the clauses,
the clause test and the key. -/
theorem C05_memo_dispatch_iff {X K C : Type} [DecidableEq K] (key : X → K) (m : C → X → Bool) (cs : List C) :
    (∀ h : List X, runHist key m cs [] h = h.map (firstIdx m cs)) ↔
    (∀ x y, key x = key y → firstIdx m cs x = firstIdx m cs y) := by
  constructor
  · intro hall x y hxy
    have h2 := hall [x, y]
    simp [runHist, step, List.lookup, hxy] at h2
    exact h2
  · intro hk h
    exact Proofs.ExcMemo.runHist_faithful key m cs hk h [] (fun x r h => by simp [List.lookup] at h)

open Model.ExcMemo in
/-- **… every clause list.** The memo is invisible for all clause lists and all histories iff the key determines the
outcome of every clause test: `key x = key y → ∀ clause, matches clause x = matches clause y`. -/
theorem C05_memo_key_sound_iff {X K C : Type} [DecidableEq K] (key : X → K) (m : C → X → Bool) :
    (∀ (cs : List C) (h : List X), runHist key m cs [] h = h.map (firstIdx m cs)) ↔
    (∀ x y, key x = key y → ∀ c, m c x = m c y) := by
  constructor
  · intro hall x y hxy c
    have h1 := (C05_memo_dispatch_iff key m [c]).1 (hall [c]) x y hxy
    rw [Proofs.ExcMemo.firstIdx_single, Proofs.ExcMemo.firstIdx_single] at h1
    cases hx : m c x <;> cases hy : m c y <;> simp [hx, hy] at h1 ⊢
  · intro hk cs
    exact (C05_memo_dispatch_iff key m cs).2 (fun x y hxy => Proofs.ExcMemo.firstIdx_congr m x y (hk x y hxy) cs)

open Model.ExcMemo in
/-- a memo keyed by the class of the thrown object, object-less (interpreter-raised) throwables kept apart, is sound
for every class table, clause list and history: the clause tests look at nothing else -/
theorem C05_class_key_sound (G : Graph) (cs : List Clause) (h : List Thrown) :
    runHist classKey (test G) cs [] h = h.map (firstIdx (test G) cs) := by
  refine (C05_memo_key_sound_iff classKey (test G)).2 (fun x y hxy c => ?_) cs h
  cases x <;> cases y <;> simp [classKey] at hxy
  · subst hxy
    simp only [test, clauseMatches, singleMatches, classIs]
  · rfl

open Model.ExcMemo in
/-- **The class NAME is not such a key** (negation witness; `ThrowValue.GetName()` answers `"Exception"` for an
object-less throwable). `catch (Error $e)`: a runtime error raised by the interpreter matches, an object of class
`Exception` does not — same name. History [runtime error, `new Exception`]: the node with a name-keyed memo runs the
`catch (Error)` clause for both; in the other order it lets both pass. So by `C05_memo_key_sound_iff` the name does not
determine the clause tests, and no statement about "all histories" survives a name-keyed memo. -/
theorem C05_name_key_counterexample :
    runHist nameKey (test witnessG) [([2], Block.nil)] [] [.internal, .obj 1 1] = [some 0, some 0] ∧
    [Thrown.internal, .obj 1 1].map (firstIdx (test witnessG) [([2], Block.nil)]) = [some 0, none] ∧
    runHist nameKey (test witnessG) [([2], Block.nil)] [] [.obj 1 1, .internal] = [none, none] ∧
    ¬ (∀ x y, nameKey x = nameKey y → ∀ c, test witnessG c x = test witnessG c y) := by
  refine ⟨rfl, rfl, rfl, ?_⟩
  intro h
  have := h .internal (.obj 1 1) rfl ([2], Block.nil)
  exact absurd this (by decide)

/-- **The regenerated obligation.** In the tree being checked `TryStatement` has no field beyond the embedded node and
the three blocks the parser fills, and no method of it writes a field of the receiver (assignment, `++`, `&t.F`, a
storing method on a field) or hands the receiver on as a value: the statement keeps no memory between executions, so
its dispatch is `C05_dispatch_is_scan` in every execution. -/
theorem C05_try_node_stateless :
    Model.ExcMemo.stateless Generated.C05TryShape.node = true := by decide

open Model.Cli in
/-- **Exit status.** With the repaired `RunScriptFile`: a script that is missing, does not parse, ends with an
uncaught throwable, returns a late control or dies of a Go panic gives a non-zero status and a diagnostic on
stderr, whatever it did before. -/
theorem C05_exit_status (inp : Input)
    (h : inp = .missing ∨ inp = .parseError ∨ ∃ steps, inp = .script steps .uncaught ∨
      inp = .script steps .lateControl ∨ inp = .script steps .goPanic) :
    (exitOf Model.Cli.Cfg.fixed inp).code ≠ 0 ∧ (exitOf Model.Cli.Cfg.fixed inp).diag = true := by
  rcases h with h | h | ⟨steps, h | h | h⟩ <;> subst h <;> simp [exitOf, mainExit, Model.Cli.Cfg.fixed]

open Model.Cli in
/-- status, diagnostic and standard output agree with `Spec.Cli` for every input: everything echoed before the end —
directly or into `ob_start` buffers that are still open — is on standard output when the process ends, however it
ends (a Go panic aborts the runtime and flushes nothing: there the claim is for directly echoed output) -/
theorem C05_exit_status_refines (inp : Input)
    (hd : ∀ steps, inp = .script steps .goPanic → Spec.Cli.Direct steps) :
    ((exitOf Model.Cli.Cfg.fixed inp).code ≠ 0 ↔ Spec.Cli.mustFail inp = true) ∧
    (exitOf Model.Cli.Cfg.fixed inp).diag = Spec.Cli.wantsDiag inp ∧
    (exitOf Model.Cli.Cfg.fixed inp).fd1 = Spec.Cli.stdout inp := by
  cases inp with
  | missing | parseError =>
    simp [exitOf, mainExit, Model.Cli.Cfg.fixed, Spec.Cli.mustFail, Spec.Cli.wantsDiag, Spec.Cli.stdout]
  | script steps e =>
    have hv := flushed_foldl steps [] []
    cases e
    case goPanic =>
      have hb := bufs_of_direct steps [] (hd steps rfl)
      have : (runSteps steps).fd1 = Spec.Cli.visible steps [] [] := by
        rw [← hv]; simp [flushed, runSteps, hb]
      simp [exitOf, Spec.Cli.mustFail, Spec.Cli.wantsDiag, Spec.Cli.stdout, this]
    all_goals
      simp [exitOf, atExit, mainExit, Model.Cli.Cfg.fixed, Spec.Cli.mustFail, Spec.Cli.wantsDiag, Spec.Cli.stdout,
        runSteps, hv]

/-- an uncaught throwable at the end of `Model.Exc.run` is a failing process -/
theorem C05_uncaught_run_fails (G : Graph) (cfg : Cfg) (p : Prog) (x : Thrown) (steps : List Model.Cli.Step)
    (h : (run G cfg p).1 = .uncaught x) :
    (Model.Cli.exitOf Model.Cli.Cfg.fixed (.script steps (endOf (run G cfg p).1))).code = 1 := by
  rw [h]; rfl

/-- the pinned `RunScriptFile` returned nil after printing the parse error: exit status 0 -/
theorem C05_exit_status_pinned_counterexample :
    (Model.Cli.exitOf Model.Cli.Cfg.pinned .parseError).code = 0 ∧
    (Model.Cli.exitOf Model.Cli.Cfg.pinned .missing).code = 0 := by decide

/-- before fix C05-flush-buffers-before-exit the `os.Exit` paths lost what was still in an `ob_start` buffer:
`echo 1; ob_start(); echo 2; throw …` printed only `1` -/
theorem C05_flush_pinned_counterexample :
    (Model.Cli.exitOf ⟨true, false⟩ (.script [.echo 1, .obStart, .echo 2] .uncaught)).fd1 = [1] ∧
    (Model.Cli.exitOf Model.Cli.Cfg.fixed (.script [.echo 1, .obStart, .echo 2] .uncaught)).fd1 = [1, 2] ∧
    Spec.Cli.stdout (.script [.echo 1, .obStart, .echo 2] .uncaught) = [1, 2] := by decide

/-! ## non-vacuity -/

/-- the hierarchy the harness enumerates over: K3 extends Exception implements I11, I11 extends I10, K4 extends K3,
K5 extends K4, K6 extends Exception implements I12 -/
def exG : Graph :=
  { classes := [⟨1, none, [0], [], []⟩, ⟨3, some 1, [11], [], []⟩, ⟨4, some 3, [], [], []⟩, ⟨5, some 4, [], [], []⟩,
                ⟨6, some 1, [12], [], []⟩],
    ifaces := [⟨0, [], []⟩, ⟨10, [], []⟩, ⟨11, [10], []⟩, ⟨12, [], []⟩] }

theorem exG_noCycle : NoCycle (csucc exG) := (Proofs.Hier.acyclic_of_rankOK exG (by decide)).1
theorem exG_rooted : ThrowableRooted exG := throwableRooted_of_rootedB exG exG_noCycle (by decide)

/-- `try { throw new K4 } catch (K5) {…} catch (I10) { echo 7 } catch (K4) {…} finally { echo 9 }`: the hypotheses of
`C05_first_match` hold with `k = 1` (K5 is a subclass: no; I10 is the parent of an interface K4's parent implements: yes;
the more specific `catch (K4)` comes later and does not run) -/
def exCatches : Catches :=
  .cons [5] (.cons (.echo 6) .nil) (.cons [10] (.cons (.echo 7) .nil) (.cons [4] (.cons (.echo 8) .nil) .nil))

/-- an activation of level 0 at top level of a program without functions -/
def top : Act := actAt exG Cfg.fixed [] 0

example : protect (execB exG Cfg.fixed none top (.cons (.throw 4 1) .nil) ([] ++ [.enterTry 0 1])) = (.thr (.obj 4 1), [.enterTry 0 1]) := by
  decide +kernel
example : FirstMatch exG (.obj 4 1) exCatches 0 1 (.cons (.echo 7) .nil) := by
  refine .later ?_ (.here ?_)
  · exact fun h => by
      have := (clauseMatches_iff exG exG_noCycle exG_rooted [5] (.obj 4 1)).2 h
      exact absurd this (by decide)
  · exact (clauseMatches_iff exG exG_noCycle exG_rooted [10] (.obj 4 1)).1 (by decide)
example : (run exG Cfg.fixed (.ofBlock (.cons (.try_ 1 (.cons (.throw 4 1) .nil) exCatches true (.cons (.echo 9) .nil)) .nil))) =
    (.ok, [.enterTry 0 1, .caught 0 1 1 (.obj 4 1), .echo 0 7, .enterFinally 0 1, .echo 0 9]) := by decide +kernel
-- no clause: the exception is still pending after the finally block
example : (run exG Cfg.fixed (.ofBlock (.cons (.try_ 1 (.cons (.throw 6 2) .nil) exCatches true (.cons (.echo 9) .nil)) .nil))) =
    (.uncaught (.obj 6 2), [.enterTry 0 1, .enterFinally 0 1, .echo 0 9]) := by decide +kernel
-- finally once: a loop runs try 1 three times, each time left by `continue`; `goodP` holds
def exLoop : Block :=
  .cons (.loop 3 (.cons (.try_ 1 (.cons .cont .nil) .nil true (.cons (.echo 1) .nil)) .nil)) .nil
example : goodP 1 (.ofBlock exLoop) = true := by decide +kernel
example : proj 0 1 (run exG Cfg.fixed (.ofBlock exLoop)).2 =
    [.enterTry 0 1, .enterFinally 0 1, .enterTry 0 1, .enterFinally 0 1, .enterTry 0 1, .enterFinally 0 1] := by decide +kernel
example : mentionsB 1 (.cons .cont .nil) = false ∧ mentionsC 1 .nil = false := by decide
-- iteration independence: the body of exLoop run once from nothing, and the loop as its repetition
example : execB exG Cfg.fixed none (actAt exG Cfg.fixed [] 0) (.cons (.try_ 1 (.cons .cont .nil) .nil true (.cons (.echo 1) .nil)) .nil) [] =
    (.cont, [.enterTry 0 1, .enterFinally 0 1, .echo 0 1]) := by decide +kernel
example : run exG Cfg.fixed (.ofBlock exLoop) = runLoop exG Cfg.fixed [] (.cons (.try_ 1 (.cons .cont .nil) .nil true (.cons (.echo 1) .nil)) .nil) 3 0 := by
  decide +kernel
-- a throw out of a call, caught by the second clause, finally: one iteration, and 2 000 of them by the theorem
def exIterBody : Block :=
  .cons (.try_ 1 (.cons (.call (.cons (.throw 4 1) .nil)) .nil) exCatches true (.cons (.echo 9) .nil)) .nil
example : execB exG Cfg.fixed none top exIterBody [] =
    (.normal, [.enterTry 0 1, .caught 0 1 1 (.obj 4 1), .echo 0 7, .enterFinally 0 1, .echo 0 9]) := by decide +kernel
example : exec exG Cfg.fixed none top (.loop 2000 exIterBody) [] =
    (.normal, [] ++ (List.replicate 2000 [.enterTry 0 1, .caught 0 1 1 (.obj 4 1), .echo 0 7, .enterFinally 0 1, .echo 0 9]).flatten) :=
  C05_iterations_alike exG Cfg.fixed rfl [] 0 none 2000 exIterBody [] _ .normal (.inl rfl) (by decide)
-- paired operations: the recursion guard as it is (deferred), and with the Leave missing on the throw path
def exSiteDeferred : Model.ExcPairs.Site := ⟨"node/class.go", "ClassMethod.Call", "vm.EnterCall", "vm.LeaveCall", .deferred, [], true⟩
def exSiteLeaky : Model.ExcPairs.Site := ⟨"node/class.go", "ClassMethod.Call", "vm.EnterCall", "vm.LeaveCall", .leaks, [492], true⟩
example : Model.ExcPairs.siteOK exSiteDeferred = true ∧ Model.ExcPairs.siteOK exSiteLeaky = false := by decide
example : Model.ExcPairs.afterN exSiteDeferred .goPanic 600 0 = 0 := C05_paired_no_drift exSiteDeferred rfl .goPanic (.inl rfl) 600 0
example : ∀ d, Model.ExcPairs.after exSiteLeaky (.returnAt 492) d = d + 1 := fun d => by simp [Model.ExcPairs.after, exSiteLeaky]
example : Model.ExcPairs.refused 500 (Model.ExcPairs.afterN exSiteLeaky (.returnAt 492) 500 0) = true := by
  rw [(C05_leak_drifts exSiteLeaky (.returnAt 492) (fun d => by simp [Model.ExcPairs.after, exSiteLeaky])).1]; decide
-- refinement: the closure-based rule set of the driver agrees with the model on the example
example : run exG Cfg.fixed (.ofBlock (.cons (.try_ 1 (.cons (.throw 4 1) .nil) exCatches true (.cons (.echo 9) .nil)) .nil)) =
    Spec.Exc.run (Spec.Exc.rulesOf exG) (.ofBlock (.cons (.try_ 1 (.cons (.throw 4 1) .nil) exCatches true (.cons (.echo 9) .nil)) .nil)) := by
  decide +kernel
-- override: pending exception, finally returns
example : finallyPhase 0 1 true (fun t => (.ret 5, t)) (.thr .internal, []) = (.ret 5, [.enterFinally 0 1]) := by decide +kernel

-- K4 thrown at `catch (K5) … catch (I10) … catch (K4) …`: the scan stops at clause 1
example : sel exG (.obj 4 1) exCatches = some (1, .cons (.echo 7) .nil) := rfl
-- leaving out the clauses whose body prints 8 (clause 2, dead for K4) is invisible for K4; leaving out clause 1 is not
example : selClause exG (.obj 4 1) (keepC (fun c => c.1 != [4]) exCatches).toList = selClause exG (.obj 4 1) exCatches.toList := rfl
example : selClause exG (.obj 4 1) (keepC (fun c => c.1 != [10]) exCatches).toList = some ([4], .cons (.echo 8) .nil) := rfl
-- hypotheses of `C05_rethrow_only_clause_handles` / `C05_dropped_clause_next_takes_over` on the witness
example : sel witnessG (.obj 4 1) witnessShield = some (0, .cons .rethrow .nil) ∧ rethrowOnly (.cons .rethrow .nil) = true := ⟨rfl, rfl⟩
example : selClause witnessG (.obj 4 1) (keepC (fun c => !rethrowOnly c.2) witnessShield).toList = some ([1], .cons (.echo 2) .nil) := rfl
-- the parser facts of the tree being checked, and of a tree whose clause loop skips rethrow-only clauses
def exSkippingParser : Model.ExcShape.ParserFacts :=
  { writes := [{ role := "try", stored := .parsedBlock, inClauseLoop := false, guards := [] },
               { role := "catch", stored := .appendParsed, inClauseLoop := true, guards := [] },
               { role := "finally", stored := .parsedBlock, inClauseLoop := false, guards := [.other "p.checkPositionIs(0, token.FINALLY)"] }],
    skips := [[.never "catchBlock == nil"], [.other "isRethrowOnlyCatch(catchBlock)"]],
    tryReturns := 1, otherReturns := [], clauseBodyParsed := true, clauseReturns := 1 }
example : Model.ExcShape.clauseLoopOK Generated.C05TryShape.parser = true ∧ Model.ExcShape.clauseLoopOK exSkippingParser = false := by decide +kernel
example : Model.ExcShape.built (fun _ c => rethrowOnly c.2) exSkippingParser witnessShield.toList = [([1], .cons (.echo 2) .nil)] := rfl
-- a scan with a fast path in front, a scan that does not stop at the first match: not first-match
example : Model.ExcShape.scanOK ⟨[⟨"f", true, true, true⟩, ⟨"f", true, true, true⟩], [], true⟩ = false ∧
    Model.ExcShape.scanOK ⟨[⟨"f", true, true, false⟩], [], true⟩ = false := by decide
example : Model.ExcShape.ScanLoop.select ⟨"f", true, true, false⟩ exG (.obj 4 1) exCatches.toList = some ([4], .cons (.echo 8) .nil) := rfl

/-- `$n = 2; walk($n - 1)`: the finally block of `walk(1)` runs `walk(0)` — the same `try`, the same `return` — while
`1007` is pending; the outer call still returns `1007` (and the events of try 1 nest across levels, alternate within
each level) -/
def exWalk : Prog := ⟨[walk 7], .cons (.callf 0) .nil, 2⟩
example : run exG Cfg.fixed exWalk =
    (.ok, [.enterTry 1 1, .enterFinally 1 1, .enterTry 0 1, .enterFinally 0 1, .result (some 7), .result (some 1007)]) := by
  decide +kernel
example : goodP 1 exWalk = true := by decide +kernel
example : proj 1 1 (run exG Cfg.fixed exWalk).2 = [.enterTry 1 1, .enterFinally 1 1] ∧
    proj 0 1 (run exG Cfg.fixed exWalk).2 = [.enterTry 0 1, .enterFinally 0 1] := by decide +kernel
-- hypotheses of `C05_pending_outcome_kept` on the outer activation of `exWalk`: `ret 1007` pending, finally normal
example : catchPhase (fun r => protect (tryValue (fun x t => execC exG Cfg.fixed (actAt exG Cfg.fixed [walk 7] 1) 1 0 x .nil t) r))
      (protect (execB exG Cfg.fixed none (actAt exG Cfg.fixed [walk 7] 1) (.cons (.ret 7) .nil) ([] ++ [.enterTry 1 1]))) =
    (.ret 1007, [.enterTry 1 1]) := by decide +kernel
example : protect (execB exG Cfg.fixed none (actAt exG Cfg.fixed [walk 7] 1) (.cons (.callf 0) .nil)
      ([.enterTry 1 1] ++ [.enterFinally 1 1])) =
    (.normal, [.enterTry 1 1, .enterFinally 1 1, .enterTry 0 1, .enterFinally 0 1, .result (some 7)]) := by decide +kernel
/-- mutual recursion with the pending control an exception caught by the *caller's* handler two levels up:
`g0: try { throw K4 } finally { g1($n-1) }`, `g1: try { g0($n-1) } catch (K3 $e) { echo 5 }` -/
def exMutual : Prog :=
  ⟨[.cons (.try_ 1 (.cons (.throw 4 3) .nil) .nil true (.cons (.callf 1) .nil)) .nil,
    .cons (.try_ 2 (.cons (.callf 0) .nil) (.cons [3] (.cons (.echo 5) .nil) .nil) false .nil) .nil],
   .cons (.try_ 3 (.cons (.callf 0) .nil) (.cons [0] (.cons (.echo 6) .nil) .nil) false .nil) .nil, 3⟩
example : run exG Cfg.fixed exMutual =
    (.ok, [.enterTry 3 3, .enterTry 2 1, .enterFinally 2 1, .enterTry 1 2, .enterTry 0 1, .enterFinally 0 1,
           .caught 1 2 0 (.obj 4 3), .echo 1 5, .result none, .caught 3 3 0 (.obj 4 2003), .echo 3 6]) := by decide +kernel
-- exit status: hypotheses of C05_exit_status / _refines
example : Spec.Cli.Direct [.echo 1, .echo 2] := by
  intro s hs; simp at hs; rcases hs with rfl | rfl <;> exact ⟨_, rfl⟩
example : Model.Cli.exitOf Model.Cli.Cfg.fixed (.script [.echo 1, .echo 2] .uncaught) = ⟨[1, 2], true, 1⟩ := by decide +kernel
-- nested buffers, one taken back by ob_get_clean, exit(3): 1, then the outer buffer's 2, then 4 (3 went back to the script)
example : Model.Cli.exitOf Model.Cli.Cfg.fixed (.script [.echo 1, .obStart, .echo 2, .obStart, .echo 3, .obGetClean, .echo 4] (.exit 3))
    = ⟨[1, 2, 4], false, 3⟩ := by decide +kernel

end C05
