import Proofs.Lemmas.HeapStep
import Proofs.Lemmas.HeapNames
import Proofs.Lemmas.RefSlot
import Generated.C06ScalarWrites
import Proofs.Lemmas.Summary
import Generated.C06ArrayFields
/-!
# C06 — arrays are values: writes through a copy never show through the original

`Model.Heap` mirrors how origami stores, copies and mutates
arrays (cells and array objects with identities; an in-place mutation reaches every
holder of the mutated identity); `Cfg.fixed` is the tree with the C06 fixes, `Cfg.shallow`
the tree before the last of them (copies share their inner array objects), `Cfg.pinned`
the tree before all of them.  `Spec.Val` is what a user relies on: every name denotes an
immutable tree and a write rebuilds the tree of the written name only.  `abs` forgets all
identities.

Programs are lists of statements over any number of variables (`$x = rhs` — which is
also by-value parameter binding and `$x = f(…)` —, `$x->p = rhs`, `place[k] = rhs`,
`place[] = rhs`, `unset(place[k])`, `place->push/pop/shift/unshift/sort`, `new`,
`clone`, `$x = &$y`); a *place* is `$x`, `$x->p` or `place[k]` to **any depth**
(`$x[i][j][] = …`; missing keys on the way are created by a store, as PHP does);
right-hand sides are scalars, array literals of any depth (whose items may read places),
reads of places of any depth, and **call results** (`RV.call p`: the value of a call that
returns what place `p` holds — a getter, a function returning a static local / a global,
an element of a by-value copy). A call result is the owner's own pointer (`return` does
not copy); it reaches the next by-value boundary (`f($o->get())`, `new K($o->get())`,
`$q->p = $o->get()`, `$c[] = $o->get()`) with no variable in between — a *composite* copy
route. The theorems below cover these routes because `RV` ranges over them;
`C06_call_result_copy_needed` shows that the copy made at such a boundary is necessary.

**Scalar payloads.**  Elements are integers, strings, null or object handles, and a
right-hand side may be `RV.upd place f`: the new scalar a *compound assignment*
(`place .= c`, `+=`, `*=`, `??=`) computes from the one the place holds, so
`$b[k] .= 'x'` is the statement `setIdx b k (.upd (.idx b k) (.concat x))` and every theorem
below ranges over such statements.  A scalar has no identity in the model — there is no
`*StringValue` object that two cells could share — so the model cannot express an
implementation that appends to the element's value object in place; it states the design
(copies share the cells and value objects of scalar elements *because* neither is ever
mutated; `C06_compound_rhs_pure`, `C06_compound_is_store`) and the correspondence run, the
before/after oracle over every element kind × mutation form × copy route and the regenerated
list of Go sites that assign a scalar value object's field (`C06_scalar_objects_immutable`)
tie the code to it.

The statement needs no hypothesis on the program because the copy made at every copy point
(`CloneArrayValue` / `CloneObjectValue`) is recursive (fix C06-6): no array object is
reachable from two places, so the in-place mutation the interpreter performs for a nested
write touches one name only.  With the shallow copy the statement is false
(`C06_shallow_nested_counterexample`, replayed on the real code by the harness).
-/
namespace C06
open Model.Heap Proofs.Heap
open Spec.Val (abs eraseVal Tree)

/-- the invariant of the simulation (`Proofs.Heap.Inv`): every array object occurs at most
once in the whole state — no two variables / properties / array elements reach the same
array object — and identities in use are below the allocator -/
abbrev NoSharing (s : St) : Prop := Proofs.Heap.Inv s

/-- **Value semantics.**  For every number of variables and every program — writes through
places of any depth, missing intermediate keys created on the way — the values of all names
after the run on the implementation model are exactly the values the immutable-tree
semantics gives, whatever was copied by assignment, parameter binding, return, property
store / read, element store / read, array literal or `clone` in between. -/
theorem C06_value_semantics (nv : Nat) (ops : List Op) :
    abs (run .fixed nv ops) = Spec.Val.run nv ops :=
  (run_sim nv ops).2

/-- **The invariant behind it** holds in every reachable state. -/
theorem C06_no_sharing (nv : Nat) (ops : List Op) : NoSharing (run .fixed nv ops) :=
  (run_sim nv ops).1

/-- **The reference semantics has the property.**  In `Spec.Val` a mutating statement
through a place of any depth (`$x[i][j][] = …`, `unset($o->p[k][l])`, `$x[i]->push(…)`)
changes the name the place is rooted in and nothing else. -/
theorem C06_spec_write_local (s : Spec.Val.St) (w : Op) (b : Place) (hw : w.target = some b) :
    match b.root with
    | .var x =>
      (Spec.Val.step s w).objs = s.objs ∧
      ∀ y, s.names[y]? ≠ s.names[x]? → (Spec.Val.step s w).varVal? y = s.varVal? y
    | .prop x p =>
      (∀ y, (Spec.Val.step s w).varVal? y = s.varVal? y) ∧
      ∀ h p', (s.varObj? x ≠ some h ∨ p' ≠ p) → (Spec.Val.step s w).propVal? h p' = s.propVal? h p'
    | .idx _ _ => True := by
  rcases spec_step_target s w b hw with h | ⟨c, g, h⟩
  · rw [h]; cases b.root <;> simp
  · cases hb : b.root with
    | idx _ _ => trivial
    | var x =>
      obtain ⟨h1, _, h3⟩ := spec_modify_var s _ c b x _ hb h
      exact ⟨h1, h3⟩
    | prop x p =>
      obtain ⟨h1, h2, h3, _⟩ := spec_modify_prop s _ c b x p _ hb h
      exact ⟨fun y => by simp only [Spec.Val.St.varVal?, h1, h2], h3⟩

/-- **A write through one name is invisible through every other name.**  After any
program, a mutating statement `w` (element store, append, unset, push / pop / shift /
unshift / sort) through a place of any depth rooted in `$x` changes no object and no
variable other than the ones `&`-bound to `$x`; through a place rooted in `$x->p` it
changes no variable and no property other than property `p` of the object `$x` holds. -/
theorem C06_write_invisible (nv : Nat) (ops : List Op) (w : Op) (b : Place) (hw : w.target = some b) :
    match b.root with
    | .var x =>
      (abs (run .fixed nv (ops ++ [w]))).objs = (abs (run .fixed nv ops)).objs ∧
      ∀ y, (run .fixed nv ops).names[y]? ≠ (run .fixed nv ops).names[x]? →
        (abs (run .fixed nv (ops ++ [w]))).varVal? y = (abs (run .fixed nv ops)).varVal? y
    | .prop x p =>
      (∀ y, (abs (run .fixed nv (ops ++ [w]))).varVal? y = (abs (run .fixed nv ops)).varVal? y) ∧
      ∀ h p', ((run .fixed nv ops).varObj? x ≠ some h ∨ p' ≠ p) →
        (abs (run .fixed nv (ops ++ [w]))).propVal? h p' = (abs (run .fixed nv ops)).propVal? h p'
    | .idx _ _ => True := by
  have := C06_spec_write_local (abs (run .fixed nv ops)) w b hw
  rw [abs_run_snoc]
  cases hb : b.root with
  | idx b' k => trivial
  | var x => rw [hb] at this; exact this
  | prop x p => rw [hb] at this; simp only [abs_varObj?] at this; exact this

/-- **`clone` yields an independent object.**  After any program in which `$y` holds the
(live) object `h`: execute `$x = clone $y;` and then any mutating statement through a place
of any depth below a property of the clone (`$x->p[i][] = …`) — every property of the
original object `h`, array-valued ones included, is what it was.  Symmetrically (when `$x`
is not `&`-bound to `$y`) a write below a property of the original leaves every property of
the clone alone. -/
theorem C06_clone_independent (nv : Nat) (ops : List Op) (x y p h : Nat) (w : Op) (b : Place)
    (hy : (run .fixed nv ops).varObj? y = some h) (hlive : h < (run .fixed nv ops).objs.length)
    (hw : w.target = some b) :
    (b.root = .prop x p → ∀ p',
      (abs (run .fixed nv (ops ++ [.clone x y, w]))).propVal? h p' = (abs (run .fixed nv ops)).propVal? h p') ∧
    (b.root = .prop y p → (run .fixed nv ops).names[y]? ≠ (run .fixed nv ops).names[x]? → ∀ p',
      (abs (run .fixed nv (ops ++ [.clone x y, w]))).propVal? (run .fixed nv ops).objs.length p' =
        (abs (run .fixed nv (ops ++ [.clone x y]))).propVal? (run .fixed nv ops).objs.length p') := by
  have hlen : (abs (run .fixed nv ops)).objs.length = (run .fixed nv ops).objs.length := by simp [abs]
  have hl' : h < (abs (run .fixed nv ops)).objs.length := by omega
  obtain ⟨c1, c2, c3, c4⟩ := spec_clone (abs (run .fixed nv ops)) x y h ((abs_varObj? _ y).trans hy) hl'
  have hloc := C06_spec_write_local (Spec.Val.step (abs (run .fixed nv ops)) (.clone x y)) w b hw
  rw [show ops ++ [Op.clone x y, w] = ops ++ [.clone x y] ++ [w] by simp, abs_run_snoc, abs_run_snoc, ← hlen]
  constructor
  · intro hb p'
    rw [hb] at hloc
    -- `$x` holds the clone's handle `objs.length` (or nothing): in either case not the live handle `h`
    have hxh : (Spec.Val.step (abs (run .fixed nv ops)) (.clone x y)).varObj? x ≠ some h := by
      rcases c3 with e | e
      · rw [e]; simp; omega
      · rw [e]; simp
    rw [hloc.2 h p' (Or.inl hxh)]
    simp only [Spec.Val.St.propVal?, c1, List.getElem?_append_left hl']
  · intro hb hne p'
    rw [hb] at hloc
    apply hloc.2
    left
    -- `$y` still holds the original object
    have hyv : (Spec.Val.step (abs (run .fixed nv ops)) (.clone x y)).varObj? y = some h := by
      simp only [Spec.Val.St.varObj?]
      rw [c4 y hne]
      exact (abs_varObj? _ y).trans hy
    -- … and the clone's handle `objs.length` is not `h`
    rw [hyv]; simp; omega

/-- **An explicit reference does share.**  For every `Cfg` (the fixed tree, the pinned one and everything between): once `$x = &$y` has run,
and as long as no later statement rebinds a name with `&`, `$x` and `$y` are the same
variable — they read the same value after any further statements, including writes
through either of them. -/
theorem C06_reference_shared (cfg : Cfg) (nv : Nat) (ops₁ ops₂ : List Op) (x y : Nat) (hx : x < nv) (hy : y < nv)
    (hr : ∀ op ∈ ops₂, op.isRef = false) :
    (run cfg nv (ops₁ ++ .ref x y :: ops₂)).names[x]? = (run cfg nv (ops₁ ++ .ref x y :: ops₂)).names[y]? ∧
    (run cfg nv (ops₁ ++ .ref x y :: ops₂)).varVal? x = (run cfg nv (ops₁ ++ .ref x y :: ops₂)).varVal? y := by
  have hnames : (run cfg nv (ops₁ ++ .ref x y :: ops₂)).names[x]? = (run cfg nv (ops₁ ++ .ref x y :: ops₂)).names[y]? := by
    simp only [run, List.foldl_append, List.foldl_cons]
    rw [foldl_names cfg ops₂ hr]
    have hlen : (List.foldl (step cfg) (init nv) ops₁).names.length = nv := by
      rw [foldl_names_length]; simp [init]
    exact ref_names cfg _ x y (by omega) (by omega)
  exact ⟨hnames, by simp only [St.varVal?, hnames]⟩

/-! ### What is false: negation witnesses (replayed on the real code by the harness) -/

mutual
/-- the scalars of a tree, left to right (a decidable observation of a value) -/
def leaves : Tree → List Int
  | .sc (.int n) => [n]
  | .sc _ => [-1]
  | .arr kids => leavesL kids
def leavesL : List (Key × Tree) → List Int
  | [] => []
  | (_, t) :: r => leaves t ++ leavesL r
end

/-- what variable `x` holds, as a list of scalars -/
def obs (s : Spec.Val.St) (x : Nat) : List Int :=
  match s.varVal? x with
  | some t => leaves t
  | none => []

def lit123 : Lit := .arr [(.pos, .int 1), (.pos, .int 2), (.pos, .int 3)]
def litNested : Lit := .arr [(.pos, .arr [(.pos, .int 1), (.pos, .int 2)]), (.pos, .arr [(.pos, .int 3)])]

/-- `$a = [[1,2],[3]]; $b = $a; $b[0][0] = 9;` -/
def nestedWitness : List Op :=
  [.setVar 0 (.lit litNested), .setVar 1 (.rd (.var 0)), .setIdx (.idx (.var 1) (.int 0)) (some (.int 0)) (.int 9)]

/-- `$a = [1,2,3]; $b = $a; $b[0] = 9;` -/
def flatWitness : List Op :=
  [.setVar 0 (.lit lit123), .setVar 1 (.rd (.var 0)), .setIdx (.var 1) (some (.int 0)) (.int 9)]

/-- `$c = [0,0]; $a = [1,2,3]; $c[1] = $a; $a[] = 9;` -/
def elemWitness : List Op :=
  [.setVar 1 (.lit (.arr [(.pos, .int 0), (.pos, .int 0)])), .setVar 0 (.lit lit123),
   .setIdx (.var 1) (some (.int 1)) (.rd (.var 0)), .setIdx (.var 0) none (.int 9)]

/-- **With the shallow copy the statement was false**: `$b = $a; $b[0][0] = 9;` changed
`$a` — `CloneArrayValue` copied the slot list only, the two copies shared the inner array
object, and the nested store mutates that object in place. -/
theorem C06_shallow_nested_counterexample :
    ¬ (∀ (nv : Nat) (ops : List Op), abs (run .shallow nv ops) = Spec.Val.run nv ops) := by
  intro h
  have := congrArg (fun s => obs s 0) (h 2 nestedWitness)
  revert this
  decide +kernel

/-- outcomes of the nested witness, as the harness replays them: `$a` reads `1,2,3` on the
model of this tree (and on the real code) and under value semantics, `9,2,3` with the
shallow copy; `$b` reads `9,2,3` on both models -/
theorem C06_nested_witness_outcomes :
    obs (abs (run .fixed 2 nestedWitness)) 0 = [1, 2, 3] ∧ obs (Spec.Val.run 2 nestedWitness) 0 = [1, 2, 3] ∧
    obs (abs (run .shallow 2 nestedWitness)) 0 = [9, 2, 3] ∧
    obs (abs (run .fixed 2 nestedWitness)) 1 = [9, 2, 3] ∧ obs (abs (run .shallow 2 nestedWitness)) 1 = [9, 2, 3] := by
  decide +kernel

/-- `$a = [[1]]; $a[0][] = $a;` -/
def selfStoreWitness : List Op :=
  [.setVar 0 (.lit (.arr [(.pos, .arr [(.pos, .int 1)])])),
   .setIdx (.idx (.var 0) (.int 0)) none (.rd (.var 0))]

/-- **A copy of an array stored into one of its own inner arrays is a finite value.**
With the shallow copy the stored copy shared `$a[0]`, the array it was appended to — a
cyclic value, fatal to print; under `Cfg.fixed` `$a` is `[[1, [[1]]]]`, as under value semantics. -/
theorem C06_self_store_outcomes :
    obs (abs (run .fixed 1 selfStoreWitness)) 0 = [1, 1] ∧ obs (Spec.Val.run 1 selfStoreWitness) 0 = [1, 1] := by
  decide +kernel

/-- **Before the fixes the flat case was false as well**: `$b = $a; $b[0] = 9;` changed
`$a` (`SetIntKey` assigned the cell shared by both arrays); with the fix it does not. -/
theorem C06_pinned_flat_counterexample :
    obs (abs (run .pinned 2 flatWitness)) 0 = [9, 2, 3] ∧ obs (abs (run .fixed 2 flatWitness)) 0 = [1, 2, 3] ∧
    obs (Spec.Val.run 2 flatWitness) 0 = [1, 2, 3] := by
  decide +kernel

/-- **… and an array stored into another array stayed the same object**: after
`$c[1] = $a;` an append to `$a` showed in `$c[1]`; with the fix it does not. -/
theorem C06_pinned_elemstore_counterexample :
    obs (abs (run .pinned 2 elemWitness)) 1 = [0, 1, 2, 3, 9] ∧ obs (abs (run .fixed 2 elemWitness)) 1 = [0, 1, 2, 3] ∧
    obs (Spec.Val.run 2 elemWitness) 1 = [0, 1, 2, 3] := by
  decide +kernel

/-- `$o = new O; $o->p0 = [1,2,3]; f($o->get0())` where `f($p) { $p[] = 9; }`
(`$v1` is the callee's parameter) -/
def callResultWitness : List Op :=
  [.new 0, .setProp 0 0 (.lit lit123), .setVar 1 (.call (.prop 0 0)), .setIdx (.var 1) none (.int 9)]

/-- what property `p` of object `h` holds, as a list of scalars -/
def obsProp (s : Spec.Val.St) (h p : Nat) : List Int :=
  match s.propVal? h p with
  | some t => leaves t
  | none => []

/-- **A call result bound to a by-value parameter must be copied.**  With the copy at
the binding elided for call results (`Cfg.elided` — "a call result is a temporary nobody
else holds"), value semantics fails already for a *flat* program: the getter returns the
property's own array, the parameter becomes that array, and the callee's append lands in
the property.  With the copy (`Cfg.fixed`) the same program is fine — it is an instance
of `C06_value_semantics`. -/
theorem C06_call_result_copy_needed :
    FlatWrites callResultWitness ∧
    ¬ (∀ (nv : Nat) (ops : List Op), FlatWrites ops → abs (run .elided nv ops) = Spec.Val.run nv ops) := by
  refine ⟨by decide +kernel, ?_⟩
  intro h
  have := congrArg (fun s => obsProp s 0 0) (h 2 callResultWitness (by decide +kernel))
  revert this
  decide +kernel

/-- outcomes of that witness, as the harness replays them on the real code: the property
reads `1,2,3` on the model of this tree and under value semantics, `1,2,3,9` under the
elision; the parameter reads `1,2,3,9` on both models -/
theorem C06_call_result_witness_outcomes :
    obsProp (abs (run .fixed 2 callResultWitness)) 0 0 = [1, 2, 3] ∧
    obsProp (Spec.Val.run 2 callResultWitness) 0 0 = [1, 2, 3] ∧
    obsProp (abs (run .elided 2 callResultWitness)) 0 0 = [1, 2, 3, 9] ∧
    obs (abs (run .fixed 2 callResultWitness)) 1 = [1, 2, 3, 9] ∧
    obs (abs (run .elided 2 callResultWitness)) 1 = [1, 2, 3, 9] := by
  decide +kernel

/-- **A composite route is an ordinary route**: on this tree (and in the reference
semantics) a by-value boundary fed from a call result behaves exactly as if the value had
been read from the place directly — for every statement kind that has a right-hand side,
in every state.  (This is why the invariant and the simulation extend to composite
routes without a new case; under `Cfg.elided` the first equation is false.) -/
theorem C06_call_result_is_read (s : St) (x p : Nat) (b pl : Place) (k : Option IKey) :
    stepOpt .fixed s (.setVar x (.call pl)) = stepOpt .fixed s (.setVar x (.rd pl)) ∧
    stepOpt .fixed s (.setProp x p (.call pl)) = stepOpt .fixed s (.setProp x p (.rd pl)) ∧
    stepOpt .fixed s (.setIdx b k (.call pl)) = stepOpt .fixed s (.setIdx b k (.rd pl)) ∧
    ∀ t : Spec.Val.St, Spec.Val.evalRV t (.call pl) = Spec.Val.evalRV t (.rd pl) :=
  ⟨rfl, rfl, rfl, fun _ => rfl⟩

/-- **The right-hand side of a compound assignment only reads.**  Evaluating `place op= c`'s
right-hand side (`RV.upd place f`) on any tree leaves the state exactly as it was and yields
the scalar `f` computes from the scalar the place holds — nothing is written before the
store.  (The implementation: `assignIndexConcat` reads the element, `concatPHPValues` builds a
NEW value, the slot store replaces the cell.  An in-place `ls.Value += rs.Value` on the
element's `*StringValue` — shared by every copy of the array — has no counterpart here.) -/
theorem C06_compound_rhs_pure (cfg : Cfg) (s s' : St) (p : Place) (u : Upd) (v : Val)
    (h : evalRV cfg s (.upd p u) = some (v, s')) :
    s' = s ∧ ∃ sv r, readPlace s p = some (.sc sv) ∧ u.apply sv = some r ∧ v = .sc r := by
  simp only [evalRV] at h
  cases hr : readPlace s p with
  | none => simp [hr] at h
  | some w =>
    cases w with
    | arr a kids => simp [hr] at h
    | sc sv =>
      cases hu : u.apply sv with
      | none => simp [hr, hu] at h
      | some r =>
        simp [hr, hu] at h
        exact ⟨h.2.symm, sv, r, rfl, hu, h.1.symm⟩

/-- **… so a compound assignment IS the plain store of the computed scalar**, on every tree
and in every state: `$b[k] .= 'x'` with `$b[k] = 'ab'` is `$b[k] = 'abx'`; `$b[k] += 3`
with `$b[k] = 4` is `$b[k] = 7`.  Everything proved about stores — the cell is replaced, the
array object of the written name only is touched — holds for compound assignments. -/
theorem C06_compound_is_store (cfg : Cfg) (s : St) (b p : Place) (k : Option IKey) (u : Upd) (sv : Scalar)
    (hr : readPlace s p = some (.sc sv)) :
    (∀ cs, u.apply sv = some (.str cs) →
      stepOpt cfg s (.setIdx b k (.upd p u)) = stepOpt cfg s (.setIdx b k (.str cs))) ∧
    (∀ n, u.apply sv = some (.int n) →
      stepOpt cfg s (.setIdx b k (.upd p u)) = stepOpt cfg s (.setIdx b k (.int n))) := by
  constructor
  · intro cs hu; simp [stepOpt, evalRV, hr, hu]
  · intro n hu; simp [stepOpt, evalRV, hr, hu]

/-- **A compound assignment through one name is invisible through every other name** — the
instance of `C06_write_invisible` for `place[k] op= c` at any depth, after any program. -/
theorem C06_compound_assign_invisible (nv : Nat) (ops : List Op) (b : Place) (k : IKey) (u : Upd) :
    match b.root with
    | .var x =>
      (abs (run .fixed nv (ops ++ [.setIdx b (some k) (.upd (.idx b k) u)]))).objs = (abs (run .fixed nv ops)).objs ∧
      ∀ y, (run .fixed nv ops).names[y]? ≠ (run .fixed nv ops).names[x]? →
        (abs (run .fixed nv (ops ++ [.setIdx b (some k) (.upd (.idx b k) u)]))).varVal? y = (abs (run .fixed nv ops)).varVal? y
    | .prop x p =>
      (∀ y, (abs (run .fixed nv (ops ++ [.setIdx b (some k) (.upd (.idx b k) u)]))).varVal? y = (abs (run .fixed nv ops)).varVal? y) ∧
      ∀ h p', ((run .fixed nv ops).varObj? x ≠ some h ∨ p' ≠ p) →
        (abs (run .fixed nv (ops ++ [.setIdx b (some k) (.upd (.idx b k) u)]))).propVal? h p' = (abs (run .fixed nv ops)).propVal? h p'
    | .idx _ _ => True :=
  C06_write_invisible nv ops (.setIdx b (some k) (.upd (.idx b k) u)) b rfl

mutual
/-- the scalars of a tree, left to right, strings included -/
def sleaves : Tree → List Scalar
  | .sc s => [s]
  | .arr kids => sleavesL kids
def sleavesL : List (Key × Tree) → List Scalar
  | [] => []
  | (_, t) :: r => sleaves t ++ sleavesL r
end

def sobs (s : Spec.Val.St) (x : Nat) : List Scalar :=
  match s.varVal? x with
  | some t => sleaves t
  | none => []

/-- `$a = ['ab', 'cd', 7]; $b = $a; $b[0] .= 'x'; $b[2] .= 'y'; $a[1] .= 'z';` -/
def concatWitness : List Op :=
  [.setVar 0 (.lit (.arr [(.pos, .str [97, 98]), (.pos, .str [99, 100]), (.pos, .int 7)])), .setVar 1 (.rd (.var 0)),
   .setIdx (.var 1) (some (.int 0)) (.upd (.idx (.var 1) (.int 0)) (.concat [120])),
   .setIdx (.var 1) (some (.int 2)) (.upd (.idx (.var 1) (.int 2)) (.concat [121])),
   .setIdx (.var 0) (some (.int 1)) (.upd (.idx (.var 0) (.int 1)) (.concat [122]))]

/-- outcomes of the `.=` witness, as the harness replays them on the real code: on the model
of this tree and under value semantics `$a` reads `ab, cdz, 7` and `$b` reads `abx, cd, 7y`
(`$a` the same with the shallow copy, `.shallow`) — an implementation that appends to the
shared string object gives `abx, cdz, 7` for both -/
theorem C06_concat_witness_outcomes :
    sobs (abs (run .fixed 2 concatWitness)) 0 = [.str [97, 98], .str [99, 100, 122], .int 7] ∧
    sobs (abs (run .fixed 2 concatWitness)) 1 = [.str [97, 98, 120], .str [99, 100], .str [55, 121]] ∧
    sobs (Spec.Val.run 2 concatWitness) 0 = [.str [97, 98], .str [99, 100, 122], .int 7] ∧
    sobs (Spec.Val.run 2 concatWitness) 1 = [.str [97, 98, 120], .str [99, 100], .str [55, 121]] ∧
    sobs (abs (run .shallow 2 concatWitness)) 0 = [.str [97, 98], .str [99, 100, 122], .int 7] := by
  decide +kernel

/-! ### Regenerated facts: the two conventions the sharing of scalar elements rests on

Copies of an array share the `*ZVal` cells of their scalar elements and the scalar value
objects in them.  That is sound only as long as (1) no scalar value object is changed after
construction and (2) no cell of an array's slot list is written in place unless it is bound by
an explicit `&`.  No Go type enforces either; `extract/c06` lists, from the type-checked source
of every package linked into the interpreter, every site that could break them
(`Generated.C06ScalarWrites`), and the two theorems below say that the list holds nothing but
the sites examined here.  A new `x.Value += …` on a `*StringValue`, a new `list[i].Value = v`
on a slot, breaks `lake build`. -/

open Model.ScalarSites

/-- sites (file, function, struct, kind) that write a scalar value object after construction,
each with the reason it cannot be observed through another holder of that object -/
def knownScalarWrites : List (String × String × String × String) := [
  -- `ReferenceValue.Scan` (target of database/sql `Scan`) updates the variable's current value
  -- object when the variable has no declared type. Latent: its only script-level entry points,
  -- `Database\Sql` `Rows::scan` / `Row::scan`, fail in their by-reference variadic binding
  -- before they get here (checked on the CLI); if it becomes reachable it must store a new
  -- value (`SetVariableValue`) like its `assignTo…Type` siblings do.
  ("data/value_reference.go", "ReferenceValue.updateIntValue", "IntValue", "assign"),
  ("data/value_reference.go", "ReferenceValue.updateFloatValue", "FloatValue", "assign"),
  ("data/value_reference.go", "ReferenceValue.updateStringValue", "StringValue", "assign"),
  ("data/value_reference.go", "ReferenceValue.updateBoolValue", "BoolValue", "assign"),
  -- `Serializer.Unmarshal…(data, v)`: decodes JSON into the object it is handed. Its caller
  -- `unmarshalWithExpected` hands it a freshly created object (fix C06-8; before, it handed the
  -- property's current value object, so `json_decode($json, 'K')` rewrote K's default values and
  -- every array element sharing them — expectation `json-decode-class-default` of the harness).
  ("std/serializer/json/json_serializer.go", "JsonSerializer.UnmarshalInt", "IntValue", "addr"),
  ("std/serializer/json/json_serializer.go", "JsonSerializer.UnmarshalString", "StringValue", "addr"),
  ("std/serializer/json/json_serializer.go", "JsonSerializer.UnmarshalBool", "BoolValue", "addr"),
  ("std/serializer/json/json_serializer.go", "JsonSerializer.UnmarshalFloat", "FloatValue", "addr")]

/-- unguarded writes (file, function, field) to a cell taken from an array's slot list that are
fine because the array was built in the same call and nobody else holds it yet -/
def knownSlotWrites : List (String × String × String) := [
  -- a later `'k' => v` of an array literal overwrites an earlier one: the literal under construction
  ("node/array.go", "setArrayLiteralEntry", "Value"),
  -- names the slots of the result array it has just built from values
  ("std/php/array/array_intersect_key.go", "ArrayIntersectKeyFunction.Call", "Name")]

def scalarWriteViolations (tbl : List ScalarWrite) : List ScalarWrite :=
  tbl.filter (fun w => !(knownScalarWrites.contains (w.file, w.fn, w.typ, w.kind)))

/-- a write to a slot cell is fine when guarded by `RefSlotCount > 0` (the slot is bound by an
explicit `&`: write-through is the point), when the cell is the array's own (`OwnSlot`), or
when it is one of the examined sites -/
def slotWriteViolations (tbl : List CellWrite) : List CellWrite :=
  tbl.filter (fun w => w.origin == "slot" && !w.guarded && !(knownSlotWrites.contains (w.file, w.fn, w.field)))

/-- what the decidable check means, for any table -/
theorem C06_scalar_site_check_sound (tbl : List ScalarWrite) (h : scalarWriteViolations tbl = []) :
    ∀ w ∈ tbl, (w.file, w.fn, w.typ, w.kind) ∈ knownScalarWrites := by
  simpa [scalarWriteViolations, List.filter_eq_nil_iff] using h

theorem C06_slot_site_check_sound (tbl : List CellWrite) (h : slotWriteViolations tbl = []) :
    ∀ w ∈ tbl, w.origin = "slot" → w.guarded = true ∨ (w.file, w.fn, w.field) ∈ knownSlotWrites := by
  intro w hw ho
  have := List.filter_eq_nil_iff.mp h w hw
  cases hg : w.guarded
  · exact .inr (by simpa [ho, hg] using this)
  · exact .inl rfl

/-- **No scalar value object is changed in place** anywhere in the interpreter, except at the
examined sites — regenerated from the source on every run. (`x.Value += …` on the element's
`*StringValue` in `assignIndexConcat` would be listed as `node/index.go … StringValue opassign`.) -/
theorem C06_scalar_objects_immutable :
    (∀ w ∈ Generated.C06ScalarWrites.scalarWrites, (w.file, w.fn, w.typ, w.kind) ∈ knownScalarWrites) ∧
    Generated.C06ScalarWrites.shapeChanged = [] :=
  ⟨C06_scalar_site_check_sound _ (by decide +kernel), by decide +kernel⟩

/-- **No cell of an array's slot list is written in place** unless the slot is reference-bound,
owned, or the array is still private to the function that builds it. -/
theorem C06_shared_cells_replaced :
    ∀ w ∈ Generated.C06ScalarWrites.cellWrites, w.origin = "slot" →
      w.guarded = true ∨ (w.file, w.fn, w.field) ∈ knownSlotWrites :=
  C06_slot_site_check_sound _ (by decide +kernel)

/- the translator looked at the code: packages and functions were examined, the guarded stores of
   `storeSlot` / `SetIntKey` / `normalizeDenseIntKeys` and the owned stores are in the table -/
example : 40 ≤ Generated.C06ScalarWrites.packagesChecked ∧ 5000 ≤ Generated.C06ScalarWrites.functionsChecked := by decide
example : (Generated.C06ScalarWrites.cellWrites.filter (fun w => w.origin == "slot" && w.guarded)).length ≥ 3 := by decide +kernel
example : (Generated.C06ScalarWrites.cellWrites.filter (fun w => w.origin == "owned")).length ≥ 1 := by decide +kernel
/- the checks do reject: an in-place append to a string element's value object, an unguarded slot write -/
example : scalarWriteViolations [⟨"node/index.go", "assignIndexConcat", "StringValue", "opassign", 0⟩] ≠ [] := by decide +kernel
example : slotWriteViolations [⟨"std/php/array/array_walk.go", "ArrayWalkFunction.Call", "Value", "slot", false, 0⟩] ≠ [] := by decide +kernel
example : slotWriteViolations [⟨"data/value_array.go", "ArrayValue.storeSlot", "Value", "slot", true, 0⟩] = [] := by decide
/- the hypotheses of `C06_compound_rhs_pure` / `C06_compound_is_store` are satisfiable, for each kind of update -/
example : Upd.apply (.concat [120]) (.str [97]) = some (.str [97, 120]) ∧ Upd.apply (.concat [120]) (.int (-12)) = some (.str [45, 49, 50, 120]) ∧
    Upd.apply (.add 3) (.int 4) = some (.int 7) ∧ Upd.apply (.mul 3) (.int 4) = some (.int 12) ∧
    Upd.apply (.coalesce 5) .null = some (.int 5) ∧ Upd.apply (.coalesce 5) (.int 1) = some (.int 1) ∧ Upd.apply (.add 3) .null = some (.int 3) ∧
    Upd.apply (.add 3) (.str [97]) = none := by decide
example : evalRV .fixed (run .fixed 2 (concatWitness.take 2)) (.upd (.idx (.var 1) (.int 0)) (.concat [120])) =
    some (.sc (.str [97, 98, 120]), run .fixed 2 (concatWitness.take 2)) := by rfl
example : readPlace (run .fixed 2 (concatWitness.take 2)) (.idx (.var 1) (.int 0)) = some (.sc (.str [97, 98])) := by rfl

/- a program with nested values, every route and every kind of write, at the root of a name
   and inside inner arrays, with keys created on the way:
   literal, copy, property store/read, element store of an array, unset, methods, clone, `&` -/
def prog₀ : List Op :=
  [.setVar 0 (.lit litNested), .setVar 1 (.rd (.var 0)), .setIdx (.idx (.var 1) (.int 0)) (some (.int 0)) (.int 9),
   .new 2, .setProp 2 0 (.rd (.var 0)), .setIdx (.idx (.prop 2 0) (.int 1)) none (.rd (.idx (.var 0) (.int 1))),
   .setIdx (.idx (.idx (.var 0) (.str 0)) (.int 5)) (some (.str 1)) (.lit (.arr [(.pos, .rd (.var 1))])),
   .unset (.idx (.var 1) (.int 0)) (.int 1), .meth (.idx (.prop 2 0) (.int 0)) (.push 5), .clone 3 2,
   .meth (.idx (.prop 3 0) (.int 0)) .shift, .ref 1 0, .meth (.idx (.var 1) (.int 1)) .pop]

example : ¬ FlatWrites prog₀ := by decide
example : obs (Spec.Val.run 4 prog₀) 0 = [1, 2, 9, 2, 3] ∧ obs (abs (run .fixed 4 prog₀)) 0 = [1, 2, 9, 2, 3] ∧
    obs (abs (run .fixed 4 prog₀)) 1 = [1, 2, 9, 2, 3] ∧ obsProp (abs (run .fixed 4 prog₀)) 0 0 = [1, 2, 5, 3, 3] ∧
    obsProp (abs (run .fixed 4 prog₀)) 1 0 = [2, 5, 3, 3] := by decide +kernel
/- the shallow copy gets the same program wrong: `$v0` reads 5,3,5,3 -/
example : obs (abs (run .shallow 4 prog₀)) 0 ≠ obs (Spec.Val.run 4 prog₀) 0 := by decide +kernel
/- the hypotheses of `C06_write_invisible`, `C06_clone_independent`, `C06_reference_shared` are satisfiable -/
example : (Op.meth (.idx (.prop 3 0) (.int 0)) .shift).target = some (.idx (.prop 3 0) (.int 0)) ∧
    (Place.idx (.prop 3 0) (.int 0)).root = .prop 3 0 := ⟨rfl, rfl⟩
example : (run .fixed 4 (prog₀.take 9)).varObj? 2 = some 0 ∧ 0 < (run .fixed 4 (prog₀.take 9)).objs.length := by decide +kernel
example : ∀ op ∈ [Op.meth (.idx (.var 1) (.int 1)) .pop], op.isRef = false := by decide
/- the reference really shares: a write through `$v1` is read through `$v0` -/
example : obs (abs (run .fixed 2 [.setVar 0 (.lit lit123), .ref 1 0, .setIdx (.var 1) (some (.int 0)) (.int 9)])) 0 = [9, 2, 3] := by
  decide +kernel
/- `C06_spec_write_local` / `C06_write_invisible` at depth 2 -/
example : (Op.setIdx (.idx (.var 1) (.int 0)) (some (.int 0)) (.int 9)).target = some (.idx (.var 1) (.int 0)) ∧
    (Place.idx (.var 1) (.int 0)).root = .var 1 := ⟨rfl, rfl⟩
/- the invariant is not trivially true: the shallow copy breaks it on the nested witness
   (after `$b = $a` the inner array object of `$a[0]` occurs twice), the recursive copy keeps it -/
example : scnt (run .shallow 2 (nestedWitness.take 2)) 5 = 2 := by decide +kernel
example : ∀ a, a < 40 → scnt (run .fixed 2 (nestedWitness.take 2)) a ≤ 1 := by decide +kernel
example : scnt (run .fixed 2 (nestedWitness.take 2)) 13 = 1 := by decide +kernel
/- composite routes: getter result into a parameter, a property, an element; an element of a copy
   into a parameter, with a nested write in the callee — value semantics on the model, as the theorem says -/
def prog₁ : List Op :=
  [.new 0, .setProp 0 0 (.lit litNested), .setVar 1 (.call (.prop 0 0)), .setIdx (.idx (.var 1) (.int 0)) none (.int 9),
   .new 2, .setProp 2 1 (.call (.prop 0 0)), .meth (.idx (.prop 2 1) (.int 1)) .pop,
   .setVar 3 (.lit (.arr [(.pos, .int 0)])), .setIdx (.var 3) none (.call (.prop 0 0)),
   .setVar 1 (.call (.idx (.var 3) (.int 1))), .meth (.idx (.var 1) (.int 0)) .shift, .unset (.prop 0 0) (.int 0)]
example : obsProp (abs (run .fixed 4 prog₁)) 0 0 = [3] ∧ obsProp (Spec.Val.run 4 prog₁) 0 0 = [3] ∧
    obs (abs (run .fixed 4 prog₁)) 3 = [0, 1, 2, 3] ∧ obs (abs (run .fixed 4 prog₁)) 1 = [2, 3] := by decide +kernel

/-! ## References to array slots: the mark on a slot counts its live binders

`Model.RefSlot` (flat integer arrays, cells with a value and the mark `RefSlotCount`, reference
variables and by-reference parameters bound to slots).  What a copy shares with its source
depends on the marks earlier statements left on the source: `copy` hands over the very cells,
`store` replaces an unmarked cell and writes a marked one in place.  The property therefore needs
the mark to be *exact*: under `Cfg.counted` it IS the number of live binders, on every program. -/

/-- **The mark is the number of live binders** — after every program (any statements, any
order, copies made while references are live included), for every cell. -/
theorem C06_binder_count_exact (nv nr : Nat) (ops : List Model.RefSlot.Op) (c : Nat) (cl : Model.RefSlot.Cell)
    (h : (Model.RefSlot.run .counted nv nr ops).heap[c]? = some cl) :
    cl.cnt = Model.RefSlot.binders (Model.RefSlot.run .counted nv nr ops) c :=
  (Proofs.RefSlot.wf_run nv nr ops).count c cl h

/-- **After the last binder has gone the slot is an ordinary value slot.**  After ANY program
that ends with no reference variable / parameter bound (whatever was bound, written through,
copied while bound and released before): no cell is marked, and for `$x = $y` made now a store
through either name leaves the other name as it was — `$x = $y; $x[i] = v` does not change `$y`,
`$x = $y; $y[i] = v` does not change `$x`. -/
theorem C06_released_slot_is_value_slot (nv nr : Nat) (ops : List Model.RefSlot.Op)
    (hq : ∀ (r c : Nat) (k : Model.RefSlot.Kind), (Model.RefSlot.run .counted nv nr ops).bnd[r]? ≠ some (some (c, k)))
    (x y i : Nat) (v : Int) (hxy : x ≠ y) :
    (∀ (c : Nat) (cl : Model.RefSlot.Cell), (Model.RefSlot.run .counted nv nr ops).heap[c]? = some cl → cl.cnt = 0) ∧
    (Model.RefSlot.vals (Model.RefSlot.run .counted nv nr (ops ++ [.copy x y, .store x i v])))[y]? =
      (Model.RefSlot.vals (Model.RefSlot.run .counted nv nr (ops ++ [.copy x y])))[y]? ∧
    (Model.RefSlot.vals (Model.RefSlot.run .counted nv nr (ops ++ [.copy x y, .store y i v])))[x]? =
      (Model.RefSlot.vals (Model.RefSlot.run .counted nv nr (ops ++ [.copy x y])))[x]? := by
  have hw := Proofs.RefSlot.wf_run nv nr ops
  have hu := Proofs.RefSlot.unmarked_of_no_binder _ hw hq
  have hcb := Proofs.RefSlot.copy_heap_bnd .counted (Model.RefSlot.run .counted nv nr ops) x y
  have hw1 : Proofs.RefSlot.WF (Model.RefSlot.run .counted nv nr (ops ++ [.copy x y])) :=
    Proofs.RefSlot.wf_run nv nr _
  have e1 : Model.RefSlot.run .counted nv nr (ops ++ [.copy x y]) =
      Model.RefSlot.step .counted (Model.RefSlot.run .counted nv nr ops) (.copy x y) := by
    simp [Model.RefSlot.run, List.foldl_append]
  have hu1 : ∀ (c : Nat) (cl : Model.RefSlot.Cell),
      (Model.RefSlot.run .counted nv nr (ops ++ [.copy x y])).heap[c]? = some cl → cl.cnt = 0 := by
    rw [e1, hcb.1]; exact hu
  have e2 : ∀ w, Model.RefSlot.run .counted nv nr (ops ++ [.copy x y, w]) =
      Model.RefSlot.step .counted (Model.RefSlot.run .counted nv nr (ops ++ [.copy x y])) w := by
    intro w; simp [Model.RefSlot.run, List.foldl_append]
  refine ⟨hu, ?_, ?_⟩
  · rw [e2]; exact Proofs.RefSlot.store_local_of_unmarked _ hw1 hu1 x i v y (Ne.symm hxy)
  · rw [e2]; exact Proofs.RefSlot.store_local_of_unmarked _ hw1 hu1 y i v x hxy

/-- **References are gone before the array is copied ⇒ arrays are values.**  For every program
that keeps the discipline `disc` (an array is assigned — literal or copy — only while no reference
into an array is live; a reference variable is bound only while it is not live) the values of all
variables computed by the implementation model equal the reference semantics `Spec.RefVal`, in
which there are no cells and no marks, every variable holds an immutable list and a reference is
just another name for its element.  However often elements were bound to variables or to
by-reference parameters and released again, a later copy is independent of its source. -/
theorem C06_reference_discipline_value_semantics (nv nr : Nat) (ops : List Model.RefSlot.Op)
    (hd : Model.RefSlot.disc [] ops = true) :
    Model.RefSlot.vals (Model.RefSlot.run .counted nv nr ops) = (Spec.RefVal.run nv nr ops).arrs := by
  obtain ⟨L, hs⟩ := Proofs.RefSlot.sim_run nv nr ops hd
  exact hs.arrs.symm

/-- `$v0 = [1,2,3]; f($v0[0])` with `function f(&$p) { $p = 5; }` `; $v1 = $v0; $v1[0] = 9;` -/
def stickyWitness : List Model.RefSlot.Op :=
  [.lit 0 [1, 2, 3], .bind .param 0 0 0, .wr 0 5, .release 0, .copy 1 0, .store 1 0 9]

/-- the same history with a VARIABLE as the binder: `$r = &$v0[0]; $r = 5; unset($r)` -/
def staleWitness : List Model.RefSlot.Op :=
  [.lit 0 [1, 2, 3], .bind .var 0 0 0, .wr 0 5, .release 0, .copy 1 0, .store 1 0 9]

/-- **A mark that is never taken back breaks value semantics.**  If binding an element to a
by-reference parameter marks the slot and the return of the call does not unmark it
(`Cfg.sticky`), the disciplined program `stickyWitness` — the call has returned before the copy
is made — ends with `$v0[0] = 9`: the later copy shares the slot.  The harness replays it on
the real code first. -/
theorem C06_sticky_mark_counterexample :
    ¬ (∀ (nv nr : Nat) (ops : List Model.RefSlot.Op), Model.RefSlot.disc [] ops = true →
        Model.RefSlot.vals (Model.RefSlot.run .sticky nv nr ops) = (Spec.RefVal.run nv nr ops).arrs) := by
  intro h
  have := h 2 1 stickyWitness (by decide +kernel)
  revert this
  decide +kernel

/-- outcomes of the witness: the design and this tree (a parameter binding leaves no mark) keep
`$v0 = [5,2,3]`, the sticky mark gives `[9,2,3]` -/
theorem C06_sticky_witness_outcomes :
    Model.RefSlot.vals (Model.RefSlot.run .counted 2 1 stickyWitness) = [[5, 2, 3], [9, 2, 3]] ∧
    Model.RefSlot.vals (Model.RefSlot.run .tree 2 1 stickyWitness) = [[5, 2, 3], [9, 2, 3]] ∧
    (Spec.RefVal.run 2 1 stickyWitness).arrs = [[5, 2, 3], [9, 2, 3]] ∧
    Model.RefSlot.vals (Model.RefSlot.run .sticky 2 1 stickyWitness) = [[9, 2, 3], [9, 2, 3]] := by
  decide +kernel

/-- **This tree, known finding** (`hstale:*`): `$r = &$x[i]` marks the slot and nothing ever
unmarks it (`Cfg.tree`), so when the binder is a variable that has gone the later copy shares the
slot — `staleWitness` ends with `$v0[0] = 9` where the design and the reference semantics give 5. -/
theorem C06_tree_variable_binder_stale :
    Model.RefSlot.disc [] staleWitness = true ∧
    Model.RefSlot.vals (Model.RefSlot.run .tree 2 1 staleWitness) = [[9, 2, 3], [9, 2, 3]] ∧
    Model.RefSlot.vals (Model.RefSlot.run .counted 2 1 staleWitness) = [[5, 2, 3], [9, 2, 3]] ∧
    (Spec.RefVal.run 2 1 staleWitness).arrs = [[5, 2, 3], [9, 2, 3]] := by
  decide +kernel

/- non-vacuity: a disciplined program that binds, writes through, releases, copies, binds again —
   and an undisciplined one (copy while a reference is live) that `C06_binder_count_exact` still covers -/
def rsProg₀ : List Model.RefSlot.Op :=
  [.lit 0 [1, 2, 3], .bind .var 0 0 1, .store 0 1 7, .wr 0 8, .bind .param 1 0 1, .wr 1 6, .release 1, .release 0,
   .copy 1 0, .bind .var 0 1 1, .wr 0 4, .store 0 1 5, .release 0, .copy 2 1, .store 2 1 0]
example : Model.RefSlot.disc [] rsProg₀ = true := by decide
example : Model.RefSlot.vals (Model.RefSlot.run .counted 3 2 rsProg₀) = [[1, 5, 3], [1, 4, 3], [1, 0, 3]] := by decide +kernel
example : ∀ (r c : Nat) (k : Model.RefSlot.Kind), (Model.RefSlot.run .counted 3 2 rsProg₀).bnd[r]? ≠ some (some (c, k)) := by
  intro r c k
  have : (Model.RefSlot.run .counted 3 2 rsProg₀).bnd = [none, none] := by decide +kernel
  rw [this]
  match r with
  | 0 => simp
  | 1 => simp
  | n + 2 => simp
/- copy while a reference is live: the slot is shared by both copies (as in PHP), the mark counts one binder -/
example : Model.RefSlot.disc [] [.lit 0 [1, 2], .bind .var 0 0 0, .copy 1 0, .store 1 0 9] = false := by decide
example : Model.RefSlot.vals (Model.RefSlot.run .counted 2 1 [.lit 0 [1, 2], .bind .var 0 0 0, .copy 1 0, .store 1 0 9]) =
    [[9, 2], [9, 2]] := by decide +kernel
example : ((Model.RefSlot.run .counted 2 1 [.lit 0 [1, 2], .bind .var 0 0 0, .copy 1 0, .store 1 0 9]).heap.map (·.cnt)) =
    [0, 0, 1] := by decide +kernel

/-! ## A cached summary of an array's contents

`Model.Summary`: an array object carries, next to its elements, a flag "held no array when last
copied"; the copy routine trusts it (`Cfg.useHint`) and copies a flagged array by copying the
element list only. The flag is a statement about the element list, so it is true only as long as
EVERY editor of the list keeps it (`Cfg.maintains : Editor → Bool`). -/

section Summary
open Spec.SummaryVal Proofs.Lemmas.Summary

/-- **Copies are deep for all histories iff every editor maintains the summary.** For a copy
routine that trusts the flag: the values of all variables equal the immutable-value semantics
after EVERY program (any number of variables, any length: literals, copies, the four kinds of
editor at any position, removals, in-place writes on inner arrays) exactly when every editor
clears the flag when it stores an array. -/
theorem C06_summary_copies_deep_iff (cfg : Model.Summary.Cfg) (hu : cfg.useHint = true) :
    (∀ nv p, Spec.SummaryVal.abs (Model.Summary.run cfg nv p) = Spec.SummaryVal.run nv p) ↔ ∀ e, cfg.maintains e = true := by
  constructor
  · intro h e
    cases hm : cfg.maintains e with
    | true => rfl
    | false => exact absurd (h 3 (Proofs.Lemmas.Summary.witness e)) (stale_leaks cfg hu e hm)
  · intro h nv p
    exact sim cfg (fun _ => h) nv p

/-- a copy routine that consults nothing but the elements (this tree) needs nothing from the editors -/
theorem C06_summary_unconsulted_value_semantics (cfg : Model.Summary.Cfg) (hu : cfg.useHint = false) (nv : Nat) (p : List Model.Summary.Op) :
    Spec.SummaryVal.abs (Model.Summary.run cfg nv p) = Spec.SummaryVal.run nv p :=
  sim cfg (fun h => by rw [hu] at h; cases h) nv p

/-- the invariant behind it: when every editor maintains the flag, after every program a
flagged array holds scalars only -/
theorem C06_summary_flag_sound (cfg : Model.Summary.Cfg) (h : ∀ e, cfg.maintains e = true) (nv : Nat) (p : List Model.Summary.Op) :
    ∀ a ∈ (Model.Summary.run cfg nv p).vars, a.hint = true → ∀ e ∈ a.elems, e.isSc = true :=
  (run_ok cfg (fun _ => h) nv p).hint h

/-- **One editor that leaves the flag alone is enough**: flat at the last copy, an array enters
through that editor, copy, nested write through the copy — the source changes. -/
theorem C06_summary_stale_counterexample (cfg : Model.Summary.Cfg) (hu : cfg.useHint = true) (e : Model.Summary.Editor)
    (he : cfg.maintains e = false) :
    Spec.SummaryVal.abs (Model.Summary.run cfg 3 (Proofs.Lemmas.Summary.witness e)) ≠ Spec.SummaryVal.run 3 (Proofs.Lemmas.Summary.witness e) :=
  stale_leaks cfg hu e he

/-- the witness, replayed on the real code by the harness:
`$v0 = [1, 2]; $v1 = $v0; array_push($v1, [10, 20]); $v2 = $v1; $v2[2][0] = 99;` -/
theorem C06_summary_witness_outcomes :
    Spec.SummaryVal.abs (Model.Summary.run Model.Summary.Cfg.stale 3 (Proofs.Lemmas.Summary.witness Model.Summary.Editor.libfn)) = [[.sc 1, .sc 2], [.sc 1, .sc 2, .arr [99, 20]], [.sc 1, .sc 2, .arr [99, 20]]] ∧
    Spec.SummaryVal.abs (Model.Summary.run Model.Summary.Cfg.stale 3 (Proofs.Lemmas.Summary.witness Model.Summary.Editor.store)) = [[.sc 1, .sc 2], [.sc 1, .sc 2, .arr [10, 20]], [.sc 1, .sc 2, .arr [99, 20]]] ∧
    Spec.SummaryVal.abs (Model.Summary.run Model.Summary.Cfg.maintained 3 (Proofs.Lemmas.Summary.witness Model.Summary.Editor.libfn)) = [[.sc 1, .sc 2], [.sc 1, .sc 2, .arr [10, 20]], [.sc 1, .sc 2, .arr [99, 20]]] ∧
    Spec.SummaryVal.abs (Model.Summary.run Model.Summary.Cfg.plain 3 (Proofs.Lemmas.Summary.witness Model.Summary.Editor.method)) = [[.sc 1, .sc 2], [.sc 1, .sc 2, .arr [10, 20]], [.sc 1, .sc 2, .arr [99, 20]]] ∧
    Spec.SummaryVal.run 3 (Proofs.Lemmas.Summary.witness Model.Summary.Editor.libfn) = [[.sc 1, .sc 2], [.sc 1, .sc 2, .arr [10, 20]], [.sc 1, .sc 2, .arr [99, 20]]] := by
  decide +kernel

end Summary

/-! ### The tree's side of it, regenerated (`Generated.C06ArrayFields`)

`CloneArrayValue` / `CloneObjectValue` read the element storage and nothing else about the
contents, because there is nothing else: the field lists below are all there is. A new field is
`derived` until examined — a `shapeChanged` entry names it — and `C06_derived_fields_maintained`
is `∀ e, cfg.maintains e` of `C06_summary_copies_deep_iff` read off the source: every site that
edits the element storage assigns every derived field of its owner. -/

open Model.ArrayFields

def knownFields : List (String × String × String) := [
  ("ArrayValue", "List", "storage"), ("ArrayValue", "iterator", "cursor"), ("ArrayValue", "IndirectOverloadClass", "tag"),
  ("ObjectValue", "Value", "embedded"), ("ObjectValue", "Context", "embedded"), ("ObjectValue", "property", "storage"),
  ("ObjectValue", "iterator", "cursor"), ("ObjectValue", "IndirectOverloadClass", "tag")]

/-- functions that edit the element storage of an array (the edit-history stream of the harness
draws its editors from the script-level entry points of these; a new one belongs there too) -/
def knownListEditors : List (String × String) := [
  ("data/value_array.go", "ArrayValue.OwnSlot"),
  ("data/value_array.go", "ArrayValue.SetIntKey"),
  ("data/value_array.go", "ArrayValue.storeSlot"),
  ("data/value_array.go", "ArrayValue.SetStringKey"),
  ("data/value_array.go", "ArrayValue.normalizeDenseIntKeys"),
  ("data/value_array.go", "ArrayValue.UnsetKey"),
  ("data/value_array_pop.go", "ArrayValuePop.Call"),
  ("data/value_array_push.go", "ArrayValuePush.Call"),
  ("data/value_array_reverse.go", "ArrayValueReverse.Call"),
  ("data/value_array_shift.go", "ArrayValueShift.Call"),
  ("data/value_array_sort.go", "ArrayValueSort.Call"),
  ("data/value_array_splice.go", "ArrayValueSplice.Call"),
  ("data/value_array_unshift.go", "ArrayValueUnshift.Call"),
  ("data/value_object.go", "CloneObjectValue"),
  ("data/value_object.go", "ObjectValue.UnsetProperty"),
  ("data/value_object.go", "ObjectValue.SetProperty"),
  ("node/array.go", "setArrayLiteralEntry"),
  ("node/call_method.go", "CallMethod.handleFuncValue"),
  ("node/index.go", "IndexExpression.SetValue"),
  ("node/index.go", "indexSetValueOnContainer"),
  ("node/new.go", "paramSetValue"),
  ("node/value_reference.go", "ValueReference.resolveIndexRef"),
  ("std/php/array/array_flip.go", "ArrayFlipFunction.Call"),
  ("std/php/array/array_pop.go", "ArrayPopFunction.Call"),
  ("std/php/array/array_push.go", "ArrayPushFunction.Call"),
  ("std/php/array/array_shift.go", "ArrayShiftFunction.Call"),
  ("std/php/array/array_splice.go", "ArraySpliceFunction.Call"),
  ("std/php/array/array_unshift.go", "ArrayUnshiftFunction.Call"),
  ("std/php/array/krsort.go", "KrsortFunction.Call"),
  ("std/php/array/usort.go", "UsortFunction.Call"),
  ("std/php/core/array.go", "ArrayFunction.Call"),
  ("std/php/spl/array_iterator.go", "ArrayIteratorAppendMethod.Call"),
  ("std/php/spl/array_object.go", "aoObjectToArrayValue"),
  ("std/php/spl/array_object.go", "aoOffsetSet"),
  ("std/php/spl/array_object.go", "ArrayObjectAppendMethod.Call"),
  ("std/php/spl/caching_iterator.go", "ciUpdateCache"),
  ("std/php/spl/recursive_array_iterator.go", "raiValueToStorage"),
  ("std/php/spl/spl_doubly_linked_list.go", "splListRemoveAt"),
  ("std/php/spl/spl_doubly_linked_list.go", "SplDLLPushMethod.Call"),
  ("std/php/spl/spl_doubly_linked_list.go", "SplDLLPopMethod.Call"),
  ("std/php/spl/spl_doubly_linked_list.go", "SplDLLShiftMethod.Call"),
  ("std/php/spl/spl_doubly_linked_list.go", "SplDLLUnshiftMethod.Call"),
  ("std/php/spl/spl_doubly_linked_list.go", "SplDLLOffsetSetMethod.Call"),
  ("std/php/spl/spl_heap.go", "splHeapBubbleUp"),
  ("std/php/spl/spl_heap.go", "splHeapBubbleDown"),
  ("std/php/spl/spl_heap.go", "splHeapInsert"),
  ("std/php/spl/spl_heap.go", "splHeapExtractTop"),
  ("std/php/spl/spl_queue.go", "SplQueueEnqueueMethod.Call"),
  ("std/php/spl/spl_queue.go", "SplQueueDequeueMethod.Call"),
  ("std/php/unset.go", "UnsetFunction.Call"),
  ("std/serializer/json/json_serializer.go", "JsonSerializer.UnmarshalArray")]

/-- **An array object holds its elements and nothing about them**: no field of `ArrayValue` /
`ObjectValue` beyond the examined ones. (`scalarOnly bool` would be listed as `derived`.) -/
theorem C06_array_fields_known :
    (∀ f ∈ Generated.C06ArrayFields.fields, (f.owner, f.name, f.role) ∈ knownFields) ∧
    Generated.C06ArrayFields.shapeChanged = [] := by
  refine ⟨?_, rfl⟩
  -- each key is found literally among the entries (`eq_self`); membership never needs two strings to differ, so none is evaluated
  simp only [Generated.C06ArrayFields.fields, List.forall_mem_cons, List.not_mem_nil, false_implies, implies_true, and_true]
  simp only [knownFields, List.mem_cons, eq_self, true_or, or_true, and_self]

/-- **Every editor of the element storage maintains every derived field** of its owner. -/
theorem C06_derived_fields_maintained :
    unmaintained Generated.C06ArrayFields.fields Generated.C06ArrayFields.listEdits = [] := by
  decide +kernel

/-- the editors of element storage are the examined ones -/
theorem C06_list_editors_known :
    ∀ e ∈ Generated.C06ArrayFields.listEdits, (e.file, e.fn) ∈ knownListEditors := by
  simp only [Generated.C06ArrayFields.listEdits, List.forall_mem_cons, List.not_mem_nil, false_implies, implies_true, and_true]
  simp only [knownListEditors, List.mem_cons, eq_self, true_or, or_true, and_self]

/- non-vacuity: the table holds the setters and the library editors; the obligation does reject -/
example : 60 ≤ Generated.C06ArrayFields.listEdits.length ∧ 8 ≤ Generated.C06ArrayFields.fields.length := by decide
example : ("std/php/array/array_push.go", "ArrayPushFunction.Call") ∈ knownListEditors ∧ ("data/value_array_push.go", "ArrayValuePush.Call") ∈ knownListEditors := by
  simp only [knownListEditors, List.mem_cons, eq_self, true_or, or_true, and_self]
example : unmaintained [⟨"ArrayValue", "List", "storage"⟩, ⟨"ArrayValue", "scalarOnly", "derived"⟩]
    [⟨"data/value_array.go", "ArrayValue.Append", "ArrayValue", "list", 0, ["scalarOnly"]⟩,
     ⟨"std/php/array/array_push.go", "ArrayPushFunction.Call", "ArrayValue", "list", 0, []⟩] =
    [⟨"std/php/array/array_push.go", "ArrayPushFunction.Call", "ArrayValue", "list", 0, []⟩] := by decide +kernel
example : Model.Summary.Cfg.stale.maintains .libfn = false ∧ Model.Summary.Cfg.stale.useHint = true := by decide

end C06
