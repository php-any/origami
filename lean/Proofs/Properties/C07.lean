import Generated.C07Access
import Generated.C07Decl
import Proofs.Lemmas.AccessTypes
import Proofs.Lemmas.AccessKnown
import Proofs.Lemmas.Inst
import Proofs.Lemmas.AccessPos
import Proofs.Lemmas.AccessNamed
import Proofs.Lemmas.DeclMods
import Proofs.Lemmas.AccessDecl
/-!
# C07 — visibility and declared types are enforced at every access path and boundary

All theorems quantify over every class hierarchy `H` (any size, any depth), every site and every
table `T : Path → Recv → Check` of the shape the translator regenerates; the instance regenerated from the
source (`Generated.C07Access`, `Generated.C07Decl`) is held against the known findings by the obligations of each section
(`C07_table_within_known`, `C07_boundaries_within_known`, `C07_bind_loops_each_checked`, …), re-checked in every build.
Three small worlds are used: `Hier` (visibility, types), `Decls` over `Hier` (shadowing), `Model.Inst.World` (abstract
rules; its `Anc` is `Sub` on class records).

FULL STATEMENT (false on the pinned tree, kept as the goal):

    theorem C07_paths_agree : ∀ H s, WfSite H s → decide Generated.C07Access.table H s ≠ .stuck →
        (decide Generated.C07Access.table H s = .allowed ↔ Spec.Access.allowed H s.m s.lex s.decl)
    theorem C07_types_exact_at_every_boundary : ∀ b t v,
        admits isA (Generated.C07Access.boundary b) t v = true ↔ Spec.Types.denote H t v

What the pinned code (after the `fixes/C07-*` patches) does satisfy is proved below, what it does not is
proved as negation witnesses which the harness replays on the real interpreter (known findings).

After the second round of repairs (`fixes/C07-1-*` … `C07-6-*`) `C07_paths_agree` holds at full strength on every
`->`, dynamic-name, `A::m()`, `self::m()`, `static::m()`, `unset($o->p)` and `foreach` arm (`C07_lexical_exact`,
`C07_known_exact_arms`, instantiated for the regenerated table in `C07_generated_exact_paths`) and
`C07_types_exact_at_every_boundary` on twelve of the fourteen boundaries (`C07_generated_exact_boundaries`);
what keeps the two full statements false is `A::$p` / `self::$p` / `static::$p` (modifier and declared type of a
static property are lost when the class is parsed), the return type of closures (dropped), and the index paths
`$o['p']`, which are sound but refuse more than PHP's rule. The witnesses of the repaired defects are kept
against the table as it was (`pinnedBefore`), next to the proof that the same sites are now refused.
-/
namespace C07
open Model.Access Model.Types Spec.Access Spec.Types Proofs.Access Proofs.AccessTypes Proofs.AccessKnown Proofs.AccessPos

/-- what the language guarantees about where code runs (not about visibility): a class context runs code
of the context class or of a class it inherits from; code written in a class runs in a class context
(closures keep it); the receiver has the member; `$this` is an object of the context class -/
structure WfSite (H : Hier) (s : Site) : Prop where
  ctxLex : ∀ r, s.ctx = some r → ∃ l, s.lex = some l ∧ Sub H r l
  lexCtx : ∀ l, s.lex = some l → ∃ r, s.ctx = some r
  objDecl : Sub H s.obj s.decl
  thisObj : s.recv = .this → s.ctx = some s.obj

/-! ## protected: sound on every path that tests it, for every site (also for inherited methods) -/

/-- On a path whose arm guards `protected` with `isCallerInClassHierarchy`
(whatever the target: the object's class or the declaring class), an access the interpreter lets through is
one PHP allows — for every hierarchy and every well-formed site, including code inherited by the running
object's class. -/
theorem C07_protected_sound (T : Table) (H : Hier) (s : Site) (hd : NoDangling H) (wf : WfSite H s)
    (hm : s.m = .prot) (gp td : Bool) (hT : T s.path s.recv = .hier gp true td)
    (h : decide T H s = .allowed) : allowed H s.m s.lex s.decl := by
  unfold Model.Access.decide at h
  rw [hT] at h
  simp only [decideCheck, hm, guarded, if_true] at h
  obtain ⟨c, hc, hr⟩ := (ofCheck_inHierarchy hd (by rw [h]; decide)).mp h
  obtain ⟨l, hl, hcl⟩ := wf.ctxLex c hc
  rw [hm]
  refine ⟨l, hl, ?_⟩
  have hcd : Related H c s.decl := by
    cases td with
    | true => simpa using hr
    | false =>
      simp only [Bool.false_eq_true, if_false] at hr
      cases hr with
      | inl h1 => exact Or.inl (Sub.trans h1 wf.objDecl)
      | inr h2 => exact (Sub.linear h2 wf.objDecl)
  cases hcd with
  | inl h1 => exact Sub.linear hcl h1
  | inr h2 => exact Or.inr (Sub.trans h2 hcl)

example : C07.WfSite [⟨1, none, []⟩, ⟨2, some 1, []⟩, ⟨3, some 2, []⟩] ⟨.propRead, .other, .prot, some 3, some 2, 2, 1⟩ :=
  ⟨fun r hr => ⟨2, rfl, by cases hr; exact Sub.of_ext rfl⟩, fun _ _ => ⟨3, rfl⟩, Sub.of_ext rfl,
   fun h => by cases h⟩

/-- `$this->x` needs no test for `protected`: the lexical class and the
declaring class are both ancestors (or the class) of the running object, hence related — whatever the arm
does. -/
theorem C07_this_protected_sound (H : Hier) (s : Site) (wf : WfSite H s) (hr : s.recv = .this)
    (hm : s.m = .prot) : allowed H s.m s.lex s.decl := by
  have hc := wf.thisObj hr
  obtain ⟨l, hl, hcl⟩ := wf.ctxLex _ hc
  rw [hm]
  exact ⟨l, hl, Sub.linear hcl wf.objDecl⟩

/-! ## the lexical test is exact: `private` = declaring class only, `protected` = declaring class, descendants, ancestors -/

/-- (`C07_paths_agree`, full strength, for every arm that tests both modifiers with
`canAccessProperty` / `canAccessMethod` / `canAccessMember`.) On such an arm the decision of the access path
as coded IS PHP's visibility rule on (class whose text contains the access, class that declares the member):
for every hierarchy, every site — inherited methods, closures, `$this` or another object, code of ancestors,
descendants, siblings, unrelated classes, code outside every class — and every modifier. No hypothesis about the
site is needed (unlike `C07_hier_exact_partial`); `hc` only says that `self::` / `static::` stand in
class code. -/
theorem C07_lexical_exact (T : Table) (H : Hier) (s : Site) (hd : NoDangling H) (nc : Bool)
    (hT : T s.path s.recv = .lexical true true nc) (hc : nc = true → s.ctx.isSome)
    (hns : decide T H s ≠ .stuck) :
    decide T H s = .allowed ↔ allowed H s.m s.lex s.decl := by
  unfold Model.Access.decide at hns ⊢
  rw [hT] at hns ⊢
  have hcond : (nc && s.ctx.isNone) = false := by
    cases nc with
    | false => rfl
    | true => simpa using hc rfl
  -- with both guards the arm is `canAccessMember` for every modifier (which answers `true` for `public`)
  have hg : (if guarded true true s.m = true then Out.ofCheck (lexRule H s.m s.lex s.decl) else .allowed) =
      Out.ofCheck (lexRule H s.m s.lex s.decl) := by cases s.m <;> rfl
  simp only [decideCheck, hcond, Bool.false_eq_true, if_false, hg] at hns ⊢
  exact ofCheck_allowed_iff hns fun _ hb => lexRule_spec hd hb

/-- the site of `leak:propRead/this:priv:ancestor`: code of class 1 (ancestor), inherited by and running on an object
of class 2, reads `$this->p` declared private by class 2 — refused; the declaring class's own code — allowed -/
example : decide pinned [⟨1, none, []⟩, ⟨2, some 1, []⟩] ⟨.propRead, .this, .priv, some 2, some 1, 2, 2⟩ = .denied ∧
    decide pinned [⟨1, none, []⟩, ⟨2, some 1, []⟩] ⟨.propRead, .this, .priv, some 2, some 2, 2, 2⟩ = .allowed := by
  decide

/-- Whatever table the translator regenerates: if it is within the known findings
(`TableOK`, discharged for the regenerated table by `C07_table_within_known`), then on every arm the
known findings grade `exact` the decision is PHP's rule. A source change that weakens one of these arms fails
`C07_table_within_known`; one that keeps them leaves this theorem applicable. (`hc`: an arm that also asks for
a class context — `self::`, `static::` — is used in class code.) -/
theorem C07_known_exact_arms (T : Table) (hOK : TableOK T = true) (H : Hier) (s : Site) (hd : NoDangling H)
    (hk : known s.path s.recv = .exact)
    (hc : ∀ nc, T s.path s.recv = .lexical true true nc → nc = true → s.ctx.isSome)
    (hns : decide T H s ≠ .stuck) :
    decide T H s = .allowed ↔ allowed H s.m s.lex s.decl := by
  obtain ⟨nc, hT⟩ := TableOK_exact hOK hk
  exact C07_lexical_exact T H s hd nc hT (hc nc hT) hns

/-! ## the hierarchy test is exact where the context is the lexical class and the target the declaring class

(the shape `pinnedBefore` has on the `->` arms; the theorem is about every table) -/

/-- (`C07_paths_agree` for the `->`, dynamic-name and `A::m()` paths, *partial*.)
Excluded by hypothesis, each a known finding: (1) `ctx = lex` — the code looks at the runtime class of
`$this`, not at the class whose text contains the access (inherited methods); (2) the test targets the
declaring class — on the `->` paths it targets the object's class; (3) for `private`, the caller is the
declaring class or unrelated to it — the code enforces `private` exactly like `protected`. -/
theorem C07_hier_exact_partial (T : Table) (H : Hier) (s : Site) (hd : NoDangling H)
    (td : Bool) (hT : T s.path s.recv = .hier true true td)
    (hctx : s.ctx = s.lex) (htgt : td = false → s.obj = s.decl)
    (hpriv : s.m = .priv → s.lex = some s.decl ∨ ¬ ∃ c, s.lex = some c ∧ Related H c s.decl)
    (hns : decide T H s ≠ .stuck) :
    decide T H s = .allowed ↔ allowed H s.m s.lex s.decl := by
  unfold Model.Access.decide at hns ⊢
  rw [hT] at hns ⊢
  have htarget : (if td = true then s.decl else s.obj) = s.decl := by
    cases td with
    | true => rfl
    | false => exact htgt rfl
  simp only [decideCheck, htarget, hctx] at hns ⊢
  cases hm : s.m with
  | pub => exact iff_of_true rfl trivial
  | prot =>
    simp only [hm, guarded, if_true] at hns ⊢
    exact ofCheck_inHierarchy hd hns
  | priv =>
    simp only [hm, guarded, if_true] at hns ⊢
    rw [ofCheck_inHierarchy hd hns]
    exact ⟨fun h => (hpriv hm).resolve_right fun h2 => h2 h, fun h => ⟨s.decl, h, Related.refl _⟩⟩

example : decide pinnedBefore [⟨1, none, []⟩, ⟨2, some 1, []⟩] ⟨.staticMeth, .other, .prot, some 2, some 2, 2, 1⟩ = .allowed := by
  decide

/-- (Pre-fix behaviour, repaired by `fixes/C07-1-*`.) Code of a
subclass reads a private member of its parent through `$o->p`: the decision of the tree as it was is `allowed`,
PHP's is not. (Was `leak:propRead:priv:descendant`; the replay is kept and must now be refused.) -/
theorem C07_private_as_protected_counterexample :
    ¬ ∀ (H : Hier) (s : Site), WfSite H s → decide pinnedBefore H s = .allowed → allowed H s.m s.lex s.decl := by
  intro h
  have := h [⟨1, none, []⟩, ⟨2, some 1, []⟩] ⟨.propRead, .other, .priv, some 2, some 2, 1, 1⟩
    ⟨fun r hr => ⟨2, rfl, by cases hr; exact Sub.refl 2⟩, fun _ _ => ⟨2, rfl⟩, Sub.refl 1, fun h => by cases h⟩
    (by decide)
  simp [allowed] at this

/-- (Pre-fix behaviour, repaired by `fixes/C07-1-*`.) A method inherited
from an unrelated-to-the-member ancestor, run on an object of the declaring class, reaches that class's private
member: the test looked at the class of `$this`, not at the class whose text contains the access. (Was
`leak:propRead:priv:ancestor`.) -/
theorem C07_runtime_class_counterexample :
    ¬ ∀ (H : Hier) (s : Site), WfSite H s → decide pinnedBefore H s = .allowed → allowed H s.m s.lex s.decl := by
  intro h
  have := h [⟨1, none, []⟩, ⟨2, some 1, []⟩] ⟨.propRead, .other, .priv, some 2, some 1, 2, 2⟩
    ⟨fun r hr => ⟨1, rfl, by cases hr; exact Sub.of_ext rfl⟩, fun _ _ => ⟨2, rfl⟩, Sub.refl 2, fun h => by cases h⟩
    (by decide)
  simp [allowed] at this

/-- The two witnesses above, on the table of the repaired tree: refused. -/
theorem C07_repaired_sites_refused :
    decide pinned [⟨1, none, []⟩, ⟨2, some 1, []⟩] ⟨.propRead, .other, .priv, some 2, some 2, 1, 1⟩ = .denied ∧
    decide pinned [⟨1, none, []⟩, ⟨2, some 1, []⟩] ⟨.propRead, .other, .priv, some 2, some 1, 2, 2⟩ = .denied := by
  decide

/-- An arm that performs no test lets every access through; so it is right exactly
at the sites where PHP allows the access anyway, and every other site is a leak. This is what makes the
obligation `TableOK Generated.C07Access.table` (below) bite: a path that loses its test becomes `unchecked`. -/
theorem C07_unchecked_leaks (T : Table) (H : Hier) (s : Site) (hT : T s.path s.recv = .unchecked) :
    decide T H s = .allowed := by
  simp [Model.Access.decide, hT, decideCheck]

/-- `A::$priv` from top-level code. (Replayed as
`leak:staticPropRead:priv:outside`.) -/
theorem C07_static_property_counterexample :
    ¬ ∀ (H : Hier) (s : Site), WfSite H s → decide pinned H s = .allowed → allowed H s.m s.lex s.decl := by
  intro h
  have := h [⟨1, none, []⟩] ⟨.staticPropRead, .other, .priv, none, none, 1, 1⟩
    ⟨fun r hr => (by cases hr), fun l hl => (by cases hl), Sub.refl 1, fun h => (by cases h)⟩ (by decide)
  simp [allowed] at this

/-- `self::$priv` in a subclass of the declaring class. (Replayed as
`leak:selfProp:priv:descendant`.) -/
theorem C07_self_keyword_counterexample :
    ¬ ∀ (H : Hier) (s : Site), WfSite H s → decide pinned H s = .allowed → allowed H s.m s.lex s.decl := by
  intro h
  have := h [⟨1, none, []⟩, ⟨2, some 1, []⟩] ⟨.selfProp, .other, .priv, some 2, some 2, 2, 1⟩
    ⟨fun r hr => ⟨2, rfl, by cases hr; exact Sub.refl 2⟩, fun _ _ => ⟨2, rfl⟩, Sub.of_ext rfl, fun h => by cases h⟩
    (by decide)
  simp [allowed] at this

/-- where `parent::m()` stands: in a class context, in a class whose strict ancestor declares `m` -/
def ParentSite (H : Hier) (s : Site) : Prop :=
  s.ctx.isSome ∧ ∃ l p, s.lex = some l ∧ extOf H l = some p ∧ Sub H p s.decl ∧ l ≠ s.decl

/-- `parent::m()` agrees with PHP's rule at full strength: a private method of an
ancestor is refused, public and protected ones are callable. -/
theorem C07_parent_exact (T : Table) (H : Hier) (s : Site) (hT : T s.path s.recv = .privDenied)
    (hp : ParentSite H s) : decide T H s = .allowed ↔ allowed H s.m s.lex s.decl := by
  obtain ⟨hc, l, p, hl, hext, hsub, hne⟩ := hp
  simp only [Model.Access.decide, hT, decideCheck, hc, if_true]
  cases hm : s.m with
  | pub => exact iff_of_true rfl trivial
  | prot => exact iff_of_true rfl ⟨l, hl, Or.inl (Sub.step hext hsub)⟩
  | priv => exact iff_of_false (fun h => nomatch h) fun h => hne (Option.some.inj (hl.symm.trans h))

example : C07.ParentSite [⟨1, none, []⟩, ⟨2, some 1, []⟩] ⟨.parentMeth, .other, .prot, some 2, some 2, 2, 1⟩ :=
  ⟨rfl, 2, 1, rfl, rfl, Sub.refl 1, by decide⟩

/-- `$o['p']` lets through public members only: whatever it allows, PHP allows. -/
theorem C07_public_only_sound (T : Table) (H : Hier) (s : Site) (hT : T s.path s.recv = .pubOnly)
    (h : decide T H s = .allowed) : allowed H s.m s.lex s.decl := by
  unfold Model.Access.decide at h
  rw [hT] at h
  cases hm : s.m <;> simp [decideCheck, hm, allowed] at h ⊢

example : decide pinned [] ⟨.idxRead, .other, .pub, none, none, 1, 1⟩ = .allowed := by decide

/-- the sites at which the arm `T s.path s.recv` is right — one clause per kind of arm, each excluded site
class is a known finding (leak) or an over-refusal recorded in notes/C07.md -/
def Faithful (T : Table) (H : Hier) (s : Site) : Prop :=
  match T s.path s.recv with
  | .unchecked => allowed H s.m s.lex s.decl
  | .lexical gp gq nc => gp = true ∧ gq = true ∧ (nc = true → s.ctx.isSome)
  | .hier gp gq td =>
    gp = true ∧ gq = true ∧ s.ctx = s.lex ∧ (td = false → s.obj = s.decl) ∧
    (s.m = .priv → s.lex = some s.decl ∨ ¬ ∃ c, s.lex = some c ∧ Related H c s.decl)
  | .pubOnly => s.m = .pub ∨ ¬ allowed H s.m s.lex s.decl
  | .pubOnlyOwn ea =>
    (s.decl = s.obj → s.m = .pub ∨ ¬ allowed H s.m s.lex s.decl) ∧
    (s.decl ≠ s.obj → if ea then allowed H s.m s.lex s.decl else ¬ allowed H s.m s.lex s.decl)
  | .classCtxOnly => s.ctx.isSome ∧ allowed H s.m s.lex s.decl
  | .privDenied => ParentSite H s
  | .shapeChanged => False

/-- For every table, hierarchy and site: at the sites where the arm is
faithful (see `Faithful`), the decision of the access path as coded is PHP's visibility rule. -/
theorem C07_paths_agree_partial (T : Table) (H : Hier) (s : Site) (hd : NoDangling H)
    (hf : Faithful T H s) (hns : decide T H s ≠ .stuck) :
    decide T H s = .allowed ↔ allowed H s.m s.lex s.decl := by
  unfold Faithful at hf
  generalize hT : T s.path s.recv = c at hf
  cases c with
  | unchecked =>
    exact iff_of_true (C07_unchecked_leaks T H s hT) hf
  | lexical gp gq nc =>
    obtain ⟨h1, h2, h3⟩ := hf
    subst h1; subst h2
    exact C07_lexical_exact T H s hd nc hT h3 hns
  | hier gp gq td =>
    obtain ⟨h1, h2, h3, h4, h5⟩ := hf
    subst h1; subst h2
    exact C07_hier_exact_partial T H s hd td hT h3 h4 h5 hns
  | pubOnly =>
    simp only [Model.Access.decide, hT, decideCheck]
    exact pubOnly_iff hf
  | pubOnlyOwn ea =>
    simp only [Model.Access.decide, hT, decideCheck]
    by_cases hdo : s.decl = s.obj
    · rw [if_pos hdo]
      exact pubOnly_iff (hf.1 hdo)
    · have := hf.2 hdo
      rw [if_neg hdo]
      cases ea with
      | true => exact iff_of_true rfl this
      | false => exact iff_of_false (fun h => nomatch h) this
  | classCtxOnly =>
    simp only [Model.Access.decide, hT, decideCheck, hf.1, if_true, true_iff]
    exact hf.2
  | privDenied =>
    exact C07_parent_exact T H s hT hf
  | shapeChanged =>
    exact hf.elim

example : C07.Faithful pinnedBefore [⟨1, none, []⟩, ⟨2, some 1, []⟩] ⟨.methCall, .other, .prot, some 2, some 2, 1, 1⟩ :=
  ⟨rfl, rfl, rfl, fun _ => rfl, fun h => by cases h⟩
/-- on the repaired tree every site of a `->` arm is faithful: also code of class 1 inherited by an object of class 2 -/
example : C07.Faithful pinned [⟨1, none, []⟩, ⟨2, some 1, []⟩] ⟨.methCall, .this, .priv, some 2, some 1, 2, 2⟩ :=
  ⟨rfl, rfl, fun h => by cases h⟩

/-- `Spec.Access.allowedB` (what the driver answers to `spec` requests, against
which the harness holds its own Go oracle on every cell) decides `Spec.Access.allowed`. -/
theorem C07_spec_decision_procedure (H : Hier) (hd : NoDangling H) (m : Mod) (caller : Option Name) (decl : Name)
    (r : Bool) (h : allowedB H m caller decl = some r) : r = true ↔ allowed H m caller decl :=
  allowedB_spec hd h

example : allowedB [⟨1, none, []⟩, ⟨2, some 1, []⟩, ⟨3, none, []⟩] .prot (some 2) 1 = some true ∧
    allowedB [⟨1, none, []⟩, ⟨2, some 1, []⟩, ⟨3, none, []⟩] .prot (some 3) 1 = some false := by decide

/-- On every path, for every table: an access that does not succeed — wrong type
at a typed store, modifier test failed, walk stuck — leaves every member cell and every call counter as it
was. -/
theorem C07_denied_no_effect (T : Table) (H : Hier) (s : Site) (σ : Store) (op : Op)
    (h : ∀ v, (exec T H s σ op).1 ≠ .ok v) : (exec T H s σ op).2 = σ := by
  rw [exec_eq T H ⟨s, op⟩] at h ⊢
  generalize verdict T H ⟨s, op⟩ = v at h ⊢
  cases v with
  | allowed => exact absurd rfl (h _)
  | _ => rfl

/-- A successful write changes exactly the addressed cell, a successful call
runs the body exactly once, a read changes nothing. -/
theorem C07_allowed_effect_exact (T : Table) (H : Hier) (s : Site) (σ : Store) (op : Op) (r : Option Val)
    (h : (exec T H s σ op).1 = .ok r) :
    (exec T H s σ op).2 = σ.after op := by
  rw [exec_eq T H ⟨s, op⟩] at h ⊢
  generalize verdict T H ⟨s, op⟩ = v at h ⊢
  cases v with
  | allowed => rfl
  | _ => cases h

example : (exec pinned [⟨1, none, []⟩] ⟨.propWrite, .other, .priv, none, none, 1, 1⟩
    ⟨fun _ => 1, fun _ => 0⟩ (.write 0 2 true)).1 = .denied := by decide

/-- `Types.Is` accepts exactly the values the declared type stands for — for every
nesting of `?T` and `T1|T2|…` (induction on the type), given that the object test is `IsA` (C07_isA_exact
below for the class/implements part, C08 for interface inheritance). -/
theorem C07_types_exact (H : Hier) (isA : Name → Name → Bool) (hi : ∀ c n, isA c n = true ↔ IsA H c n)
    (t : Ty) (v : ValKind) : accepts isA t v = true ↔ denote H t v :=
  (accepts_spec hi).1 t v

/-- The `Class.Is` walk (own name, own implements, then each ancestor's) answers `IsA`
whenever it terminates. -/
theorem C07_isA_exact (H : Hier) (c t : Name) (b : Bool) (h : isA H c t = some b) : b = true ↔ IsA H c t :=
  isAChain_spec _ c b h

example : isA [⟨1, none, [9]⟩, ⟨2, some 1, []⟩] 2 9 = some true := by decide

/-- A boundary that applies `Is` and nothing else (typed property store through
`->`, function return) admits exactly the denotation of the declared type. -/
theorem C07_boundary_exact (H : Hier) (isA : Name → Name → Bool) (hi : ∀ c n, isA c n = true ↔ IsA H c n)
    (t : Ty) (v : ValKind) : admits isA .exact t v = true ↔ denote H t v := by
  simp only [admits]
  exact (accepts_spec hi).1 t v

/-- A boundary of kind `nullAlso` lets `null` through whatever the declared type
is; for every other value it is exact. (Parameter binding and method return were of this kind before
`fixes/C07-4-*`, `C07-5-*`; no boundary of the repaired tree is, and `C07_boundaries_within_known` fails the build
if one becomes so again.) -/
theorem C07_boundary_null_partial (H : Hier) (isA : Name → Name → Bool)
    (hi : ∀ c n, isA c n = true ↔ IsA H c n) (t : Ty) (v : ValKind) (hv : v ≠ .null) :
    admits isA .nullAlso t v = true ↔ denote H t v := by
  cases v with
  | null => exact absurd rfl hv
  | _ => simp only [admits]; exact (accepts_spec hi).1 _ _

/-- (Pre-fix behaviour.) `function f(int $x)` called with `null` under a
`nullAlso` boundary (was `type:fnParam:null`, …; the replays are kept and must now be refused). -/
theorem C07_boundary_null_counterexample (H : Hier) (isA : Name → Name → Bool) :
    admits isA .nullAlso .int .null = true ∧ ¬ denote H .int .null := by
  refine ⟨rfl, ?_⟩
  intro h
  cases h

/-- `A::$p = "x"` for `int $p`, a closure declared `: int` returning
"x" (replayed as `type:staticStore:nonnull`, `type:closureReturn:nonnull`; `$o['p'] = "x"` was of this kind before
`fixes/C07-6-*`). -/
theorem C07_boundary_unchecked_counterexample (H : Hier) (isA : Name → Name → Bool) :
    admits isA .unchecked .int .str = true ∧ ¬ denote H .int .str := by
  refine ⟨rfl, ?_⟩
  intro h
  cases h

example : accepts (fun c n => (isA [⟨1, none, [9]⟩, ⟨2, some 1, []⟩] c n).getD false)
    (.union [.int, .nullable (.cls 9)]) (.obj 2) = true := by decide

/-- If `new C` succeeds then `C` names a declared class (not an interface), the
class is not abstract, declares no abstract method itself, and implements every abstract method of its
ancestors and every method of every interface it or an ancestor implements (directly or through interface
inheritance) — for every world of classes and interfaces. -/
theorem C07_abstract_rules (W : Model.Inst.World) (n : Model.Inst.Name)
    (h : Model.Inst.instantiate W n = .ok) :
    ∃ c, Model.Inst.getClass W n = some c ∧ c.isAbstract = false ∧ c.abstr = [] ∧ Spec.Inst.Complete W c := by
  revert h
  -- no such class, an abstract class: not `ok`; otherwise the answer is `instChain`'s
  fun_cases Model.Inst.instantiate W n with
  | case1 => nofun
  | case2 => nofun
  | case3 c hg ha =>
    intro h
    have ha : c.isAbstract = false := Bool.not_eq_true _ ▸ ha
    have hi := Proofs.Inst.validate_spec W c
    have hc := Proofs.Inst.instChain_spec W (Model.Inst.fuelC W) c
    rw [h] at hc
    rw [hc ha] at hi
    exact ⟨c, hg, ha, hi⟩

/-- The converse: when `new C` is refused for incompleteness, some
non-abstract class in the chain of `C` really declares an abstract method itself or leaves a required method
unimplemented. -/
theorem C07_abstract_no_false_refusal (W : Model.Inst.World) (n : Model.Inst.Name) (c : Model.Inst.ACls)
    (hc : Model.Inst.getClass W n = some c)
    (h : Model.Inst.instantiate W n = .missing ∨ Model.Inst.instantiate W n = .selfAbstract) :
    ∃ a, Spec.Inst.Anc W c a ∧ a.isAbstract = false ∧ (a.abstr ≠ [] ∨ ¬ Spec.Inst.Complete W a) := by
  revert h
  -- no such class, an abstract class: neither refusal; otherwise the answer is `instChain`'s
  fun_cases Model.Inst.instantiate W n with
  | case1 hg => cases hc.symm.trans hg
  | case2 => exact fun h => h.elim nofun nofun
  | case3 d hg ha =>
    cases hc.symm.trans hg
    have hi := Proofs.Inst.instChain_spec W (Model.Inst.fuelC W) c
    -- the refusal is the verdict of `validate` on a concrete class `a` of the chain
    rintro (h1 | h1)
    · rw [h1] at hi
      obtain ⟨a, haa, hab, hv⟩ := hi
      have hs := Proofs.Inst.validate_spec W a
      rw [hv] at hs
      exact ⟨a, haa, hab, .inr hs.2⟩
    · rw [h1] at hi
      obtain ⟨a, haa, hab, hv⟩ := hi
      have hs := Proofs.Inst.validate_spec W a
      rw [hv] at hs
      exact ⟨a, haa, hab, .inl hs⟩

/-- An abstract class and a name that is not a class (an interface) are refused
outright. -/
theorem C07_abstract_refused (W : Model.Inst.World) (n : Model.Inst.Name) :
    (∀ c, Model.Inst.getClass W n = some c → c.isAbstract = true → Model.Inst.instantiate W n = .abstr) ∧
    (Model.Inst.getClass W n = none → Model.Inst.instantiate W n = .noClass) := by
  constructor
  · intro c hc ha; simp [Model.Inst.instantiate, hc, ha]
  · intro hn; simp [Model.Inst.instantiate, hn]

example : Model.Inst.instantiate ⟨[⟨1, none, [], true, [], [7]⟩, ⟨2, some 1, [], false, [7], []⟩], []⟩ 2 = .ok := by
  decide
example : Model.Inst.instantiate ⟨[⟨1, none, [], true, [], [7]⟩, ⟨2, some 1, [], false, [], []⟩], []⟩ 2 = .missing := by
  decide

/-! ## enforcement has no memory: the verdict recurs on every attempt, whatever came before

The matrices probe each enforcement point once. These theorems say what the model guarantees for *sequences*
of attempts within one VM, and the harness's history stream holds the interpreter against them (same site
twice, another site, after a caught denial, after a legitimate access, interleaved with other classes). -/

/-- The outcome kind of one access is `verdict`: a function of the site and
the operation, the same from every store. -/
theorem C07_verdict_state_independent (T : Table) (H : Hier) (s : Site) (σ : Store) (op : Op) :
    (exec T H s σ op).1.out = verdict T H ⟨s, op⟩ := by
  rw [exec_eq T H ⟨s, op⟩]
  cases verdict T H ⟨s, op⟩ <;> rfl

/-- In any sequence of accesses run on one store, from any initial store, the
k-th outcome is the verdict of the k-th access alone. -/
theorem C07_history_independent (T : Table) (H : Hier) : ∀ (steps : List Step) (σ : Store),
    ((run T H σ steps).1).map Res.out = steps.map (verdict T H)
  | [], _ => rfl
  | st :: rest, σ => by
    simp only [run, List.map_cons]
    rw [C07_verdict_state_independent, C07_history_independent T H rest]

/-- After any two histories (from any two stores) the same access gets the same
outcome: a denial recurs on every later attempt, and so does a grant. -/
theorem C07_enforcement_recurs (T : Table) (H : Hier) (pre₁ pre₂ : List Step) (σ₁ σ₂ : Store) (st : Step) :
    (exec T H st.site (run T H σ₁ pre₁).2 st.op).1.out = (exec T H st.site (run T H σ₂ pre₂).2 st.op).1.out := by
  rw [C07_verdict_state_independent, C07_verdict_state_independent]

/-- The store after a sequence of attempts is the initial store plus exactly
the effects of the allowed ones, in order; the denied attempts, however many and wherever they stand, leave
no trace. -/
theorem C07_sequence_effect_exact (T : Table) (H : Hier) : ∀ (steps : List Step) (σ : Store),
    (run T H σ steps).2 = effects T H σ steps
  | [], _ => rfl
  | st :: rest, σ => by
    simp only [run]
    rw [C07_sequence_effect_exact T H rest, exec_eq T H st]
    unfold effects
    cases hv : verdict T H st <;> simp [hv]

/-- Any number of denied attempts in a row changes nothing. -/
theorem C07_denied_sequence_no_effect (T : Table) (H : Hier) (steps : List Step) (σ : Store)
    (h : ∀ st ∈ steps, verdict T H st ≠ .allowed) : (run T H σ steps).2 = σ := by
  rw [C07_sequence_effect_exact]
  unfold effects
  have : steps.filter (fun st => verdict T H st == .allowed) = [] := by
    apply List.filter_eq_nil_iff.mpr
    intro st hst
    simp [h st hst]
  rw [this]
  rfl

example : ((run pinned [⟨1, none, []⟩] ⟨fun _ => 1, fun _ => 0⟩
    [⟨⟨.propWrite, .other, .priv, none, none, 1, 1⟩, .write 0 2 true⟩,
     ⟨⟨.propWrite, .other, .priv, some 1, some 1, 1, 1⟩, .write 0 3 true⟩,
     ⟨⟨.propWrite, .other, .priv, none, none, 1, 1⟩, .write 0 4 true⟩]).1).map Res.out
    = [.denied, .allowed, .denied] := by decide +kernel

/-- A typed slot crossed repeatedly: the k-th crossing is admitted iff
the boundary admits that value for that declared type — whatever was offered, admitted or rejected before. -/
theorem C07_boundary_history_independent (isA : Name → Name → Bool) (k : BKind) (t : Ty) :
    ∀ (vs : List ValKind) (slot : Option ValKind), (storeRun isA k t slot vs).1 = vs.map (admits isA k t)
  | [], _ => rfl
  | v :: rest, slot => by
    simp only [storeRun, List.map_cons]
    rw [C07_boundary_history_independent isA k t rest]
    unfold storeStep
    cases admits isA k t v <;> simp

/-- A slot behind an exact boundary never holds a value outside its declared
type, whatever sequence of stores is attempted: rejected stores leave the previous (well-typed) content. -/
theorem C07_typed_slot_invariant (H : Hier) (isA : Name → Name → Bool) (hi : ∀ c n, isA c n = true ↔ IsA H c n)
    (t : Ty) : ∀ (vs : List ValKind) (slot : Option ValKind), (∀ v, slot = some v → denote H t v) →
    ∀ v, (storeRun isA .exact t slot vs).2 = some v → denote H t v
  | [], slot, h0, v, h => h0 v h
  | w :: rest, slot, h0, v, h => by
    simp only [storeRun] at h
    refine C07_typed_slot_invariant H isA hi t rest _ ?_ v h
    intro u hu
    unfold storeStep at hu
    by_cases ha : admits isA .exact t w = true
    · rw [if_pos ha] at hu
      have hw : w = u := by simpa using hu
      rw [← hw]
      exact (C07_boundary_exact H isA hi t w).mp ha
    · rw [if_neg ha] at hu
      exact h0 u hu

example : storeRun (fun _ _ => false) .exact .int none [.str, .int, .str, .null] = ([false, true, false, false], some .int) := by
  decide

/-- `new` attempted repeatedly: the k-th outcome is the outcome of
that `new` alone — a refusal recurs on every later attempt. -/
theorem C07_instantiation_history_independent (W : Model.Inst.World) :
    ∀ (ns live : List Model.Inst.Name), (Model.Inst.newRun W live ns).1 = ns.map (Model.Inst.instantiate W)
  | [], _ => rfl
  | n :: rest, live => by
    simp only [Model.Inst.newRun, List.map_cons]
    rw [C07_instantiation_history_independent W rest]
    unfold Model.Inst.newStep
    cases Model.Inst.instantiate W n <;> rfl

/-- Whatever sequence of `new` is attempted, every object that comes to exist
is of a declared, non-abstract class that declares no abstract method and implements everything it inherits
as abstract. -/
theorem C07_no_incomplete_instance (W : Model.Inst.World) :
    ∀ (ns live : List Model.Inst.Name) (n : Model.Inst.Name), n ∈ (Model.Inst.newRun W live ns).2 →
      n ∈ live ∨ ∃ c, Model.Inst.getClass W n = some c ∧ c.isAbstract = false ∧ c.abstr = [] ∧ Spec.Inst.Complete W c
  | [], _, _, h => Or.inl h
  | m :: rest, live, n, h => by
    simp only [Model.Inst.newRun] at h
    rcases C07_no_incomplete_instance W rest _ n h with h1 | h1
    · unfold Model.Inst.newStep at h1
      cases hi : Model.Inst.instantiate W m with
      | ok =>
        rw [hi] at h1
        simp only [List.mem_cons] at h1
        rcases h1 with h2 | h2
        · subst h2
          exact Or.inr (C07_abstract_rules W n hi)
        · exact Or.inl h2
      | _ => rw [hi] at h1; exact Or.inl h1
    · exact Or.inr h1

example : Model.Inst.newRun ⟨[⟨1, none, [], true, [], [7]⟩, ⟨2, some 1, [], false, [], []⟩, ⟨3, some 1, [], false, [7], []⟩], []⟩ []
    [2, 2, 3, 2, 1] = ([.missing, .missing, .ok, .missing, .abstr], [3]) := by decide +kernel

/-! ## several items in one construct: the outcome does not depend on WHERE the offending item stands

The seeded change `C07-ctor-arg-error-overwritten` (the test of `acl` inside the constructor's binding loop removed
as a "duplicate" of the test after it: only the last parameter's result survived) is what these exclude. The
boundary model above has ONE slot; here a call has a list of slots, a statement sequence a list of stores, an
expression a list of operands. -/

/-- A call through a loop that tests each binding runs the callee's body iff EVERY
parameter is handed a value and lets it in — for every number of parameters, every position. -/
theorem C07_call_accepted_iff_all (isA : Name → Name → Bool) (slots : List Slot) :
    bindArgs .eachChecked isA slots = .ran ↔ ∀ s ∈ slots, s.fine isA = true :=
  bindEach_ran_iff isA slots 0

/-- … and what is reported otherwise is the FIRST parameter that is not fine: a
refusal of slot `j` (`raised` when its argument threw) where every slot before `j` is fine. -/
theorem C07_call_reports_first (isA : Name → Name → Bool) (slots : List Slot) (o : CallOut)
    (h : bindArgs .eachChecked isA slots = o) (hne : o ≠ .ran) :
    ∃ j s, slots[j]? = some s ∧ s.fine isA = false ∧
      (∀ k, k < j → ∀ u, slots[k]? = some u → u.fine isA = true) ∧
      ((s.a = .throws ∧ o = .raised j) ∨ (s.a ≠ .throws ∧ o = .rejected j)) := by
  change bindEach isA 0 slots = o at h
  obtain ⟨pre, rest, rfl, hpre, rfl | ⟨x, post, rfl, hx⟩⟩ := fine_prefix (fun s : Slot => s.fine isA = true) slots
  · rw [bindEach_append isA pre 0 _ hpre] at h
    exact absurd h.symm hne
  · obtain ⟨hat, hbefore⟩ := fine_prefix_getElem? x post hpre
    refine ⟨pre.length, x, hat, by simpa using hx, hbefore, ?_⟩
    rw [bindEach_append isA pre 0 _ hpre, bindEach_cons, if_neg hx, Nat.zero_add] at h
    by_cases ht : x.a = .throws
    · rw [if_pos ht] at h; exact .inl ⟨ht, h.symm⟩
    · rw [if_neg ht] at h; exact .inr ⟨ht, h.symm⟩

/-- With exact boundaries (what `C07_boundaries_within_known` demands of every parameter
boundary): the body runs iff every parameter is handed a value that its declared type denotes. -/
theorem C07_call_exact (H : Hier) (isA : Name → Name → Bool) (hi : ∀ c n, isA c n = true ↔ IsA H c n)
    (slots : List Slot) (hk : ∀ s ∈ slots, s.k = .exact) :
    bindArgs .eachChecked isA slots = .ran ↔ ∀ s ∈ slots, ∃ v, s.a = .val v ∧ denote H s.t v := by
  rw [C07_call_accepted_iff_all]
  refine forall₂_congr fun s hs => ?_
  rw [fine_iff, hk s hs]
  simp only [C07_boundary_exact H isA hi]

/-- Methods evaluate every argument before they bind the first
(`callMethodParams`), the other callables evaluate each argument when they bind it: which offender is reported
may differ, whether the body runs does not. -/
theorem C07_call_eval_order_irrelevant (isA : Name → Name → Bool) (slots : List Slot) :
    bindEvalFirst .eachChecked isA slots = .ran ↔ bindArgs .eachChecked isA slots = .ran :=
  bindEvalFirst_ran_iff isA slots

/-- The callee's body runs (once) exactly when every slot is fine. -/
theorem C07_refused_call_body_does_not_run (isA : Name → Name → Bool) (slots : List Slot) :
    (bindArgs .eachChecked isA slots).bodyRuns = 1 ↔ ∀ s ∈ slots, s.fine isA = true := by
  rw [← C07_call_accepted_iff_all]
  cases bindArgs .eachChecked isA slots <;> simp [CallOut.bodyRuns]

/-- A loop that tests the result after its last iteration only: whether the
body runs depends on the LAST slot and on nothing else. -/
theorem C07_last_only_depends_on_last (isA : Name → Name → Bool) (pre : List Slot) (s : Slot) :
    bindArgs .lastOnly isA (pre ++ [s]) = .ran ↔ s.fine isA = true := by
  simp only [bindArgs]
  rw [bindLast_append, bindStep_eq]
  by_cases hf : s.fine isA = true
  · rw [if_pos hf]
    exact iff_of_true rfl hf
  · rw [if_neg hf]
    exact iff_of_false (by by_cases ht : s.a = .throws <;> simp [ht]) hf

/-- `new Pair("one", "s")` for `__construct(int $a, string $b)` under such a
loop: the first slot refuses its value and the body runs all the same. (The seeded change; the harness replays
it as `argpos:ctorParam/pos:admitted:mistyped:nonlast`.) -/
theorem C07_last_only_counterexample (isA : Name → Name → Bool) :
    ∃ slots : List Slot, (∃ s ∈ slots, s.fine isA = false) ∧ bindArgs .lastOnly isA slots = .ran :=
  ⟨[⟨.exact, .int, .val .str⟩, ⟨.exact, .str, .val .str⟩], ⟨⟨.exact, .int, .val .str⟩, by simp, rfl⟩, rfl⟩

example : bindArgs .eachChecked (fun _ _ => false) [⟨.exact, .int, .val .str⟩, ⟨.exact, .str, .val .str⟩] = .rejected 0 := by
  decide
example : bindArgs .eachChecked (fun _ _ => false) [⟨.exact, .int, .val .int⟩, ⟨.exact, .str, .throws⟩, ⟨.exact, .arr, .val .int⟩] = .raised 1 := by
  decide
example : bindEvalFirst .eachChecked (fun _ _ => false) [⟨.exact, .int, .val .str⟩, ⟨.exact, .str, .throws⟩] = .raised 1 := by
  decide
example : bindArgs .eachChecked (fun _ _ => false) [⟨.exact, .int, .val .int⟩, ⟨.exact, .nullable .str, .val .null⟩] = .ran := by
  decide

/-- Several typed properties written in one go: no store is refused iff every
value is admitted; otherwise the refused store is the first whose value is not admitted, every slot before it is
written with the value offered to it and no slot from it on is written. -/
theorem C07_store_sequence_all_or_first (isA : Name → Name → Bool) (l : List (BKind × Ty × ValKind)) :
    ((storeSeq isA 0 l).1 = none ↔ ∀ x ∈ l, admits isA x.1 x.2.1 x.2.2 = true) ∧
    (∀ n, (storeSeq isA 0 l).1 = some n →
      ∃ x, l[n]? = some x ∧ admits isA x.1 x.2.1 x.2.2 = false ∧
        (∀ k, k < n → ∀ y, l[k]? = some y → admits isA y.1 y.2.1 y.2.2 = true ∧ (storeSeq isA 0 l).2[k]? = some (some y.2.2)) ∧
        (∀ k, n ≤ k → k < l.length → (storeSeq isA 0 l).2[k]? = some none)) := by
  obtain ⟨pre, rest, rfl, hpre, rfl | ⟨x, post, rfl, hx⟩⟩ :=
    fine_prefix (fun x : BKind × Ty × ValKind => admits isA x.1 x.2.1 x.2.2 = true) l
  · rw [List.append_nil, storeSeq_of_all hpre]
    exact ⟨iff_of_true rfl hpre, fun n hn => nomatch hn⟩
  · rw [storeSeq_of_split hpre hx, Nat.zero_add]
    refine ⟨iff_of_false (fun h => nomatch h) fun h => hx (h x (by simp)), ?_⟩
    rintro n ⟨⟩
    obtain ⟨hat, hbefore⟩ := fine_prefix_getElem? x post hpre
    refine ⟨x, hat, by simpa using hx, fun k hk y hy => ⟨hbefore k hk y hy, ?_⟩, fun k hk hlen => ?_⟩
    · rw [List.getElem?_append_left hk] at hy
      rw [List.getElem?_append_left (by rwa [List.length_map]), List.getElem?_map, hy]
      rfl
    · rw [List.getElem?_append_right (by rwa [List.length_map]), List.length_map, List.getElem?_replicate,
        if_pos (by simp at hlen; omega)]

/-- Whatever the sequence and wherever it stops: a slot behind an exact boundary
holds afterwards nothing but a value its declared type denotes. -/
theorem C07_store_sequence_typed (H : Hier) (isA : Name → Name → Bool) (hi : ∀ c n, isA c n = true ↔ IsA H c n)
    (l : List (BKind × Ty × ValKind)) (hk : ∀ x ∈ l, x.1 = .exact) (j : Nat) (w : ValKind)
    (h : (storeSeq isA 0 l).2[j]? = some (some w)) : ∃ x, l[j]? = some x ∧ denote H x.2.1 w := by
  obtain ⟨x, hx, _, hxa⟩ := storeSeq_holds isA l 0 j w h
  have hm : x ∈ l := List.mem_of_getElem? hx
  rw [hk x hm] at hxa
  exact ⟨x, hx, (C07_boundary_exact H isA hi x.2.1 w).mp hxa⟩

example : storeSeq (fun _ _ => false) 0 [(.exact, .int, .int), (.exact, .str, .int), (.exact, .arr, .arr)]
    = (some 1, [some .int, none, none]) := by decide

/-- Several member accesses in one argument list / array literal / operator
expression / statement sequence: it is evaluated to the end iff every access is allowed. -/
theorem C07_expression_allowed_iff_all (T : Table) (H : Hier) (steps : List Step) (σ : Store) :
    (evalArgs T H 0 σ steps).1 = none ↔ ∀ st ∈ steps, verdict T H st = .allowed := by
  obtain ⟨pre, rest, rfl, hpre, rfl | ⟨x, post, rfl, hx⟩⟩ := fine_prefix (fun st => verdict T H st = .allowed) steps
  · rw [evalArgs_append T H pre 0 σ _ hpre, List.append_nil]
    exact iff_of_true rfl hpre
  · rw [evalArgs_append T H pre 0 σ _ hpre, evalArgs_cons, if_neg hx]
    exact iff_of_false (fun h => nomatch h) fun h => hx (h x (by simp))

/-- … otherwise it stops at the first access that is not allowed, and
the store holds the effects of the operands before it and nothing else (not of the refused one, not of those
after it; the callee, which comes after all of them, does not run). -/
theorem C07_expression_stops_at_first_refusal (T : Table) (H : Hier) (steps : List Step) (σ : Store) (n : Nat)
    (h : (evalArgs T H 0 σ steps).1 = some n) :
    ∃ st, steps[n]? = some st ∧ verdict T H st ≠ .allowed ∧
      (∀ k, k < n → ∀ u, steps[k]? = some u → verdict T H u = .allowed) ∧
      (evalArgs T H 0 σ steps).2 = (steps.take n).foldl (fun σ u => σ.after u.op) σ := by
  obtain ⟨pre, rest, rfl, hpre, rfl | ⟨x, post, rfl, hx⟩⟩ := fine_prefix (fun st => verdict T H st = .allowed) steps
  · rw [evalArgs_append T H pre 0 σ _ hpre] at h
    cases h
  · rw [evalArgs_append T H pre 0 σ _ hpre, evalArgs_cons, if_neg hx, Nat.zero_add] at h ⊢
    cases h
    obtain ⟨hat, hbefore⟩ := fine_prefix_getElem? x post hpre
    exact ⟨x, hat, hx, hbefore, by rw [List.take_left]⟩

example : (evalArgs pinned [⟨1, none, []⟩] 0 ⟨fun _ => 1, fun _ => 0⟩
    [⟨⟨.methCall, .other, .pub, none, none, 1, 1⟩, .call 1⟩,
     ⟨⟨.propRead, .other, .priv, none, none, 1, 1⟩, .read 9⟩,
     ⟨⟨.methCall, .other, .pub, none, none, 1, 1⟩, .call 3⟩]).1 = some 1 := by decide

/-! ## obligations on the regenerated tables (re-checked by `lake build` on every run) -/

/-- every arm of every access node is at least as strict as the known findings say -/
theorem C07_table_within_known : TableOK Generated.C07Access.table = true := by decide +kernel

/-- every typed boundary is at least as strict as the known findings say -/
theorem C07_boundaries_within_known : BoundariesOK Generated.C07Access.boundary = true := by decide

/-- For the table regenerated from the source on this run: on the `->`,
dynamic-name, `unset($o->p)`, `foreach`, `A::m()` arms (any site) and on `self::m()` / `static::m()` (in class
code) the decision is PHP's rule, whenever the chain walks terminate. -/
theorem C07_generated_exact_paths (H : Hier) (s : Site) (hd : NoDangling H)
    (hk : known s.path s.recv = .exact) (hc : s.path = .selfMeth ∨ s.path = .staticKwMeth → s.ctx.isSome)
    (hns : decide Generated.C07Access.table H s ≠ .stuck) :
    decide Generated.C07Access.table H s = .allowed ↔ allowed H s.m s.lex s.decl := by
  obtain ⟨nc, hT⟩ := TableOK_exact C07_table_within_known hk
  refine C07_lexical_exact _ H s hd nc hT ?_ hns
  intro hn
  subst hn
  by_cases h1 : s.path = .selfMeth ∨ s.path = .staticKwMeth
  · exact hc h1
  · -- on every other exact arm the regenerated check does not ask for a class context
    have := forall_arm (P := fun p r => !(known p r == .exact && Generated.C07Access.table p r == .lexical true true true)
      || (p == .selfMeth || p == .staticKwMeth)) (by decide +kernel) s.path s.recv
    simp only [hk, hT, beq_self_eq_true, Bool.and_self, Bool.not_true, Bool.false_or, Bool.or_eq_true, beq_iff_eq] at this
    exact absurd this h1

/-- For the boundary kinds regenerated on this run: wherever `exact` is what
is known (everything but `A::$p = v` and closure return types), the boundary admits exactly the denotation of the
declared type — `null` included. -/
theorem C07_generated_exact_boundaries (H : Hier) (isA : Name → Name → Bool) (hi : ∀ c n, isA c n = true ↔ IsA H c n)
    (b : Boundary) (hk : knownBoundary b = .exact) (t : Ty) (v : ValKind) :
    admits isA (Generated.C07Access.boundary b) t v = true ↔ denote H t v := by
  rw [BoundariesOK_exact C07_boundaries_within_known hk]
  exact C07_boundary_exact H isA hi t v

/-- every binding loop tests the result of binding a parameter before it binds the next one (regenerated from
`CallExpression.GetValue`, `createInstanceFromClassStmt`, `callMethodParams`, `handleFuncValue` on every run). The names
are an equation between literals (`rfl`: another list is not this one and the build stops here), the shapes a test. -/
theorem C07_bind_loops_each_checked :
    Generated.C07Access.bindLoops.map (·.1) = ["fn", "ctor", "method", "funcValue"] ∧
    Generated.C07Access.bindLoops.all (fun p => p.2 == .eachChecked) = true := ⟨rfl, by decide⟩

/-- For the loops and the boundary kinds regenerated on this run: a call through
any of the four loops, over parameters whose boundaries are known as exact, runs the body iff every parameter is
handed a value its declared type denotes. -/
theorem C07_generated_calls_exact (H : Hier) (isA : Name → Name → Bool) (hi : ∀ c n, isA c n = true ↔ IsA H c n)
    (loop : String × LoopShape) (hl : loop ∈ Generated.C07Access.bindLoops)
    (ps : List (Boundary × Ty × Arg)) (hk : ∀ p ∈ ps, knownBoundary p.1 = .exact) :
    bindArgs loop.2 isA (ps.map fun p => ⟨Generated.C07Access.boundary p.1, p.2.1, p.2.2⟩) = .ran ↔
      ∀ p ∈ ps, ∃ v, p.2.2 = .val v ∧ denote H p.2.1 v := by
  have hsh : loop.2 = .eachChecked := by
    have := List.all_eq_true.mp C07_bind_loops_each_checked.2 loop hl
    simpa using this
  rw [hsh, C07_call_exact H isA hi]
  · exact List.forall_mem_map
  · exact List.forall_mem_map.mpr fun p hp => BoundariesOK_exact C07_boundaries_within_known (hk p hp)

/-! ## named arguments: which parameter an argument reaches does not depend on how the call is written

`fixes/C07-7-named-arguments` put one function, `resolveNamedArguments`, in front of the four binding loops
(`Model.ArgNames.resolve` mirrors it; `Generated.C07Access.namedFirst` and the text checks of the translator tie
it to the source on every run). The theorems above take the slots in parameter order; these say how a call as
WRITTEN — positional arguments, `name: expr` in any order, parameters left out — becomes such a list. -/
section NamedArguments
open Model.ArgNames Proofs.AccessNamed

/-- A call with positional and named arguments, through a loop that tests each
binding, runs the callee's body iff the names resolve and, parameter by parameter: an argument that reaches the
parameter is a value its boundary lets in (no argument throws); a parameter that no argument reaches has a default
value or a declared type that accepts `null`. Nothing else matters — not the order in which the arguments are
written, not the position of the parameter, not whether all arguments are evaluated before the first is bound. -/
theorem C07_named_call_admitted_iff (evalFirst : Bool) (isA : Name → Name → Bool) (params : List Param)
    (args : List CallArg) :
    callNamed .eachChecked evalFirst isA params args = .call .ran ↔
      ∃ out, resolve (params.map (·.name)) args = .ok out ∧
        ∀ i p, params[i]? = some p →
          match recv out i with
          | some (.val v) => admits isA p.k p.t v = true
          | some .throws => False
          | none => p.dflt.isSome = true ∨ admits isA p.k p.t .null = true := by
  unfold callNamed
  cases hr : resolve (params.map (·.name)) args with
  | error e => simp
  | ok out =>
    simp only [Outcome.call.injEq, Except.ok.injEq, exists_eq_left']
    have hran : (if evalFirst = true then bindEvalFirst .eachChecked isA (slotsFrom isA out 0 params)
        else bindArgs .eachChecked isA (slotsFrom isA out 0 params)) = .ran ↔
        bindArgs .eachChecked isA (slotsFrom isA out 0 params) = .ran := by
      cases evalFirst
      · exact Iff.rfl
      · exact bindEvalFirst_ran_iff isA (slotsFrom isA out 0 params)
    rw [hran, C07_call_accepted_iff_all, forall_mem_slotsFrom]
    simp only [Nat.zero_add, slotOf_fine]
    exact Iff.rfl

/-- With exact parameter boundaries (what `C07_boundaries_within_known` demands of every
parameter kind): a call as written runs the body iff the names resolve, every argument that reaches a parameter is
a value the parameter's declared type denotes, and every parameter that no argument reaches has a default value or
a declared type that denotes `null`. -/
theorem C07_named_call_exact (H : Hier) (isA : Name → Name → Bool) (hi : ∀ c n, isA c n = true ↔ IsA H c n)
    (evalFirst : Bool) (params : List Param) (hk : ∀ p ∈ params, p.k = .exact) (args : List CallArg) :
    callNamed .eachChecked evalFirst isA params args = .call .ran ↔
      ∃ out, resolve (params.map (·.name)) args = .ok out ∧
        ∀ i p, params[i]? = some p →
          match recv out i with
          | some (.val v) => denote H p.t v
          | some .throws => False
          | none => p.dflt.isSome = true ∨ denote H p.t .null := by
  rw [C07_named_call_admitted_iff]
  refine exists_congr fun out => and_congr_right fun _ => forall₂_congr fun i p => imp_congr_right fun hp => ?_
  rw [hk p (List.mem_of_getElem? hp)]
  cases recv out i with
  | none => exact or_congr_right (C07_boundary_exact H isA hi p.t .null)
  | some a =>
    cases a with
    | val v => exact C07_boundary_exact H isA hi p.t v
    | throws => exact Iff.rfl

/-- Write the named arguments of a call in any order (after whatever comes before
them): either every order is refused before anything is bound, or every order yields the same outcome — the same
parameters receive the same arguments, the same slot is reported, the body runs or it does not. For every
parameter list, every loop shape, every number of arguments. -/
theorem C07_named_order_irrelevant (sh : LoopShape) (evalFirst : Bool) (isA : Name → Name → Bool)
    (params : List Param) (pre : List CallArg) (l₁ l₂ : List (PName × ArgV)) (hp : l₁.Perm l₂) :
    (∃ e₁ e₂, callNamed sh evalFirst isA params (pre ++ mkNamed l₁) = .unresolved e₁ ∧
        callNamed sh evalFirst isA params (pre ++ mkNamed l₂) = .unresolved e₂) ∨
    (∃ o, callNamed sh evalFirst isA params (pre ++ mkNamed l₁) = .call o ∧
        callNamed sh evalFirst isA params (pre ++ mkNamed l₂) = .call o) := by
  unfold callNamed resolve
  rw [resolveFrom_append, resolveFrom_append]
  cases hpre : resolveFrom (params.map (·.name)) [] pre with
  | error e => exact .inl ⟨e, e, rfl, rfl⟩
  | ok o =>
    simp only
    cases h₁ : resolveFrom (params.map (·.name)) o (mkNamed l₁) with
    | ok r₁ =>
      obtain ⟨r₂, h₂, hs⟩ := resolveFrom_perm_ok _ hp h₁
      rw [h₂]
      simp only
      rw [slotsFrom_congr isA r₁ r₂ hs params 0]
      exact .inr ⟨_, rfl, rfl⟩
    | error e₁ =>
      cases h₂ : resolveFrom (params.map (·.name)) o (mkNamed l₂) with
      | error e₂ => exact .inl ⟨e₁, e₂, rfl, rfl⟩
      | ok r₂ =>
        -- accepted in the second order, the arguments are accepted in the first
        obtain ⟨_, h, _⟩ := resolveFrom_perm_ok _ hp.symm h₂
        cases h₁.symm.trans h

/-- A call is refused before anything is evaluated or bound when an
argument names no parameter, names a parameter that a positional argument has filled, or names a parameter that an
earlier named argument has filled — wherever that argument stands; and resolving never indexes out of range. -/
theorem C07_named_unknown_or_repeated_refused (sh : LoopShape) (evalFirst : Bool) (isA : Name → Name → Bool)
    (params : List Param) :
    (∀ args n a, CallArg.named n a ∈ args → indexOf n (params.map (·.name)) = none →
        ∃ e, callNamed sh evalFirst isA params args = .unresolved e) ∧
    (∀ (l : List ArgV) rest n a idx, CallArg.named n a ∈ rest → indexOf n (params.map (·.name)) = some idx →
        idx < l.length → ∃ e, callNamed sh evalFirst isA params (l.map .pos ++ rest) = .unresolved e) ∧
    (∀ pre rest n a n' b idx, indexOf n (params.map (·.name)) = some idx →
        indexOf n' (params.map (·.name)) = some idx → CallArg.named n' b ∈ rest →
        ∃ e, callNamed sh evalFirst isA params (pre ++ CallArg.named n a :: rest) = .unresolved e) ∧
    (∀ args, callNamed sh evalFirst isA params args ≠ .unresolved .crash) := by
  refine ⟨?_, ?_, ?_, ?_⟩
  · intro args n a hm hi
    exact (resolveFrom_refused _ args [] hm fun idx h => nomatch hi.symm.trans h).imp fun _ => callNamed_unresolved
  · intro l rest n a idx hm hi hlt
    -- `[] ++`: the form `resolveFrom_positional` leaves
    refine (resolveFrom_refused (params.map (·.name)) rest ([] ++ l.map some) hm fun j hj => ?_).imp fun e he =>
      callNamed_unresolved (by rw [resolve, resolveFrom_append, resolveFrom_positional]; exact he)
    cases hi.symm.trans hj
    rw [List.nil_append, recv_positional, List.getElem?_eq_getElem hlt]
    exact fun h => nomatch h
  · intro pre rest n a n' b idx hi hi' hm
    suffices ∃ e, resolve (params.map (·.name)) (pre ++ .named n a :: rest) = .error e from
      this.imp fun _ => callNamed_unresolved
    rw [resolve, resolveFrom_append]
    cases resolveFrom (params.map (·.name)) [] pre with
    | error e => exact ⟨e, rfl⟩
    | ok o =>
      simp only []
      rw [resolveFrom_cons, place_named_eq, hi]
      simp only []
      by_cases hfree : recv o idx = none
      · rw [if_pos hfree]
        refine resolveFrom_refused _ rest (placed o idx a) hm fun j hj => ?_
        cases hi'.symm.trans hj
        rw [recv_placed, if_pos rfl]
        exact fun h => nomatch h
      · rw [if_neg hfree]
        exact ⟨_, rfl⟩
  · intro args h
    cases hr : resolve (params.map (·.name)) args with
    | error e =>
      rw [callNamed_unresolved hr] at h
      cases h
      exact resolveFrom_no_crash _ _ _ hr
    | ok o => simp [callNamed, hr] at h

/-- A call without names: the `i`-th parameter receives the `i`-th argument
(`resolveNamedArguments` hands the list back untouched), so `callNamed` is the binding loop of the theorems above. -/
theorem C07_positional_call_unchanged (params : List Param) (l : List ArgV) :
    resolve (params.map (·.name)) (l.map .pos) = .ok (l.map some) ∧ ∀ i, recv (l.map some) i = l[i]? := by
  refine ⟨?_, recv_positional l⟩
  have := resolveFrom_positional (params.map (·.name)) l []
  simpa [resolve] using this

/-- every binding loop resolves the named arguments before it binds (regenerated from the four functions on every
run: `x, err := resolveNamedArguments(params, args)` followed by the test of `err`, before the loop). An equation between
literals: a regenerated list that differs is not this one, and the build stops here. -/
theorem C07_named_resolved_before_binding :
    Generated.C07Access.namedFirst = [("fn", true), ("ctor", true), ("method", true), ("funcValue", true)] := rfl

-- `f(1, c: [5])` for `f(int $a, string $b = "d", array $c = [])`: `$b` takes its default, the body runs
example : callNamed .eachChecked false (fun _ _ => false)
    [⟨0, .exact, .int, none⟩, ⟨1, .exact, .str, some .str⟩, ⟨2, .exact, .arr, some .arr⟩]
    [.pos (.val .int), .named 2 (.val .arr)] = .call .ran := by decide +kernel
-- `$o->m(b: "s", a: 1)` for `m(int $a, string $b)`: accepted; `m(b: 1, a: "s")`: parameter 0 is reported
example : callNamed .eachChecked true (fun _ _ => false) [⟨0, .exact, .int, none⟩, ⟨1, .exact, .str, none⟩]
    [.named 1 (.val .str), .named 0 (.val .int)] = .call .ran := by decide +kernel
example : callNamed .eachChecked true (fun _ _ => false) [⟨0, .exact, .int, none⟩, ⟨1, .exact, .str, none⟩]
    [.named 1 (.val .int), .named 0 (.val .str)] = .call (.rejected 0) := by decide +kernel
-- `f(1)` for `f(int $a, array $c)`: refused (缺少参数); for `f(int $a, ?array $c)`: `$c` stays null
example : callNamed .eachChecked false (fun _ _ => false) [⟨0, .exact, .int, none⟩, ⟨1, .exact, .arr, none⟩]
    [.pos (.val .int)] = .call (.rejected 1) := by decide +kernel
example : callNamed .eachChecked false (fun _ _ => false) [⟨0, .exact, .int, none⟩, ⟨1, .exact, .nullable .arr, none⟩]
    [.pos (.val .int)] = .call .ran := by decide
-- `f(1, a: 2)`: the parameter is filled already; `f(zz: 1)`: no such parameter
example : callNamed .eachChecked false (fun _ _ => false) [⟨0, .exact, .int, none⟩]
    [.pos (.val .int), .named 0 (.val .int)] = .unresolved (.duplicate 0) := by decide
example : callNamed .eachChecked false (fun _ _ => false) [⟨0, .exact, .int, none⟩]
    [.named 7 (.val .int)] = .unresolved (.unknown 7) := by decide

end NamedArguments

/-! ## Which modifier a member carries: the keywords in front of its declaration

Everything above is about the modifier a member CARRIES. Which one it carries is decided by the parser from the
keywords written in front of the declaration (`Model.DeclMods`): a sequence of keyword stages, each keyword branch
assigning some of the variables that are later handed to the node constructor. The stage lists and the assignments
of every branch are regenerated from the six places that read declaration keywords (`Generated.C07Decl.parsers`).
The theorems are about EVERY parser of that shape whose branches assign their own variable (`wf`), every list of
keywords of any length; the regenerated parsers are held to `wf` by `decide` below. -/
section DeclarationKeywords
open Model.DeclMods Spec.DeclMods Proofs.DeclMods

/-- Whatever spelling a well-formed parser accepts, the member carries
exactly what is written: the written visibility wherever it stands among the other keywords, the default only when
no visibility keyword occurs, and each flag iff its keyword occurs. -/
theorem C07_modifiers_resolved_as_written (p : Parser) (hw : wf p = true) (kws : List Kw) (m : Mods)
    (h : parse p kws = some m) : Resolved p.init kws m := by
  rw [parse_fold hw h]
  exact fold_resolved _ _

/-- Two accepted spellings of the same keywords (any permutation, at most one
visibility written) give the member the same modifiers. -/
theorem C07_modifier_order_irrelevant (p : Parser) (hw : wf p = true) (k1 k2 : List Kw) (m1 m2 : Mods)
    (hp : k1.Perm k2) (ho : VisOnce k1) (h1 : parse p k1 = some m1) (h2 : parse p k2 = some m2) : m1 = m2 :=
  resolved_unique (fun _ => hp.mem_iff) ho
    (C07_modifiers_resolved_as_written p hw k1 m1 h1) (C07_modifiers_resolved_as_written p hw k2 m2 h2)

/-- A written visibility is the one the member carries, whatever other
keywords stand before or after it. -/
theorem C07_explicit_visibility_preserved (p : Parser) (hw : wf p = true) (kws : List Kw) (m : Mods)
    (h : parse p kws = some m) (v : Mod) (hv : Kw.vis v ∈ kws) (ho : VisOnce kws) : m.vis = some v :=
  (C07_modifiers_resolved_as_written p hw kws m h).explicit v hv ho

/-- The parser's default (`public` for class members) is what the
member carries exactly when no visibility keyword is written: a carried visibility is either written, or nothing
is written and it is the default. -/
theorem C07_default_visibility_only_without_keyword (p : Parser) (hw : wf p = true) (kws : List Kw) (m : Mods)
    (h : parse p kws = some m) (ho : VisOnce kws) :
    ((∀ v, Kw.vis v ∉ kws) → m.vis = p.init.vis) ∧
    (∀ v, m.vis = some v → Kw.vis v ∈ kws ∨ ((∀ w, Kw.vis w ∉ kws) ∧ p.init.vis = some v)) := by
  have r := C07_modifiers_resolved_as_written p hw kws m h
  refine ⟨r.default, ?_⟩
  intro v hv
  by_cases hex : ∃ w, Kw.vis w ∈ kws
  · obtain ⟨w, hw'⟩ := hex
    have := r.explicit w hw' ho
    rw [hv] at this
    cases this
    exact .inl hw'
  · have hn : ∀ w, Kw.vis w ∉ kws := fun w hw' => hex ⟨w, hw'⟩
    refine .inr ⟨hn, ?_⟩
    rw [← r.default hn, hv]

theorem parse_loop (p : Parser) (bs : List Branch) (hs : p.stages = [⟨true, bs⟩])
    (hx : p.finalXorAbstract = false) (k : List Kw) :
    parse p k = if (runRep bs k p.init).2 = [] then some (runRep bs k p.init).1 else none := by
  unfold parse
  rw [hs, hx]
  simp [runStages, runStage]

/-- A parser that reads the keywords in ONE loop (the loop in front of a
constructor parameter) treats every permutation alike: all are refused, or all are accepted with the same modifiers. -/
theorem C07_keyword_loop_order_irrelevant (p : Parser) (hw : wf p = true) (bs : List Branch)
    (hs : p.stages = [⟨true, bs⟩]) (hx : p.finalXorAbstract = false) (k1 k2 : List Kw)
    (hp : k1.Perm k2) (ho : VisOnce k1) : parse p k1 = parse p k2 := by
  have hiff : (runRep bs k1 p.init).2 = [] ↔ (runRep bs k2 p.init).2 = [] := by
    rw [runRep_rest_nil, runRep_rest_nil]
    exact ⟨fun h k hk => h k (hp.mem_iff.mpr hk), fun h k hk => h k (hp.mem_iff.mp hk)⟩
  have a1 := parse_loop p bs hs hx k1
  have a2 := parse_loop p bs hs hx k2
  by_cases e1 : (runRep bs k1 p.init).2 = []
  · rw [if_pos e1] at a1
    rw [if_pos (hiff.mp e1)] at a2
    rw [a1, a2, C07_modifier_order_irrelevant p hw k1 k2 _ _ hp ho a1 a2]
  · rw [if_neg e1] at a1
    rw [if_neg (mt hiff.mpr e1)] at a2
    rw [a1, a2]

/-- End to end: a member written with visibility `v` among any other
keywords, in any order the parser accepts, is usable through an access path that applies the lexical rule exactly
from the code PHP's rule allows for `v` — the composition of the declaration parser and `C07_lexical_exact`. -/
theorem C07_written_visibility_enforced (p : Parser) (hw : wf p = true) (kws : List Kw) (m : Mods)
    (h : parse p kws = some m) (v : Mod) (hv : Kw.vis v ∈ kws) (ho : VisOnce kws)
    (T : Table) (H : Hier) (s : Site) (hd : NoDangling H) (nc : Bool)
    (hm : m.vis = some s.m)
    (hT : T s.path s.recv = .lexical true true nc) (hc : nc = true → s.ctx.isSome)
    (hns : Model.Access.decide T H s ≠ .stuck) :
    Model.Access.decide T H s = .allowed ↔ allowed H v s.lex s.decl := by
  have e := C07_explicit_visibility_preserved p hw kws m h v hv ho
  rw [hm] at e
  cases e
  exact C07_lexical_exact T H s hd nc hT hc hns

/-- The parameter loop of the change
`C07-promoted-readonly-public-override` (the `readonly` branch also assigns `paramModifier = "public"`):
`private readonly int $a` is promoted to a PUBLIC property, `readonly private int $a` to a private one — the written
visibility is not preserved and the order of the keywords matters. The harness replays it as
`leak:propRead:priv:outside` on a member spelled `private readonly`. -/
theorem C07_foreign_visibility_assignment_counterexample :
    parse seededParam [.vis .priv, .flag .readonly] = some ⟨some .pub, false, true, false, false, false⟩ ∧
    parse seededParam [.flag .readonly, .vis .priv] = some ⟨some .priv, false, true, false, false, false⟩ ∧
    wf seededParam = false ∧
    ¬ (∀ k1 k2 m1 m2, k1.Perm k2 → VisOnce k1 → parse seededParam k1 = some m1 →
        parse seededParam k2 = some m2 → m1 = m2) := by
  refine ⟨by decide, by decide, by decide, ?_⟩
  intro hall
  have hp : [Kw.vis .priv, Kw.flag .readonly].Perm [Kw.flag .readonly, Kw.vis .priv] := List.Perm.swap _ _ _
  have ho : VisOnce [Kw.vis .priv, Kw.flag .readonly] := by
    intro v w hv hw
    simp at hv hw
    rw [hv, hw]
  have := hall _ _ ⟨some .pub, false, true, false, false, false⟩ ⟨some .priv, false, true, false, false, false⟩
    hp ho (by decide) (by decide)
  exact absurd this (by decide)

/-- every keyword branch of the six regenerated parsers assigns its own variable and nothing else (a visibility
keyword the visibility it names, every other keyword its flag) -/
theorem C07_declaration_keywords_own_variable : Generated.C07Decl.parsers.all wf = true := by decide

/-- in particular no branch of a keyword that is not a visibility keyword assigns the visibility variable -/
theorem C07_no_keyword_assigns_foreign_visibility :
    (Generated.C07Decl.parsers.all fun p => p.stages.all fun st => st.branches.all fun b => !foreignVis b) = true := by
  decide

/-- the six parsers were read completely in the shapes the translator knows, the variables are not assigned
outside a keyword branch, and the member parsers hand the modifier to the node constructor unchanged (two equations between
literals: a regenerated list that differs is not this one, and the build stops here) -/
theorem C07_declaration_stages_recognised :
    Generated.C07Decl.recognised = [("param", true), ("class", true), ("anon", true), ("trait", true),
      ("enum", true), ("interface", true)] ∧
    Generated.C07Decl.passThrough = [("property", true), ("method", true), ("interfaceMethod", true)] := ⟨rfl, rfl⟩

/-- what a member carries when no visibility keyword is written: `public` in a class, an anonymous class, a trait
and an enum; a constructor parameter without a visibility keyword is not promoted; an interface member gets its
`public` in the member parser (`passThrough`); the defaults of the regenerated parsers reduce to this list, or the build
stops here -/
theorem C07_declaration_defaults :
    Generated.C07Decl.parsers.map (fun p => (p.name, p.init.vis)) =
      [("param", none), ("class", some .pub), ("anon", some .pub), ("trait", some .pub), ("enum", some .pub),
       ("interface", none)] := rfl

/-- For the parsers as regenerated on this run: whatever spelling is
accepted, the member carries what is written. -/
theorem C07_generated_modifiers_resolved (p : Parser) (hp : p ∈ Generated.C07Decl.parsers) (kws : List Kw)
    (m : Mods) (h : parse p kws = some m) : Resolved p.init kws m :=
  C07_modifiers_resolved_as_written p (List.all_eq_true.mp C07_declaration_keywords_own_variable p hp) kws m h

-- `final protected static function f()`: accepted, protected + static + final
example : parse pinnedClass [.flag .final, .vis .prot, .flag .static] = some ⟨some .prot, true, false, true, false, false⟩ := by decide +kernel
-- `protected final static …`: the same member
example : parse pinnedClass [.vis .prot, .flag .final, .flag .static] = some ⟨some .prot, true, false, true, false, false⟩ := by decide +kernel
-- `static private $x`: refused by the member loop (an over-refusal, not a leak)
example : parse pinnedClass [.flag .static, .vis .priv] = none := by decide +kernel
-- the parameter loop takes both orders and resolves them alike
example : parse pinnedParam [.vis .priv, .flag .readonly] = parse pinnedParam [.flag .readonly, .vis .priv] := by decide +kernel
example : wf pinnedParam = true ∧ wf pinnedClass = true := by decide +kernel
example : VisOnce [Kw.vis .priv, Kw.flag .readonly, Kw.vis .priv] := by
  intro v w hv hw
  simp at hv hw
  rw [hv, hw]

end DeclarationKeywords

/-! ## An access is decided on three classes — scope, receiver, declaring class — and on shadowing

`Site.decl` above is GIVEN; the nodes compute it: `canAccessDeclared` walks from the receiver's class to the first
class that declares the name, applies the rule, and falls back to the scope class's own same-named member when the
receiver's class inherits the scope class. `Model.AccessDecl` mirrors that function; which relation the fallback
tests is the regenerated fact `Generated.C07Access.fallbackRel`. -/
section Shadow
open Model.AccessDecl Spec.AccessDecl Proofs.AccessDecl

/-- For every hierarchy (any depth), every assignment of declarations of one member name
to classes (any subset, any modifiers PHP accepts), every scope (a class or none) and every receiver class: an
access through `->` as coded — lookup from the receiver's class, public shortcut, `canAccessDeclared` with the
directional fallback — is allowed exactly when PHP's rule allows it: the scope's own private member on an
instance of the scope class, otherwise the rule on (scope, class of the nearest declaration, its modifier). -/
theorem C07_declared_exact (H : Hier) (hd : NoDangling H) (ha : Acyclic H) (D : Decls) (hv : ValidOverride H D)
    (scope : Option Name) (r : Name)
    (hns : access H .recvExtendsScope D scope r ≠ .stuck) (hnm : access H .recvExtendsScope D scope r ≠ .nomember) :
    access H .recvExtendsScope D scope r = .allowed ↔ allowedOn H D scope r := by
  have h := access_spec hd ha hv scope r
  generalize access H .recvExtendsScope D scope r = a at h hns hnm
  cases a with
  | allowed => exact iff_of_true rfl h
  | denied => exact iff_of_false nofun h
  | stuck => exact absurd rfl hns
  | nomember => exact absurd rfl hnm

example : access shadowH .recvExtendsScope shadowD (some 1) 2 = .allowed ∧
    access shadowH .recvExtendsScope shadowD (some 2) 2 = .allowed ∧
    access shadowH .recvExtendsScope shadowD none 1 = .denied := by decide

/-- Code of a strict descendant `s` of the receiver's class never gets at a
member whose nearest declaration from the receiver is private — whether or not `s` declares the name too. -/
theorem C07_ancestor_private_refused (H : Hier) (hd : NoDangling H) (ha : Acyclic H) (D : Decls)
    (hv : ValidOverride H D) (s r d : Name) (hsr : Sub H s r) (hne : s ≠ r)
    (hn : Nearest H D r d) (hp : D d = some .priv) :
    access H .recvExtendsScope D (some s) r ≠ .allowed := by
  intro hacc
  have hal := access_spec hd ha hv (some s) r
  rw [hacc] at hal
  rcases (allowedOn_iff ha hn hp (some s)).mp hal with ⟨s', hs', hsub, _⟩ | hal'
  · cases hs'
    exact hne (ha _ _ hsr hsub)
  · cases (hal' : some s = some d)
    exact hne (ha _ _ hsr hn.1)

/-- (the seeded change `C07-fallback-hierarchy-symmetric`, replayed by
the shadowing stream as `shadow:leak:*:priv:descendant:shadowed`) With the symmetric relation in the fallback, code
of class 2 — which extends 1 and declares a public member of the name — uses the PRIVATE member of class 1 on an
object of class 1; the directional fallback refuses, and PHP's rule refuses. -/
theorem C07_symmetric_fallback_counterexample :
    access shadowH .symmetric shadowD (some 2) 1 = .allowed ∧
    access shadowH .recvExtendsScope shadowD (some 2) 1 = .denied ∧
    ¬ allowedOn shadowH shadowD (some 2) 1 := by
  refine ⟨by decide, by decide, ?_⟩
  rw [allowedOn_iff (acyclic_of_flat (by decide)) (nearest_self (r := 1) (by decide)) (m := .priv) (by decide)]
  rintro (⟨s, hs, hsub, _⟩ | h)
  · cases hs
    exact absurd (sub_of_root (by decide) hsub) (by decide)
  · cases (h : (some 2 : Option Name) = some 1)

/-- without the fallback clause the scope class's own private member is refused on an object of a subclass that
redeclares the name (the over-refusal the clause exists for; the stream reports it as `shadow:refused:*`) -/
example : access shadowH .absent (fun n => if n = 1 then some .priv else if n = 2 then some .priv else none) (some 1) 2 = .denied ∧
    access shadowH .recvExtendsScope (fun n => if n = 1 then some .priv else if n = 2 then some .priv else none) (some 1) 2 = .allowed := by
  decide

/-- Obligation on the regenerated fact: the last conjunct of `canAccessDeclared` is
`classExtends(vm, class, scope.GetName())` — the receiver's class inherits the scope class — and `classExtends` is
the one upward loop. -/
theorem C07_fallback_directional : Generated.C07Access.fallbackRel = .recvExtendsScope := by decide

/-- `C07_declared_exact` for the relation regenerated on this run. -/
theorem C07_generated_declared_exact (H : Hier) (hd : NoDangling H) (ha : Acyclic H) (D : Decls)
    (hv : ValidOverride H D) (scope : Option Name) (r : Name)
    (hns : access H Generated.C07Access.fallbackRel D scope r ≠ .stuck)
    (hnm : access H Generated.C07Access.fallbackRel D scope r ≠ .nomember) :
    access H Generated.C07Access.fallbackRel D scope r = .allowed ↔ allowedOn H D scope r := by
  rw [C07_fallback_directional] at hns hnm ⊢
  exact C07_declared_exact H hd ha D hv scope r hns hnm

/-! ### Which class a protected member is judged by; siblings under a common ancestor

`Hier` is a parent FUNCTION (`extOf`), so the theorems above already range over trees. The class handed to
`canAccessMember` need not be the class the walk stopped at (the seeded change `C07-protected-judged-by-root-declarer` hands
over another): `Model.AccessDecl.Judge` / `accessJ` make it a parameter, `Generated.C07Access.judgeRel` regenerates it. -/

/-- With the nearest declaration as the judged class (and the directional fallback)
the access as coded is PHP's rule `allowedOn`, for every hierarchy — trees included —, every assignment of
declarations PHP accepts, every scope and every receiver class. -/
theorem C07_judged_by_nearest_exact (H : Hier) (hd : NoDangling H) (ha : Acyclic H) (D : Decls) (hv : ValidOverride H D)
    (scope : Option Name) (r : Name)
    (hns : accessJ H .recvExtendsScope .nearest D scope r ≠ .stuck)
    (hnm : accessJ H .recvExtendsScope .nearest D scope r ≠ .nomember) :
    accessJ H .recvExtendsScope .nearest D scope r = .allowed ↔ allowedOn H D scope r := by
  rw [accessJ_nearest] at hns hnm ⊢
  exact C07_declared_exact H hd ha D hv scope r hns hnm

/-- In every hierarchy: code of a class `s` that is neither the class `d` whose
PROTECTED declaration the lookup from the receiver's class `r` finds, nor below it, nor above it — a sibling, a
cousin, an unrelated class — is refused, whatever other classes (a common ancestor included) declare under that
name. (`h3` follows from `h1` and `h2`: `r` inherits `d`, and the ancestors of a class form a chain, `Sub.linear`; the
proof uses it as stated.) -/
theorem C07_sibling_protected_refused (H : Hier) (hd : NoDangling H) (ha : Acyclic H) (D : Decls)
    (hv : ValidOverride H D) (s r d : Name) (hn : Nearest H D r d) (hp : D d = some .prot)
    (h1 : ¬ Sub H s d) (h2 : ¬ Sub H d s) (h3 : ¬ Sub H r s) :
    accessJ H .recvExtendsScope .nearest D (some s) r ≠ .allowed := by
  intro hacc
  rw [accessJ_nearest] at hacc
  have hal := access_spec hd ha hv (some s) r
  rw [hacc] at hal
  rcases (allowedOn_iff ha hn hp (some s)).mp hal with ⟨s', hs', hsub, _⟩ | ⟨c, hc, hrel⟩
  · cases hs'
    exact h3 hsub
  · cases hc
    exact hrel.elim h1 h2

/-- (the seeded change `C07-protected-judged-by-root-declarer`, replayed by
the shadowing stream on trees as `shadow:leak:*:prot:sibling`) Classes 2 and 3 extend 1; 3 declares the member
protected, 1 declares the name PRIVATE. Judged by the top-most declaring class, code of 2 uses the protected member
of 3 on an object of 3; judged by the nearest declaration it is refused, judged by PHP's method prototype (which a
private declaration never is) it is refused, and the specification refuses. -/
theorem C07_topmost_judge_counterexample :
    accessJ sibH .recvExtendsScope .topmost (sibD .priv) (some 2) 3 = .allowed ∧
    accessJ sibH .recvExtendsScope .nearest (sibD .priv) (some 2) 3 = .denied ∧
    accessJ sibH .recvExtendsScope .prototype (sibD .priv) (some 2) 3 = .denied ∧
    ¬ allowedOn sibH (sibD .priv) (some 2) 3 :=
  ⟨by decide, by decide, by decide, sib_not_allowedOn .priv⟩

/-- (known finding `shadow:refused:*:prot:sibling`) When the common ancestor's
declaration is PROTECTED, PHP judges an overriding protected METHOD by the class of its prototype — code of the
sibling 2 may call it —, while the nearest-declaration rule origami applies refuses: an over-refusal, never a leak
(`C07_judged_by_nearest_exact` + `C07_sibling_protected_refused`). Both other judges agree there. -/
theorem C07_prototype_judge_witness :
    accessJ sibH .recvExtendsScope .prototype (sibD .prot) (some 2) 3 = .allowed ∧
    accessJ sibH .recvExtendsScope .topmost (sibD .prot) (some 2) 3 = .allowed ∧
    accessJ sibH .recvExtendsScope .nearest (sibD .prot) (some 2) 3 = .denied := by decide

/-- Obligation on the regenerated fact: `canAccessDeclared` hands the class its
walk stopped at to `canAccessMember` (no statement between the walk and the test). -/
theorem C07_protected_judged_by_nearest : Generated.C07Access.judgeRel = .nearest := by decide

/-- `C07_judged_by_nearest_exact` for the two facts regenerated on this run. -/
theorem C07_generated_judged_exact (H : Hier) (hd : NoDangling H) (ha : Acyclic H) (D : Decls)
    (hv : ValidOverride H D) (scope : Option Name) (r : Name)
    (hns : accessJ H Generated.C07Access.fallbackRel Generated.C07Access.judgeRel D scope r ≠ .stuck)
    (hnm : accessJ H Generated.C07Access.fallbackRel Generated.C07Access.judgeRel D scope r ≠ .nomember) :
    accessJ H Generated.C07Access.fallbackRel Generated.C07Access.judgeRel D scope r = .allowed ↔ allowedOn H D scope r := by
  rw [C07_fallback_directional, C07_protected_judged_by_nearest] at hns hnm ⊢
  exact C07_judged_by_nearest_exact H hd ha D hv scope r hns hnm

/-! ### Entry paths — the scope class is per-call state every way into a body has to establish -/
section EntryPaths
open Model.ScopeEntry

/-- class 2 extends 1 and alone declares the member, private -/
def subPrivD : Decls := fun n => if n = 2 then some .priv else none
/-- class 1 alone declares the member, private; 2 extends 1 -/
def ownPrivD : Decls := fun n => if n = 1 then some .priv else none

theorem shadowH_sub_21 : Sub shadowH 2 1 := .step (p := 1) (by decide) (.refl 1)

/-- Code entered through a path that records the class of the code is judged by PHP's
rule on the class where it is WRITTEN — whatever the runtime class of `$this`, for every hierarchy, every valid
assignment of declarations and every receiver. -/
theorem C07_callable_kind_exact (H : Hier) (hd : NoDangling H) (ha : Acyclic H) (D : Decls) (hv : ValidOverride H D)
    (e : Entry) (he : e.records = true) (lex rt r : Name)
    (hns : accessVia H .recvExtendsScope .nearest D e lex rt r ≠ .stuck)
    (hnm : accessVia H .recvExtendsScope .nearest D e lex rt r ≠ .nomember) :
    accessVia H .recvExtendsScope .nearest D e lex rt r = .allowed ↔ allowedOn H D (some lex) r := by
  have hs : scopeOf e lex rt = lex := by simp [scopeOf, he]
  unfold accessVia at hns hnm ⊢
  rw [hs] at hns hnm ⊢
  exact C07_judged_by_nearest_exact H hd ha D hv (some lex) r hns hnm

/-- When every entry path records the class of the code, the decision does not
depend on the path the code was entered through (ordinary call, generator, closure called later …), nor on the
runtime class of `$this`. -/
theorem C07_callable_kind_independent (es : List Entry) (h : ∀ e ∈ es, e.records = true)
    (H : Hier) (fb : Fallback) (j : Judge) (D : Decls) (e₁ e₂ : Entry) (h1 : e₁ ∈ es) (h2 : e₂ ∈ es)
    (lex rt₁ rt₂ r : Name) :
    accessVia H fb j D e₁ lex rt₁ r = accessVia H fb j D e₂ lex rt₂ r := by
  simp [accessVia, scopeOf, h e₁ h1, h e₂ h2]

/-- … and only then: the decisions of all paths coincide with the decision on
the lexical class, for all hierarchies, declarations and receivers with the runtime class below the lexical class,
IFF every path of the list records the class before the body runs. (⇐ fails on the two-class hierarchy where the
subclass alone declares the member private.) -/
theorem C07_callable_kind_independent_iff (es : List Entry) :
    (∀ e ∈ es, e.records = true) ↔
    (∀ e ∈ es, ∀ (H : Hier) (D : Decls) (lex rt r : Name), Sub H rt lex →
      accessVia H .recvExtendsScope .nearest D e lex rt r = accessJ H .recvExtendsScope .nearest D (some lex) r) := by
  constructor
  · intro h e he H D lex rt r _
    simp [accessVia, scopeOf, h e he]
  · intro h e he
    cases hr : e.records with
    | true => rfl
    | false =>
      have := h e he shadowH subPrivD 1 2 2 shadowH_sub_21
      simp [accessVia, scopeOf, hr] at this
      exact absurd this (by decide)

/-- (the seeded change `C07-generator-method-scope-unset`, replayed by the
shadowing stream as `shadow:kind-dependent:*/gen` + `shadow:leak:*/this/gen:priv:ancestor`) A generator method of
class 1 running on an object of class 2 ⊂ 1 through a path that does not record the class: it READS the private
member only class 2 declares (PHP refuses, the recording path refuses), and it is REFUSED the private member of
its own class 1 (PHP allows, the recording path allows). The seeded list of paths is not all-recording. -/
theorem C07_unrecorded_entry_counterexample :
    accessVia shadowH .recvExtendsScope .nearest subPrivD ⟨"generator", false⟩ 1 2 2 = .allowed ∧
    accessVia shadowH .recvExtendsScope .nearest subPrivD ⟨"generator", true⟩ 1 2 2 = .denied ∧
    ¬ allowedOn shadowH subPrivD (some 1) 2 ∧
    accessVia shadowH .recvExtendsScope .nearest ownPrivD ⟨"generator", false⟩ 1 2 2 = .denied ∧
    accessVia shadowH .recvExtendsScope .nearest ownPrivD ⟨"generator", true⟩ 1 2 2 = .allowed ∧
    allowedOn shadowH ownPrivD (some 1) 2 ∧
    ¬ (∀ e ∈ Model.ScopeEntry.seeded, e.records = true) ∧
    (∀ e ∈ Model.ScopeEntry.pinned, e.records = true) := by
  refine ⟨by decide, by decide, ?_, by decide, by decide, ?_, by decide, by decide⟩
  · rw [allowedOn_iff (acyclic_of_flat (by decide)) (nearest_self (r := 2) (by decide)) (m := .priv) (by decide)]
    rintro (⟨s, hs, _, hp⟩ | h)
    · cases hs
      exact absurd hp (by decide)
    · cases (h : (some 1 : Option Name) = some 2)
  · exact Or.inl ⟨1, rfl, shadowH_sub_21, by decide⟩

/-- Obligation on the regenerated fact: every exit of `ClassMethod.Call`
(generator branch, depth-limit error, body loop) lies behind the statement that records the class of the code, and
the closure / function-in-method paths inherit it; the paths the harness drives are all listed. -/
theorem C07_every_entry_path_records_scope :
    (Generated.C07Access.entryPaths.all fun e => e.records) = true ∧
    (["generator", "body", "closure", "functionInMethod"].all fun n =>
      Generated.C07Access.entryPaths.any fun e => e.name == n) = true := by decide +kernel

/-- `C07_callable_kind_exact` for the facts regenerated on this run: code
entered through ANY path the translator found in the source is judged by PHP's rule on its lexical class. -/
theorem C07_generated_callable_kind_exact (H : Hier) (hd : NoDangling H) (ha : Acyclic H) (D : Decls)
    (hv : ValidOverride H D) (e : Entry) (he : e ∈ Generated.C07Access.entryPaths) (lex rt r : Name)
    (hns : accessVia H Generated.C07Access.fallbackRel Generated.C07Access.judgeRel D e lex rt r ≠ .stuck)
    (hnm : accessVia H Generated.C07Access.fallbackRel Generated.C07Access.judgeRel D e lex rt r ≠ .nomember) :
    accessVia H Generated.C07Access.fallbackRel Generated.C07Access.judgeRel D e lex rt r = .allowed ↔
      allowedOn H D (some lex) r := by
  rw [C07_fallback_directional, C07_protected_judged_by_nearest] at hns hnm ⊢
  exact C07_callable_kind_exact H hd ha D hv e (List.all_eq_true.mp C07_every_entry_path_records_scope.1 e he) lex rt r hns hnm

end EntryPaths

end Shadow

/-- The known tables shrank: no arm and no boundary is known worse than before the
second round of repairs, 23 of the 38 arms and 9 of the 14 boundaries are known strictly better. -/
theorem C07_known_tightened :
    (Path.all.all fun p => [Recv.this, Recv.other].all fun r =>
        (known p r).rank ≤ (knownBefore p r).rank) = true ∧
    ((Path.all.flatMap fun p => [Recv.this, Recv.other].filter fun r =>
        (known p r).rank < (knownBefore p r).rank).length) = 23 ∧
    (Boundary.all.all fun b => BKind.rank (knownBoundary b) ≤ BKind.rank (knownBoundaryBefore b)) = true ∧
    (Boundary.all.filter fun b => BKind.rank (knownBoundary b) < BKind.rank (knownBoundaryBefore b)).length = 9 := by
  decide +kernel

/-- `new` runs the abstract test and the completeness validation on every call (what `Model.Inst.newRun` and
the two theorems above about sequences of `new` presume about the glue) -/
theorem C07_inst_glue_every_call : Generated.C07Access.instGlue = ⟨true, true⟩ := by decide

/-- the translator recognised every shape, and no enforcement call sits inside a function literal -/
theorem C07_no_shape_change : Generated.C07Access.shapeNotes = [] := by decide

end C07
