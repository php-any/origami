import Proofs.Lemmas.HierIs
import Proofs.Lemmas.HierDispatch
import Proofs.Lemmas.HierShapeR
import Proofs.Lemmas.HierShapeD
import Generated.C08Walks
/-!
# C08 — instanceof, type hints, catch and dispatch follow the declared class hierarchy

`Model.Hier` mirrors the Go walks (queue loop with visited set, extends-chain loops with
fuel, the recursive `checkInterfaceIs`, the four method lookups, the `ClassMethodContext` fields); `Spec.Hier`
states what a user relies on (`IsA`, `MostDerived`, `LikeSpec`) on the declared hierarchy alone. All theorems
hold for **every** finite graph — any number of classes, interfaces, edges.

Fuel: `Walk.fuel` / `R.fuel` / `none` are explicit outcomes of the model; every theorem below that says the model
*equals* the specification therefore also says the fuel computed from the graph (`classFuel`, `bfsFuel`,
`depthFuel`) was sufficient. The counting lemmas are `Proofs.Hier.walkUp_no_fuel`,
`Proofs.HierShape.runW_fuel` (`Proofs.Hier.bfs_fuel` is its instance for the model's own loop), `Proofs.Hier.dfs_no_fuel`.
-/
namespace C08
open Model.Hier Spec.Hier Proofs.Hier

/-- **`interfaceExtends` (BFS with visited set) = reachability, on every graph** — cyclic interface graphs and
undeclared names included; no hypothesis. -/
theorem C08_interfaceExtends_iff_reach (G : Graph) (s t : Name) :
    ∃ b, interfaceExtends G s t = some b ∧ (b = true ↔ IReach G s t) :=
  interfaceExtends_spec G s t

/-- **The extends-chain loop never runs out of fuel on an acyclic class graph** (counting lemma: a chain without
a repeated class has at most `|classes|` declared members), whatever is done at each class, provided the visit
itself does not run out (`hv`: `walkUp` passes a visit's `none` on as `.fuel`). -/
theorem C08_chain_fuel_sufficient {α : Type} (G : Graph) (hac : Acyclic G) (visit : Cls → Option (Option α))
    (hv : ∀ c, visit c ≠ none) (ext : Option Name) : walkUp G visit (classFuel G) ext ≠ .fuel :=
  walkUp_no_fuel G hac.1 visit hv ext

/-- **instanceof ⇔ reachability.** On an acyclic hierarchy each of the four implementations — the `instanceof`
operator (`checkClassIs`), a typed parameter receiving an object (`isClassValueInstanceOf`), a typed parameter
receiving `$this` (`Class.Is` arm `*ThisValue`), and `catch (T)` (`catchTypeMatches`) — answers, and answers
`yes` exactly when `t` is the class, an ancestor, or an interface reachable through implements/extends edges,
given its `KindOK`: `WF G` and `c` declared for the operator, `ThrowableOK` for `catch`, nothing for the two hints. -/
theorem C08_instanceof_iff_reach (G : Graph) (hac : Acyclic G) (k : Kind) (c : Cls) (t : Name) (hok : KindOK G c k) :
    (isInstanceOf G k c t = .yes ↔ IsA G c t) ∧ (isInstanceOf G k c t = .no ↔ ¬ IsA G c t) :=
  decides_iffs (decides_of_kind G hac k c t hok)

/-- The type-hint paths need only the *class* part of acyclicity: their interface walk has a visited set. -/
theorem C08_typehint_iff_reach (G : Graph) (hn : NoCycle (csucc G)) (c : Cls) (t : Name) :
    (isClassValue G t c = .yes ↔ IsA G c t) ∧ (isClassValue G t c = .no ↔ ¬ IsA G c t) ∧
    (isThisValue G t c = .yes ↔ IsA G c t) ∧ (isThisValue G t c = .no ↔ ¬ IsA G c t) :=
  have a := decides_iffs (isClassValue_spec G hn t c)
  have b := decides_iffs (isThisValue_spec G hn t c)
  ⟨a.1, a.2, b.1, b.2⟩

/-- **The paths agree**: `instanceof`, a T-typed parameter (object or `$this`) and `catch (T)` decide identically —
three source constructs, four implementations (the four `Kind`s). -/
theorem C08_three_paths_agree (G : Graph) (hac : Acyclic G) (hwf : WF G) (c : Cls) (hc : Declared G c)
    (hthr : ThrowableOK G c) (t : Name) (k₁ k₂ : Kind) :
    isInstanceOf G k₁ c t = isInstanceOf G k₂ c t := by
  have ok : ∀ k, KindOK G c k := by
    intro k; cases k
    · exact ⟨hwf, hc⟩
    · trivial
    · trivial
    · exact hthr
  have d := fun k => decides_of_kind G hac k c t (ok k)
  by_cases hi : IsA G c t
  · rw [decides_yes (d k₁) hi, decides_yes (d k₂) hi]
  · rw [decides_no (d k₁) hi, decides_no (d k₂) hi]

/-- **`$o->m()` runs the most-derived definition**: the lookup finds instance method `x` in class `d` exactly
when `d` is the nearest class at or above the object's class that declares `m`. -/
theorem C08_dispatch_most_derived (G : Graph) (hac : Acyclic G) (c d : Cls) (m : Name) (x : Meth) :
    getMethod G c m = .found (false, d, x) ↔ MostDerived G (declInst m) c d x := by
  refine Iff.trans ?_ (lookupFrom_iff G hac.1 (·.meths) c d m x)
  -- what is left is the case analysis `getMethod` makes on its instance lookup
  unfold getMethod
  cases lookupFrom G (·.meths) c m with
  | absent => simp only [reduceCtorEq, iff_false]; split <;> nofun
  | found r => cases r; simp
  | _ => simp

/-- If no class on the chain declares an instance method `m`, `$o->m()` falls back to the most-derived *static*
method `m`; if there is none either, the call fails. -/
theorem C08_dispatch_static_fallback (G : Graph) (hac : Acyclic G) (hwf : WF G) (c : Cls) (hc : Declared G c)
    (m : Name) :
    (∀ d x, getMethod G c m = .found (true, d, x) ↔
        NoneDeclares G (declInst m) c ∧ MostDerived G (declStat m) c d x) ∧
    (getMethod G c m = .absent ↔ NoneDeclares G (declInst m) c ∧ NoneDeclares G (declStat m) c) := by
  have hi : Finds G (declInst m) c _ := lookupFrom_finds G hac.1 (·.meths) c m
  have hs : Finds G (declStat m) c _ := lookupFrom_finds G hac.1 (·.smeths) c m
  have nmi := lookupFrom_no_missing G hwf (·.meths) c hc m
  have nms := lookupFrom_no_missing G hwf (·.smeths) c hc m
  -- the specification, read as equations on the two lookups
  simp only [← (finds_iffs hi).2, ← (finds_iffs hs).2, ← (finds_iffs hs).1]
  unfold getMethod
  cases hl : lookupFrom G (·.meths) c m with
  | missing n => exact absurd hl (nmi n)
  | absent =>
    cases hl2 : lookupFrom G (·.smeths) c m with
    | missing n => exact absurd hl2 (nms n)
    | found r => cases r; simp
    | _ => simp
  | found r => cases r; simp
  | fuel => simp

/-- **`parent::m()` runs the nearest ancestor's definition**: with `k` the class the call is resolved against
(the class the code was written in — see `C08_parent_base`), the call finds method `x` (instance or static) in
class `a` exactly when `a` is the nearest class at or above `k`'s parent that declares `m`. -/
theorem C08_parent_nearest (G : Graph) (hac : Acyclic G) (ctx : Ctx) (cur : Name) (k p a : Cls)
    (hbase : parentBase G ctx cur = k) (hext : k.ext = some p.name) (hp : Declared G p)
    (m : Name) (b : Bool) (x : Meth) :
    parentCall G ctx cur m = .found (a, b, x) ↔ MostDerived G (declAny m) p a (b, x) := by
  unfold parentCall
  rw [hbase, hext, visitBoth_eq]
  exact (finds_iffs (walkTag_finds_at G hac.1 (declAny m) p hp)).1 a (b, x)

/-- The class `parent::` is resolved against is the class the code was written in: in a body entered by
`$o->m()` it is the class the running method was found in (recorded in `SelfClass` on entry), in a body
entered through `parent::` likewise — never the runtime class of the object, whatever the parser recorded.
The second conjunct: a context without `SelfClass` (`Ctx.ofObject`) falls back to the class the parser recorded,
provided that class is registered and has a parent; `hk` and `hext` serve only this conjunct. -/
theorem C08_parent_base (G : Graph) (d k : Cls) (hk : Declared G k) (hext : k.ext.isSome = true) (ctx : Ctx) (f : Cls)
    (cur : Name) :
    parentBase G (Ctx.ofMethod d k) cur = k ∧ parentBase G (Ctx.ofObject d) k.name = k ∧
      parentBase G (ctx.afterParent f) cur = f := by
  refine ⟨rfl, ?_, rfl⟩
  unfold parentBase Ctx.ofObject Declared at *
  simp only
  rw [hk]; simp [hext]

/-- **`self::` binds to the defining class, `static::` to the class the context carries.**
`self::s()` written in class `k` finds the most-derived static `s` at or above `k`, whatever the runtime class;
`static::s()` finds the most-derived static `s` at or above `staticBase ctx`, which is the object's runtime class
in the context made on an object (`Ctx.ofObject`) and the named class in a body entered by `D::m()`. -/
theorem C08_self_static_binding (G : Graph) (hac : Acyclic G) (s : Name) (a : Cls) (x : Meth) :
    (∀ k, Declared G k → (selfCall G k.name s = .found (a, x) ↔ MostDerived G (declStat s) k a x)) ∧
    (∀ ctx, staticKwCall G ctx s = .found (a, x) ↔ MostDerived G (declStat s) (staticBase ctx) a x) ∧
    (∀ d, staticBase (Ctx.ofObject d) = d) ∧
    (∀ D f, staticBase (Ctx.afterNamed D f) = D) := by
  refine ⟨fun k hk => ?_, fun ctx => ?_, fun _ => rfl, fun _ _ => rfl⟩
  · unfold selfCall namedStaticCall
    unfold Declared at hk
    rw [hk]
    exact lookupFrom_iff G hac.1 (·.smeths) k a s x
  · exact lookupFrom_iff G hac.1 (·.smeths) _ a s x

/-
Full statement (PHP: `self::`, `parent::` and `static::` forward the late-static-binding class):
  ∀ d hops, (staticBase (hops.foldl Ctx.hop (Ctx.ofObject d))).name = d.name
The pinned code violates it (known finding C08-lsb-forwarding): a `self::` hop re-binds `static::` to the class
the code was written in, and a `parent::` hop taken in a static context re-binds it to the class that defines
the running method. What does hold:
-/

/-- From the context made on an object (`Ctx.ofObject`), any sequence of `parent::` and `static::` hops keeps
`static::` bound to the runtime class of the object (the induction also keeps the context's class equal to it). -/
theorem C08_static_binding_paths_partial (d : Cls) (hops : List Hop) (h : ∀ x ∈ hops, x.isSelf = false) :
    staticBase (hops.foldl Ctx.hop (Ctx.ofObject d)) = d := by
  refine (List.foldlRecOn (motive := fun ctx => ctx.cls = d ∧ staticBase ctx = d) hops Ctx.hop ⟨rfl, rfl⟩
    fun ctx ⟨hc, hs⟩ x hx => ?_).2
  cases x with
  | parent f => exact ⟨hc, hc⟩
  | staticKw => exact ⟨hs, hs⟩
  | self _ _ => cases h _ hx

/-- In a body entered by `D::m()`, any sequence of `static::` hops keeps `static::` bound to `D`. -/
theorem C08_static_binding_named_partial (D f : Cls) (hops : List Hop) (h : ∀ x ∈ hops, x.isStaticKw = true) :
    staticBase (hops.foldl Ctx.hop (Ctx.afterNamed D f)) = D := by
  refine List.foldlRecOn (motive := fun ctx => staticBase ctx = D) hops Ctx.hop rfl fun ctx hs x hx => ?_
  cases x with
  | staticKw => exact hs
  | _ => cases h _ hx

def exA : Cls := { name := 10, ext := none, impl := [101], meths := [⟨0, 1⟩, ⟨1, 0⟩], smeths := [⟨20, 0⟩] }
def exB : Cls := { name := 11, ext := some 10, impl := [102], meths := [⟨0, 2⟩], smeths := [] }
def exC : Cls := { name := 12, ext := some 11, impl := [], meths := [⟨2, 0⟩], smeths := [⟨20, 0⟩] }

/-- negation witness (replayed on the real code by the harness' known stream): object of class C, method of A
does `self::mid()`, `mid` does `static::leaf()` — bound to A, not to C. -/
theorem C08_static_binding_paths_counterexample :
    ¬ ∀ (d : Cls) (hops : List Hop), (staticBase (hops.foldl Ctx.hop (Ctx.ofObject d))).name = d.name := by
  intro h
  have := h exC [.self exA exA]
  simp [Ctx.hop, Ctx.afterNamed, staticBase, exA, exC] at this

/-- negation witness: `C::pentry()` found in B does `parent::mid()` — `static::` is then bound to B, not to C. -/
theorem C08_static_binding_named_counterexample :
    ¬ ∀ (D f : Cls) (hops : List Hop), (staticBase (hops.foldl Ctx.hop (Ctx.afterNamed D f))).name = D.name := by
  intro h
  have := h exC exB [.parent exA]
  simp [Ctx.hop, Ctx.afterNamed, Ctx.afterParent, staticBase, exB, exC] at this

/-- **`$o like T`** holds exactly when the object provides, itself or by inheritance (most-derived definition),
every instance method `T` declares, with the same number of parameters — `T` a class or an interface; an
unknown `T` gives `false`. (Model of the code after fix 2467b2d.) -/
theorem C08_like_iff (G : Graph) (hac : Acyclic G) (c : Cls) (t : Name) :
    (∀ T, getClass G t = some T → ∃ b, like G c t = some b ∧ (b = true ↔ LikeSpec G c T.meths)) ∧
    (getClass G t = none → ∀ I, getIface G t = some I →
        ∃ b, like G c t = some b ∧ (b = true ↔ LikeSpec G c I.meths)) ∧
    (getClass G t = none → getIface G t = none → like G c t = some false) := by
  refine ⟨fun T hT => ?_, fun hn I hI => ?_, fun hn hi => ?_⟩
  · unfold like; rw [hT]; exact likeMeths_spec G hac.1 c T.meths
  · unfold like; rw [hn, hI]; exact likeMeths_spec G hac.1 c I.meths
  · unfold like; rw [hn, hi]

def exCyc : Graph :=
  { classes := [{ name := 10, ext := none, impl := [100], meths := [], smeths := [] }],
    ifaces := [{ name := 100, ext := [101], meths := [] }, { name := 101, ext := [100], meths := [] },
               { name := 102, ext := [], meths := [] }] }

/-- On a cyclic interface graph the recursive `checkInterfaceIs` of the `instanceof` operator does not terminate
(the model runs out of fuel; the real interpreter overflows its stack), while the BFS of the type-hint path
answers `no`. -/
theorem C08_acyclic_needed_for_op :
    ∃ c, getClass exCyc 10 = some c ∧ instanceofOp exCyc 102 c = .fuel ∧ isClassValue exCyc 102 c = .no := by
  refine ⟨_, rfl, ?_, ?_⟩ <;> decide +kernel

def exG : Graph :=
  { classes := [exA, exB, exC],
    ifaces := [{ name := 100, ext := [], meths := [⟨0, 1⟩] }, { name := 101, ext := [100], meths := [] },
               { name := 102, ext := [101, 100], meths := [⟨1, 0⟩] }, { name := 103, ext := [], meths := [] }] }

example : Acyclic exG := acyclic_of_rankOK exG (by decide)
example : WF exG := wf_of_wfB exG (by decide)
example : Declared exG exC := by unfold Declared; decide
/-- a class that is neither `Exception` nor `Error` satisfies `ThrowableOK` -/
example : ThrowableOK exG exC := by
  have hac : Acyclic exG := acyclic_of_rankOK exG (by decide)
  constructor <;> intro h
  · have := (C08_instanceof_iff_reach exG hac .param exC exceptionName trivial).2.1 (by decide +kernel)
    exact absurd h this
  · have := (C08_instanceof_iff_reach exG hac .param exC errorName trivial).2.1 (by decide +kernel)
    exact absurd h this
-- C is a 100 (the parent of the interface 101 that its grandparent A implements), for all four implementations; C is not a 103
example : (List.map (fun k => isInstanceOf exG k exC 100) [.op, .param, .this, .thrown]) = [.yes, .yes, .yes, .yes] := by decide +kernel
example : (List.map (fun k => isInstanceOf exG k exC 103) [.op, .param, .this, .thrown]) = [.no, .no, .no, .no] := by decide +kernel
example : IsA exG exC 100 :=
  IsA.ext rfl (by decide : getClass exG 11 = some exB)
    (IsA.impl (i := 102) (by decide) (IReach.step (d := ⟨102, [101, 100], [⟨1, 0⟩]⟩) (by decide) (by decide : 100 ∈ [101, 100]) (IReach.refl 100)))
-- dispatch: `$c->m0()` runs B::m0 (arity 2), `parent::m0()` written in B runs A::m0
example : getMethod exG exC 0 = .found (false, exB, ⟨0, 2⟩) := by decide +kernel
example : parentCall exG (Ctx.ofMethod exC exB) 11 0 = .found (exA, false, ⟨0, 1⟩) := by decide +kernel
-- `parent::` written in A (no parent) and inherited by C: nothing above A, whatever the object's class
example : parentCall exG (Ctx.ofMethod exC exA) 10 0 = .absent := by decide
-- the hypotheses of `C08_parent_nearest` on that call: code written in B (11), B's parent is the declared class A
example : parentBase exG (Ctx.ofMethod exC exB) 11 = exB ∧ exB.ext = some exA.name ∧ Declared exG exA := by
  refine ⟨by decide, rfl, ?_⟩; unfold Declared; decide
example : MostDerived exG (declAny 0) exA exA (false, ⟨0, 1⟩) := ⟨[], AncVia.self exA, by decide, by simp⟩
example : MostDerived exG (declInst 1) exC exA ⟨1, 0⟩ :=
  ⟨[exC, exB], AncVia.up rfl (by decide : getClass exG 11 = some exB) (AncVia.up rfl (by decide : getClass exG 10 = some exA) (AncVia.self exA)),
    by decide, by decide⟩
-- a hop sequence without `self::` (hypothesis of `C08_static_binding_paths_partial`)
example : ∀ x ∈ [Hop.parent exB, Hop.staticKw, Hop.parent exA], x.isSelf = false := by decide
example : selfCall exG 10 20 = .found (exA, ⟨20, 0⟩) ∧ staticKwCall exG (Ctx.ofObject exC) 20 = .found (exC, ⟨20, 0⟩) := by decide +kernel
-- like: C provides 100's m0? most-derived m0 is B's with 2 parameters, 100 wants 1 → false; 102's m1/0 is A's → true
example : like exG exC 100 = some false ∧ like exG exC 102 = some true := by decide +kernel

/-! ## Regenerated facts: the shape of the walks (`Generated.C08Walks`, written by `extract/c08` on every run)

`Model.Hier` mirrors the walks by hand. What makes the mirror right is a list of syntactic facts about the Go loops; the
translator regenerates them, `Model.HierShape` interprets a fact record as a walk, and the theorems below say, for EVERY
record that passes the decidable check, that the interpreted walk is reachability / the most-derived lookup / `IsA` (so it
is the model's walk). The obligations `C08_walks_obligation_*` discharge the checks for the regenerated records by `decide`:
a change of the source that invalidates a fact breaks the obligation of that name. Each `…_counterexample` is a record with
one realistic mistake and a concrete hierarchy on which the guarantee fails. -/

section Walks
open Model.HierShape Proofs.HierShape

/-- **Generic: every well-shaped worklist decides reachability over interface-extends edges, on every graph** (cyclic ones,
undeclared names included): the start is tested, the queue is seeded with ALL parents, the loop re-reads the queue every trip,
takes from either end, tests the name taken, SKIPS a visited name, marks, skips an unregistered name, appends ALL parents of
the loaded interface, and answers `false` when the queue is dry. -/
theorem C08_walks_worklist_reach (S : Worklist) (hok : S.ok = true) (G : Graph) (s t : Name) :
    ∃ b, runIE S G s t = some b ∧ (b = true ↔ IReach G s t) :=
  runIE_spec hok G s t

/-- a well-shaped worklist that takes from the head IS the model's `bfs`, trip by trip. The second target test
(`hitOnLoad`, which `bfs` has) makes no difference and `hl` is not used: the loaded name was just found different from the
target (`runW_step`). -/
theorem C08_walks_worklist_is_bfs (S : Worklist) (hok : S.ok = true) (hh : S.take = .head) (hl : S.hitOnLoad = true)
    (G : Graph) (t : Name) (f : Nat) (q vis : List Name) : runW S G t f q vis = bfs G t f q vis :=
  runW_eq_bfs (wok_of_ok hok) hh G t f q vis

theorem C08_walks_obligation_worklist :
    (∀ S ∈ Generated.C08Walks.worklists, S.ok = true) ∧ Generated.C08Walks.worklists ≠ [] := by
  first | decide +kernel | fail "obligation C08_walks_obligation_worklist no longer holds: data/type_class.go interfaceExtends no longer has the shape of a worklist that decides reachability (start test, queue seeded with ALL parents, loop that re-reads the queue, target test on the name taken, visited names SKIPPED and marked, ALL parents appended, false when dry) — see Generated.C08Walks.worklists"

/-- hence the `interfaceExtends` of the working tree decides reachability -/
theorem C08_walks_interfaceExtends_generated (S : Worklist) (hS : S ∈ Generated.C08Walks.worklists) (G : Graph) (s t : Name) :
    ∃ b, runIE S G s t = some b ∧ (b = true ↔ IReach G s t) :=
  C08_walks_worklist_reach S (C08_walks_obligation_worklist.1 S hS) G s t

/-- `Proofs.Hier.bfsShape` (the record the model's loop is the interpreter of) up to `fn`: the shape the witnesses vary -/
def wlCanon : Worklist :=
  { fn := "w", startHit := true, seed := .all, loop := .live, take := .head, hitOnTake := true, onSeen := .skip,
    marks := true, onMissing := .next, hitOnLoad := true, push := .all, dry := false }

def ifc (n : Name) (ext : List Name) : Ifc := { name := n, ext := ext, meths := [] }

/-- I100 → I101 → I102 -/
def exLine : Graph := { classes := [], ifaces := [ifc 100 [101], ifc 101 [102], ifc 102 []] }
/-- I100 → {I101, I102}, I101 → I103, I102 → {I103, I104} -/
def exDiamond : Graph :=
  { classes := [], ifaces := [ifc 100 [101, 102], ifc 101 [103], ifc 102 [103, 104], ifc 103 [], ifc 104 []] }
/-- I100 ⇄ I101 -/
def exLoop : Graph := { classes := [], ifaces := [ifc 100 [101], ifc 101 [100]] }

/-- negation witness (seeded change C08-interface-extends-range-snapshot): `for _, name := range queue` iterates over a
snapshot, what the body appends is never visited — an interface two hops up is missed. -/
theorem C08_walks_snapshot_counterexample :
    ¬ ∀ G s t, ∃ b, runIE { wlCanon with loop := .snapshot } G s t = some b ∧ (b = true ↔ IReach G s t) :=
  missed_path_refutes (G := exLine) (s := 100) (t := 102) (by decide) (S' := wlCanon) (by decide) (by decide)

/-- negation witness: only the first parent of a loaded interface is appended (`append(queue, parent.GetExtends()[0])`) -/
theorem C08_walks_first_parent_counterexample :
    ¬ ∀ G s t, ∃ b, runIE { wlCanon with push := .first } G s t = some b ∧ (b = true ↔ IReach G s t) :=
  missed_path_refutes (G := exDiamond) (s := 100) (t := 104) (by decide +kernel) (S' := wlCanon) (by decide) (by decide +kernel)

/-- negation witness: a visited name ends the walk (`return false` / `break` where `continue` belongs) — the siblings still in
the queue are never looked at -/
theorem C08_walks_seen_stops_counterexample :
    ¬ ∀ G s t, ∃ b, runIE { wlCanon with onSeen := .stop } G s t = some b ∧ (b = true ↔ IReach G s t) :=
  missed_path_refutes (G := exDiamond) (s := 100) (t := 104) (by decide +kernel) (S' := wlCanon) (by decide) (by decide +kernel)

/-- negation witness: without marking, the loop does not end on a cyclic interface graph (the model runs out of its budget `bfsFuel`) -/
theorem C08_walks_unmarked_counterexample :
    ¬ ∀ G s t, ∃ b, runIE { wlCanon with marks := false } G s t = some b ∧ (b = true ↔ IReach G s t) := by
  intro h
  obtain ⟨b, hb, _⟩ := h exLoop 100 105
  have : runIE { wlCanon with marks := false } exLoop 100 105 = none := by decide +kernel
  rw [this] at hb; cases hb

-- non-vacuity: the pinned shape, and the harmless variants (a stack instead of a queue; no second target test)
example : wlCanon.ok = true ∧ ({ wlCanon with take := .last } : Worklist).ok = true ∧
    ({ wlCanon with hitOnLoad := false } : Worklist).ok = true := by decide +kernel
example : runIE { wlCanon with take := .last } exDiamond 100 104 = some true := by decide +kernel

/-- **Generic: a well-shaped recursive walk without seen set IS the model's `dfs`** (name test, range over ALL parents, an
unregistered parent is skipped, a parent that reaches the target ends the walk with `true`, one that does not lets the loop go
on, `false` after the loop). -/
theorem C08_walks_rec_is_dfs (S : RecWalk) (hok : S.ok = true) (ha : S.onSeen = .absent) (G : Graph) (t : Name) (f : Nat)
    (i : Ifc) (seen : List Name) : runR S G t f i seen = (dfs G t f i).map (fun b => (b, seen)) :=
  runR_eq_dfs (rok_of_ok hok).1 ha G t f i seen

/-- **Generic: a well-shaped recursive walk that keeps a seen set and SKIPS seen parents decides reachability on every graph
whose parent names are declared — cyclic ones included** (so adding a correct seen set to `checkInterfaceIs` keeps the
obligation; making a seen parent end the loop does not). -/
theorem C08_walks_rec_seen_reach (S : RecWalk) (hok : S.ok = true) (hs : S.onSeen = .skip) (G : Graph)
    (hwf : ∀ d ∈ G.ifaces, ∀ j ∈ d.ext, (getIface G j).isSome) (t : Name) (i : Ifc) (hi : getIface G i.name = some i) :
    ∃ b s, runR S G t (depthFuel G) i [] = some (b, s) ∧ (b = true ↔ IReach G i.name t) := by
  obtain ⟨b, s, hr, k1, k2⟩ := runR_skip_visits (rok_of_ok hok).1 hs G hwf t (depthFuel G) i [] hi List.not_mem_nil
    (by have := unseen_nil_le G; unfold depthFuel; omega)
  refine ⟨b, s, hr, ?_⟩
  cases b with
  | true =>
    obtain ⟨p, hp, hpr⟩ := k1 rfl
    cases List.mem_singleton.1 hp
    exact ⟨fun _ => hpr, fun _ => rfl⟩
  | false =>
    simp only [Bool.false_eq_true, false_iff]
    obtain ⟨-, m2, m3⟩ := k2 rfl
    -- nothing is seen at the start, so the empty set is closed with the queue `[i]`
    exact closed_not_reach (m3 [] nofun) (m2 _ (List.mem_singleton_self _))

theorem C08_walks_obligation_rec :
    (∀ S ∈ Generated.C08Walks.recWalks, S.ok = true) ∧ Generated.C08Walks.recWalks ≠ [] := by
  first | decide +kernel | fail "obligation C08_walks_obligation_rec no longer holds: node/class.go checkInterfaceIs no longer has the shape of a recursive walk that decides reachability (name test, range over ALL parents, a parent that reaches the target returns true, one that does not lets the loop go on, a seen parent — if a seen set is kept — is SKIPPED, false after the loop) — see Generated.C08Walks.recWalks"

def rwCanon : RecWalk :=
  { fn := "r", selfHit := true, over := .all, onSeen := .absent, onMissing := .next, childTrue := true, childFalse := .next,
    dry := false }

/-- I100 → {I101, I102, I103}, I101 → I102 -/
def exShared : Graph :=
  { classes := [], ifaces := [ifc 100 [101, 102, 103], ifc 101 [102], ifc 102 [], ifc 103 []] }

/-- negation witness (seeded change C08-interface-walk-seen-return): a parent that was already seen makes the walk `return
false`; the parents listed after it are never examined. The model's `dfs` says `true`. -/
theorem C08_walks_rec_seen_stops_counterexample :
    ∃ G t i, (runR { rwCanon with onSeen := .stop } G t (depthFuel G) i []).map (·.1) = some false ∧
      dfs G t (depthFuel G) i = some true :=
  ⟨exShared, 103, ifc 100 [101, 102, 103], by decide +kernel, by decide⟩

/-- negation witness: the first parent decides (`return walk(parent)` inside the loop) -/
theorem C08_walks_rec_first_parent_counterexample :
    ∃ G t i, (runR { rwCanon with childFalse := .stop } G t (depthFuel G) i []).map (·.1) = some false ∧
      dfs G t (depthFuel G) i = some true :=
  ⟨exShared, 103, ifc 100 [101, 102, 103], by decide, by decide⟩

example : rwCanon.ok = true ∧ ({ rwCanon with onSeen := .skip } : RecWalk).ok = true ∧
    ({ rwCanon with onSeen := .stop } : RecWalk).ok = false := by decide
-- the skipping variant answers on a cyclic graph, where the pinned shape runs out of fuel
example : (runR { rwCanon with onSeen := .skip } exLoop 105 (depthFuel exLoop) (ifc 100 [101]) []).map (·.1) = some false ∧
    runR rwCanon exLoop 105 (depthFuel exLoop) (ifc 100 [101]) [] = none := by decide +kernel

/-- **Generic: a well-shaped chain loop that examines the base class first finds the most-derived declaration** — for every
member table `decl`, whatever the extra-condition oracle `keep` and the stale class are (a well-shaped loop uses neither). -/
theorem C08_walks_chain_most_derived {α : Type} (S : Chain) (hok : S.okCore = true) (hb : S.«from» = .base) (G : Graph)
    (hac : Acyclic G) (decl : Cls → Option α) (keep : α → Bool) (stale b d : Cls) (x : α) :
    lookupS S G decl keep stale b = .found (d, x) ↔ MostDerived G decl b d x := by
  rw [lookupS_base (cok_of_okCore hok) hb]
  exact (finds_iffs (lookupG_finds G hac.1 decl b)).1 d x

/-- for the method tables it IS the model's `lookupFrom` -/
theorem C08_walks_chain_is_lookupFrom (S : Chain) (hok : S.okCore = true) (hb : S.«from» = .base) (G : Graph)
    (pick : Cls → List Meth) (m : Name) (keep : Meth → Bool) (stale b : Cls) :
    lookupS S G (fun k => findM (pick k) m) keep stale b = lookupFrom G pick b m := by
  rw [lookupS_base (cok_of_okCore hok) hb, lookupFrom_eq_lookupG]

/-- **Generic: a well-shaped chain loop that starts above the base class** (`parent::`) finds the nearest declaration at or
above the base's parent. -/
theorem C08_walks_chain_above {α : Type} (S : Chain) (hok : S.okCore = true) (hb : S.«from» ≠ .base) (G : Graph)
    (hac : Acyclic G) (decl : Cls → Option α) (keep : α → Bool) (stale b p a : Cls) (hext : b.ext = some p.name)
    (hp : Declared G p) (x : α) :
    lookupS S G decl keep stale b = .found (a, x) ↔ MostDerived G decl p a x := by
  rw [lookupS_above (cok_of_okCore hok) hb, hext]
  exact (finds_iffs (walkTag_finds_at G hac.1 decl p hp)).1 a x

/-- obligation: every regenerated chain loop is well-shaped, and the loops the model mirrors are exactly the expected ones,
each examining the classes, consulting the tables and treating an unloadable parent the way `Model.Hier` says -/
theorem C08_walks_obligation_chains : chainsOK Generated.C08Walks.chains = true := by
  first | decide +kernel | fail "obligation C08_walks_obligation_chains no longer holds: a loop over the extends chain (extendISClass, ClassValue.GetPropertyStmt / GetMethod, CallParentMethod, CallStaticMethod, CallStaticKeywordMethod, findMethodInHierarchy …) no longer leaves at the FIRST hit of a plain table lookup, advances to the parent of the class examined, reports that class, or no longer examines / consults / treats a missing parent the way Model.Hier says — see Generated.C08Walks.chains against Model.HierShape.expectedChains"

def chCanon : Chain :=
  { fn := "c", role := "method", start := "c.Class", «from» := .base, advance := .parentOfVisited, lookups := ["GetMethod"],
    extra := [], onHit := .leave, found := .unrecorded, repair := false, onMissing := "notFound" }

/-- A { m0/1, m1/0 }, B extends A { m0/2 }, C extends B {}: the chain of `exA`, `exB`, `exC` reduced to what the chain loops
read (`ext`, `meths`), with a most-derived class that declares nothing, so that every lookup from C has to climb -/
def clsA : Cls := { name := 10, ext := none, impl := [], meths := [⟨0, 1⟩, ⟨1, 0⟩], smeths := [] }
def clsB : Cls := { name := 11, ext := some 10, impl := [], meths := [⟨0, 2⟩], smeths := [] }
def clsC : Cls := { name := 12, ext := some 11, impl := [], meths := [], smeths := [] }
def exABC : Graph := { classes := [clsA, clsB, clsC], ifaces := [] }

/-- negation witness (seeded change C08-like-walk-skips-shadowing): an extra condition inside the hit test (the parameter
count) lets the walk pass the most-derived definition and accept a shadowed one. -/
theorem C08_walks_chain_filter_counterexample :
    lookupS { chCanon with extra := ["len(m.GetParams()) == len(want.GetParams())"] } exABC (declInst 0)
        (fun x => x.arity == 1) clsC clsC = .found (clsA, ⟨0, 1⟩) ∧
    lookupFrom exABC (·.meths) clsC 0 = .found (clsB, ⟨0, 2⟩) := by decide +kernel

/-- negation witness: the hit is kept as a candidate and the loop goes on — the LEAST derived definition wins -/
theorem C08_walks_chain_goes_on_counterexample :
    lookupS { chCanon with onHit := .goOn } exABC (declInst 0) (fun _ => true) clsC clsC = .found (clsA, ⟨0, 1⟩) ∧
    lookupFrom exABC (·.meths) clsC 0 = .found (clsB, ⟨0, 2⟩) := by decide +kernel

/-- negation witness (seeded change C08-parent-chain-gap on the tree before 3770e5b): the class reported with the method is
a variable set before the loop (the class the walk started from: B for `parent::m1()` written in C), not the class the method
was found in (A) — a nested `parent::` restarts below the definition. With the re-derivation the pinned tree has had since
3770e5b (`repair`) the same record is well-shaped and reports A. -/
theorem C08_walks_chain_stale_class_counterexample :
    lookupS { chCanon with «from» := .above, found := .start "foundClass = current" } exABC (declInst 1) (fun _ => true) clsB clsC
      = .found (clsB, ⟨1, 0⟩) ∧
    walkUp exABC (fun d => some ((declInst 1 d).map (fun x => (d, x)))) (classFuel exABC) clsC.ext = .found (clsA, ⟨1, 0⟩) ∧
    lookupS { chCanon with «from» := .above, found := .start "foundClass = current", repair := true } exABC (declInst 1)
      (fun _ => true) clsB clsC = .found (clsA, ⟨1, 0⟩) ∧
    ({ chCanon with found := .start "foundClass = current", repair := true } : Chain).okCore = true ∧
    ({ chCanon with found := .start "foundClass = current" } : Chain).okCore = false ∧
    ({ chCanon with found := .stale "foundClass = other", repair := true } : Chain).okCore = false := by decide +kernel

/-- negation witness: the walk starts one level up (the class itself is not examined where it should be) -/
theorem C08_walks_chain_one_level_up_counterexample :
    lookupS { chCanon with «from» := .above } exABC (declInst 0) (fun _ => true) clsB clsB = .found (clsA, ⟨0, 1⟩) ∧
    lookupFrom exABC (·.meths) clsB 0 = .found (clsB, ⟨0, 2⟩) := by decide +kernel

/-- negation witness: the cursor is not advanced to the parent of the class just examined — the loop never ends -/
theorem C08_walks_chain_stuck_counterexample :
    lookupS { chCanon with advance := .other "last = c.Class" } exABC (declInst 7) (fun _ => true) clsC clsC = .fuel ∧
    lookupFrom exABC (·.meths) clsC 7 = .absent := by decide +kernel

example : chCanon.okCore = true ∧ chCanon.«from» = .base := by decide
example : Acyclic exABC := acyclic_of_rankOK exABC (by decide)
example : lookupS chCanon exABC (declInst 0) (fun _ => false) clsA clsC = .found (clsB, ⟨0, 2⟩) := by decide +kernel

/-- **Generic: every well-shaped decider decides `IsA`**, whatever interface walks it calls as long as they decide
reachability: it tests the name, scans the WHOLE implements list with a direct test and a walk, and hands the parent chain to
a well-shaped decider. `miss` is what it answers when a parent class cannot be loaded (`no` for the type-hint path, an error
for `instanceof`). -/
theorem C08_walks_decider_isA (D Dc : Decider) (hD : D.ok = true) (hDc : Dc.ok = true) (G : Graph) (hac : Acyclic G)
    (t : Name) (walk : String → Name → Name → Option Bool)
    (hw : ∀ L, L ∈ D.impls ∨ L ∈ Dc.impls → L.walk ≠ "" → WalkDecides G t (walk L.walk))
    (miss : R) (hm : miss ≠ .fuel) (c : Cls) :
    (IsA G c t → decideD D Dc walk G t miss c = .yes) ∧
    (¬ IsA G c t → decideD D Dc walk G t miss c = .no ∨ decideD D Dc walk G t miss c = miss) := by
  unfold decideD
  rcases visitD_spec (dok_of_ok hD) G t walk (fun L hL => hw L (Or.inl hL)) c with ⟨hv, hh⟩ | ⟨hv, hh⟩ <;> rw [hv]
  · exact ⟨fun _ => rfl, fun hna => absurd (isA_of_hit hh) hna⟩
  · have body : (IsA G c t → climbD Dc walk G t miss (classFuel G) c.ext = .yes) ∧
        (¬ IsA G c t → climbD Dc walk G t miss (classFuel G) c.ext = .no ∨
          climbD Dc walk G t miss (classFuel G) c.ext = miss) := by
      rw [climbD_eq_walkUp]
      rcases walk_decides G hac.1 t _ R.yes
          (visitOf_decides (dok_of_ok hDc) G t walk (fun L hL => hw L (Or.inr hL))) c hh with
        ⟨hw, ha⟩ | ⟨hw | ⟨n, hw⟩, ha⟩ <;> rw [hw]
      · exact ⟨fun _ => rfl, fun hna => absurd ha hna⟩
      · exact ⟨fun hi => absurd hi ha, fun _ => Or.inl rfl⟩
      · exact ⟨fun hi => absurd hi ha, fun _ => Or.inr rfl⟩
    have hch := (dok_of_ok hD).chain
    cases hc : D.chain with
    | none => exact absurd hc hch.2
    | other s => exact absurd hc (hch.1 s)
    | _ => exact body

/-- **all well-shaped deciders share one subtype relation** -/
theorem C08_walks_deciders_agree (D Dc D' Dc' : Decider) (h1 : D.ok = true) (h2 : Dc.ok = true) (h3 : D'.ok = true)
    (h4 : Dc'.ok = true) (G : Graph) (hac : Acyclic G) (t : Name) (walk walk' : String → Name → Name → Option Bool)
    (hw : ∀ L, L ∈ D.impls ∨ L ∈ Dc.impls → L.walk ≠ "" → WalkDecides G t (walk L.walk))
    (hw' : ∀ L, L ∈ D'.impls ∨ L ∈ Dc'.impls → L.walk ≠ "" → WalkDecides G t (walk' L.walk)) (c : Cls) :
    decideD D Dc walk G t .no c = decideD D' Dc' walk' G t .no c := by
  obtain ⟨a1, a2⟩ := C08_walks_decider_isA D Dc h1 h2 G hac t walk hw .no nofun c
  obtain ⟨b1, b2⟩ := C08_walks_decider_isA D' Dc' h3 h4 G hac t walk' hw' .no nofun c
  by_cases hi : IsA G c t
  · rw [a1 hi, b1 hi]
  · have x := a2 hi
    have y := b2 hi
    simp only [or_self] at x y
    rw [x, y]

/-- obligation: the regenerated deciders are well-shaped and hand the chain to a decider of the table -/
theorem C08_walks_obligation_deciders : decidersOK Generated.C08Walks.deciders = true := by
  first | decide +kernel | fail "obligation C08_walks_obligation_deciders no longer holds: a subtype decider (isClassValueInstanceOf, Class.Is arm *ThisValue, the body of extendISClass, checkClassIs) no longer tests the name, scans the WHOLE implements list with a direct test and an interface walk called as walk(implemented, target), and hands the parent chain on — see Generated.C08Walks.deciders"

/-- obligation: instanceof, catch and the arms of `Class.Is` call the deciders the model says they reach -/
theorem C08_walks_obligation_routes : Generated.C08Walks.routes = expectedRoutes := by
  first | rfl | fail "obligation C08_walks_obligation_routes no longer holds: instanceof / catchTypeMatches / an arm of Class.Is / a decider calls other subtype deciders or interface walks than Model.Hier mirrors — see Generated.C08Walks.routes against Model.HierShape.expectedRoutes"

/-- a well-shaped worklist is a walk a decider may call (`interfaceExtends` for the type-hint and catch paths) -/
theorem C08_walks_worklist_walkDecides (S : Worklist) (hok : S.ok = true) (G : Graph) (t : Name) :
    WalkDecides G t (fun s t => runIE S G s t) := by
  intro s
  obtain ⟨b, hb, hiff⟩ := C08_walks_worklist_reach S hok G s t
  exact ⟨b, hb, hiff.1, fun _ hr => hiff.2 hr⟩

def dcCanon : Decider :=
  { fn := "d", nameTest := true, impls := [{ direct := true, walk := "interfaceExtends", argsOK := true, onMiss := .next }],
    chain := .call "extendISClass" }

def canonWalk (G : Graph) : String → Name → Name → Option Bool := fun _ s t => runIE wlCanon G s t

/-- class K implements I100, I101 (unrelated interfaces); class L extends K -/
def clsK : Cls := { name := 10, ext := none, impl := [100, 101], meths := [], smeths := [] }
def clsL : Cls := { name := 11, ext := some 10, impl := [], meths := [], smeths := [] }
def exImpl : Graph := { classes := [clsK, clsL], ifaces := [ifc 100 [], ifc 101 []] }

/-- negation witness: the scan of the implements list returns after the first interface that does not reach the target -/
theorem C08_walks_decider_first_interface_counterexample :
    decideD { dcCanon with impls := [{ direct := true, walk := "interfaceExtends", argsOK := true, onMiss := .stop }] } dcCanon
      (canonWalk exImpl) exImpl 101 .no clsK = .no ∧
    isClassValue exImpl 101 clsK = .yes := by decide +kernel

/-- negation witness: the parent chain is not followed — the interfaces of an ancestor are missed -/
theorem C08_walks_decider_no_chain_counterexample :
    decideD { dcCanon with chain := .none } dcCanon (canonWalk exImpl) exImpl 101 .no clsL = .no ∧
    isClassValue exImpl 101 clsL = .yes := by decide

/-- negation witness: the arguments of the interface walk are swapped (is the TARGET a sub-interface of the implemented one?) -/
theorem C08_walks_decider_swapped_counterexample :
    decideD { dcCanon with impls := [{ direct := true, walk := "interfaceExtends", argsOK := false, onMiss := .next }] } dcCanon
      (canonWalk exLine) { exLine with classes := [{ clsK with impl := [102] }] } 100 .no { clsK with impl := [102] } = .yes ∧
    isClassValue { exLine with classes := [{ clsK with impl := [102] }] } 100 { clsK with impl := [102] } = .no := by decide +kernel

example : dcCanon.ok = true ∧ decidersOK [dcCanon, { dcCanon with fn := "extendISClass", chain := .loop }] = true := by decide +kernel
example : decideD dcCanon dcCanon (canonWalk exImpl) exImpl 101 .no clsL = .yes := by decide +kernel

/-- the order in which `CallParentMethod` and `CallStaticKeywordMethod` pick their class is the model's `parentBase` /
`staticBase`: for every table equal to the expected one -/
theorem C08_walks_base_is_model (tbl : List Base) (h : tbl = expectedBases) (G : Graph) (ctx : Ctx) (cur : Name) :
    (tbl.map (fun B => baseOf G ctx cur B.order)) = [some (parentBase G ctx cur), some (staticBase ctx)] := by
  subst h
  simp only [expectedBases, List.map, baseOf, Src.ofString, Src.get, parentBase, staticBase]
  cases hs : ctx.selfC <;> cases hst : ctx.staticC <;> simp <;>
    (cases getClass G cur with
     | none => rfl
     | some c => cases hc : c.ext <;> simp [hc])

/-- a call site without memo gives every runtime class its own lookup -/
theorem C08_walks_site_no_memo {α : Type} (own look : Cls → Option α) (m : Option α) (cs : List Cls) :
    siteRun false own look m cs = cs.map (fun c => match own c with | some x => some x | none => look c) := by
  induction cs generalizing m with
  | nil => rfl
  | cons c r ih =>
    rw [siteRun]
    cases ho : own c with
    | some x => simp [ih, ho]
    | none => simp [ih, ho]

/-- obligation: `parent::` / `static::` pick the class they resolve against in the order the model says -/
theorem C08_walks_obligation_bases : Generated.C08Walks.bases = expectedBases := by
  first | rfl | fail "obligation C08_walks_obligation_bases no longer holds: CallParentMethod no longer resolves against SelfClass, else the parser's CurrentClass (registered, with a parent), else the context's class — or CallStaticKeywordMethod no longer starts from StaticClass, else the context's class — see Generated.C08Walks.bases"

/-- obligation: no method-call node writes to its own fields while the program runs, except the resolution of the class
NAME written in the source -/
theorem C08_walks_obligation_node_state : nodeWritesOK Generated.C08Walks.nodeWrites = true := by
  first | decide +kernel | fail "obligation C08_walks_obligation_node_state no longer holds: a method-call AST node (node/call_*_method.go, like.go, instanceof.go) assigns to one of its own fields at run time — a result kept on the node is shared by every runtime class that reaches the site — see Generated.C08Walks.nodeWrites"

theorem C08_walks_obligation_shape_notes : Generated.C08Walks.shapeNotes = [] := by
  first | rfl | fail "obligation C08_walks_obligation_shape_notes no longer holds: extract/c08 met a statement in a hierarchy walk that it does not understand (or a walk is gone) — see Generated.C08Walks.shapeNotes"

/-- negation witness: `parent::` resolved against the runtime class (no `SelfClass`, no `CurrentClass`) — in a method of B
inherited by C the call restarts at C's parent B instead of B's parent A -/
theorem C08_walks_base_runtime_class_counterexample :
    baseOf exABC (Ctx.ofMethod clsC clsB) 11 ["Class"] = some clsC ∧ parentBase exABC (Ctx.ofMethod clsC clsB) 11 = clsB := by
  decide +kernel

/-- negation witness (seeded change C08-static-kw-site-cache): the method found by walking is kept on the node; the next
runtime class that does not declare it gets the first class's answer -/
theorem C08_walks_site_memo_counterexample :
    siteRun true (fun _ => none) (fun c => if c.name = 12 then some 1 else some 2) (none : Option Nat) [clsC, clsB] = [some 1, some 1] ∧
    siteRun false (fun _ => none) (fun c => if c.name = 12 then some 1 else some 2) (none : Option Nat) [clsC, clsB] = [some 1, some 2] := by
  decide

end Walks

/-! ### Names: the name-based special cases of the deciders

`catchTypeMatches` gives the root interface `Throwable` a meaning beyond reachability, and which catch types count as
"the root interface" is decided by a test on the SPELLING of the type name. `isThrownP p` is the decider with that test
abstracted; the translator records every comparison of a type name with a string literal inside the deciders as
`Generated.C08Walks.nameTests` (literal, kind of comparison), `NameKind.holds` says what a kind means on spellings. -/
section Names

/-- the pinned `catchTypeMatches` (`Model.Hier.isThrown`, what the driver runs) is the abstract decider with the test
"the name IS `Throwable`" -/
theorem C08_names_pinned_is_abstract (G : Graph) (t : Name) (c : Cls) :
    isThrown G t c = isThrownP (fun t => decide (t = throwableName)) G t c := isThrownP_eq G t c

/-- **catch (T) is exact iff the special-name test holds for the root interface's own name only.** If `p` holds for
`Throwable` alone, `catch (T)` decides `IsA` on every acyclic hierarchy (for objects with `ThrowableOK`); if `p` holds
for ANY other type name `t`, then already on the std hierarchy (`Exception implements Throwable`, `Error implements
Throwable`) some object that is not a `t` is caught by `catch (t)`. -/
theorem C08_names_catch_exact_iff (p : Name → Bool) :
    (∀ (G : Graph), Acyclic G → ∀ (c : Cls), ThrowableOK G c → ∀ t,
        (isThrownP p G t c = .yes ↔ IsA G c t) ∧ (isThrownP p G t c = .no ↔ ¬ IsA G c t)) ↔
    (∀ t, p t = true → t = throwableName) := by
  constructor
  · intro h t hpt
    apply Classical.byContradiction
    intro hne
    obtain ⟨c, _, hok, hnot, hyes⟩ := isThrownP_loose p t hpt hne
    exact hnot ((h nmG nmG_acyclic c hok t).1.1 hyes)
  · exact fun hp G hac c hok t => decides_iffs (isThrownP_spec p hp G hac.1 t c hok)

/-- an exact comparison (`==`, `==` after stripping ONE leading backslash) holds only for the special name's own
spelling, and does hold for it -/
theorem C08_names_exact_kind (k : NameKind) (hk : k.exact = true) (s n : List Char) :
    (k.holds s n = some true → n = s ∨ n = '\\' :: s) ∧ (stripLead s = s → k.holds s s = some true) := by
  refine ⟨holds_exact k hk s n, fun hs => ?_⟩
  cases k <;> simp [NameKind.exact] at hk
  · simp [NameKind.holds]
  · simp [NameKind.holds, hs]

/-- **From spellings to catch.** Type names are spelled by an injective `nm`; the tables hold fully qualified names
(no leading backslash). If the special-name test of `catchTypeMatches` is an EXACT comparison with the spelling of the
root interface, `catch (T)` decides `IsA` on every acyclic hierarchy — whatever the user's types are called. -/
theorem C08_names_catch_exact_spelling (nm : Name → List Char) (hinj : ∀ a b, nm a = nm b → a = b)
    (k : NameKind) (hk : k.exact = true) (s : List Char) (hs : nm throwableName = s) (hfq : ∀ t, nm t ≠ '\\' :: s)
    (G : Graph) (hac : Acyclic G) (c : Cls) (hok : ThrowableOK G c) (t : Name) :
    (isThrownP (fun t => k.holds s (nm t) == some true) G t c = .yes ↔ IsA G c t) ∧
    (isThrownP (fun t => k.holds s (nm t) == some true) G t c = .no ↔ ¬ IsA G c t) := by
  refine ((C08_names_catch_exact_iff _).2 ?_) G hac c hok t
  intro t ht
  have ht' : k.holds s (nm t) = some true := by simpa using ht
  rcases holds_exact k hk s (nm t) ht' with h | h
  · exact hinj _ _ (h.trans hs.symm)
  · exact absurd h (hfq t)

/-- the comparisons of the pinned tree that are NOT exact: both strip the namespace (`App\Throwable` is taken for the
root interface by `catch`, `App\Exception` / `App\Error` / `App\Throwable` catch every interpreter-raised error) — known
findings `names:catch:ns-base-name`, `names:catch-internal:ns-base-name`, replayed by the harness on every run -/
def knownLooseNameTests : List (String × String × NameKind) :=
  [("data/type_class.go:Class.Is", "Error", .baseName),
   ("data/type_class.go:Class.Is", "Exception", .baseName),
   ("data/type_class.go:Class.Is", "Throwable", .baseName),
   ("node/try.go:isThrowableTypeName", "Throwable", .suffixSep)]

/-- obligation: every comparison of a type name with a string literal inside the subtype deciders is exact equality
(possibly after stripping one leading backslash), except the recorded namespace-stripping ones -/
theorem C08_names_obligation_exact : nameTestsOK knownLooseNameTests Generated.C08Walks.nameTests = true := by
  first | decide +kernel | fail "obligation C08_names_obligation_exact no longer holds: a subtype decider (catchTypeMatches / isThrowableTypeName, Class.Is, isClassValueInstanceOf, extendISClass, interfaceExtends, instanceof, checkClassIs, checkInterfaceIs) compares a type name with a string literal by something looser than equality (suffix / prefix / substring / case-folded / unclassified): user types whose names merely resemble the special name get its semantics — see Generated.C08Walks.nameTests"

/-- obligation: the root interface itself is recognised by an exact test in `catchTypeMatches` -/
theorem C08_names_obligation_root :
    Generated.C08Walks.nameTests.any (fun t => t.fn = "node/try.go:isThrowableTypeName" && t.special = "Throwable" && t.kind.exact) = true := by
  first | decide +kernel | fail "obligation C08_names_obligation_root no longer holds: node/try.go isThrowableTypeName no longer compares the catch type with \"Throwable\" by equality — see Generated.C08Walks.nameTests"

def spThrowable : List Char := ['T', 'h', 'r', 'o', 'w', 'a', 'b', 'l', 'e']
def spAppThrowable : List Char := ['A', 'p', 'p'] ++ spThrowable
def spNsThrowable : List Char := ['A', 'p', 'p', '\\'] ++ spThrowable
/-- spelling of the names used by the witnesses: 0 `Throwable`, 100 `AppThrowable`, 101 `App\Throwable` -/
def spNm : Name → List Char
  | 0 => spThrowable
  | 100 => spAppThrowable
  | 101 => spNsThrowable
  | _ => []

/-- negation witness (seeded change C08-catch-name-ends-in-throwable): the test is `HasSuffix(name, "Throwable")`; the
user interface `AppThrowable` is taken for the root interface, and `catch (AppThrowable)` catches an `Exception` that
does not reach it -/
theorem C08_names_suffix_counterexample :
    NameKind.suffix.holds spThrowable spAppThrowable = some true ∧ spAppThrowable ≠ spThrowable ∧
    ∃ c, c ∈ nmG.classes ∧ ThrowableOK nmG c ∧ ¬ IsA nmG c 100 ∧
      isThrownP (fun t => NameKind.suffix.holds spThrowable (spNm t) == some true) nmG 100 c = .yes ∧
      isClassValue nmG 100 c = .no :=
  ⟨by decide +kernel, by decide, by
    obtain ⟨c, hc, hok, hnot, hyes⟩ :=
      isThrownP_loose (fun t => NameKind.suffix.holds spThrowable (spNm t) == some true) 100 (by decide +kernel) (by decide)
    exact ⟨c, hc, hok, hnot, hyes, decides_no (isClassValue_spec nmG nmG_acyclic.1 100 c) hnot⟩⟩

/-- negation witnesses for the other loose kinds: each holds for a user name that is not the special name -/
theorem C08_names_loose_kinds_counterexample :
    NameKind.prefix.holds spThrowable (spThrowable ++ ['X']) = some true ∧
    NameKind.contains.holds spThrowable (['M', 'y'] ++ spThrowable ++ ['X']) = some true ∧
    NameKind.fold.holds spThrowable ('t' :: spThrowable.tail) = some true ∧
    NameKind.suffixSep.holds spThrowable spNsThrowable = some true ∧
    NameKind.baseName.holds spThrowable spNsThrowable = some true ∧
    NameKind.eq.holds spThrowable spNsThrowable = some false ∧
    NameKind.eqStripLead.holds spThrowable ('\\' :: spThrowable) = some true ∧
    NameKind.eqStripLead.holds spThrowable spAppThrowable = some false := by decide +kernel

/-- known finding `names:catch:ns-base-name` (pinned tree): the namespace-stripping test takes the user interface
`App\Throwable` for the root interface -/
theorem C08_names_namespace_counterexample :
    ∃ c, c ∈ nmG.classes ∧ ThrowableOK nmG c ∧ ¬ IsA nmG c 101 ∧
      isThrownP (fun t => NameKind.eq.holds spThrowable (spNm t) == some true ||
                          NameKind.suffixSep.holds spThrowable (spNm t) == some true) nmG 101 c = .yes :=
  isThrownP_loose _ 101 (by decide +kernel) (by decide)

example : nameTestsOK [] [⟨"f", "Throwable", .eq⟩, ⟨"f", "Throwable", .eqStripLead⟩] = true := by decide
example : nameTestsOK knownLooseNameTests [⟨"node/try.go:isThrowableTypeName", "Throwable", .suffix⟩] = false := by decide +kernel
example : looseTests Generated.C08Walks.nameTests ≠ [] := by decide
example : (fun t : Name => decide (t = throwableName)) 0 = true ∧ ∀ t, (fun t : Name => decide (t = throwableName)) t = true → t = throwableName := by
  refine ⟨rfl, ?_⟩; intro t h; simpa using h

end Names

end C08
