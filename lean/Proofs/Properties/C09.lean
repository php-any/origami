import Proofs.Lemmas.ChanInv
import Generated.C09ChanLocks
import Model.ChanRacy
/-!
# C09 — Channel delivers each value exactly once, in sender order, under any schedule

`Model.Chan` is the small-step model of `std/channel/channel.go`
(the close protocol after fix `C09-close-send-race`), `Spec.Chan` states what a script relies
on over observable histories. Every theorem quantifies over **any** capacity, **any** programs
(`prog : Nat → List Op`, so any number of threads and operations) and **any** schedule
(`sched : List Act`; a choice that is not enabled is skipped).
-/
namespace C09
open Model.Chan Proofs.Chan Spec.Chan

/-- **No Go panic is reachable**: no `send on closed channel`, no `close of closed channel`,
whatever the interleaving of sends, receives, closes (also concurrent and repeated closes). -/
theorem C09_no_panic (cap : Nat) (prog : Nat → List Op) (sched : List Act) :
    (exec (init cap prog) sched).panicked = false :=
  (inv_exec cap prog sched).proto.nopanic

/-- **Nothing is invented**: every message a receive returned carries the payload of a send, by the
thread it names, that reported success. -/
theorem C09_no_invention (cap : Nat) (prog : Nat → List Op) (sched : List Act) :
    NoInvention (obsOf (exec (init cap prog) sched)) :=
  have h := (inv_exec cap prog sched).data.spec
  h.1.noInvention h.2.1

/-- **At most once**: no message occurs twice among everything received (by whichever receivers)
and everything still buffered. -/
theorem C09_at_most_once (cap : Nat) (prog : Nat → List Op) (sched : List Act) :
    AtMostOnce (obsOf (exec (init cap prog) sched)) :=
  (inv_exec cap prog sched).data.spec.2.2

/-- …in particular two different receivers never get the same message. -/
theorem C09_receivers_disjoint (cap : Nat) (prog : Nat → List Op) (sched : List Act) (r r' : Nat) (m : Msg)
    (h : m ∈ received ((exec (init cap prog) sched).hist r))
    (h' : m ∈ received ((exec (init cap prog) sched).hist r')) : r = r' :=
  have hs := (inv_exec cap prog sched).data.spec
  hs.1.disjoint hs.2.2 h h'

/-- **Per-sender FIFO**: in the global receive order the payloads delivered from a sender are a prefix
of the payloads it sent successfully, in program order; and every single receiver sees them in that
order. -/
theorem C09_per_sender_fifo (cap : Nat) (prog : Nat → List Op) (sched : List Act) :
    PerSenderFifo (obsOf (exec (init cap prog) sched)) ∧
    ReceiverSeesSenderOrder (obsOf (exec (init cap prog) sched)) :=
  have h := (inv_exec cap prog sched).data.spec
  ⟨h.2.1.fifo, h.1.sees h.2.1.fifo⟩

/-- **Exactly once on quiescence**: a successfully sent value is always either delivered or still
buffered (never lost), and once the buffer is drained the values delivered from each sender are
exactly the values it sent successfully, in order (with `C09_at_most_once`: each exactly once). -/
theorem C09_exactly_once_on_quiescence (cap : Nat) (prog : Nat → List Op) (sched : List Act) :
    NothingLost (obsOf (exec (init cap prog) sched)) ∧
    ExactlyOnceWhenDrained (obsOf (exec (init cap prog) sched)) :=
  have h := (inv_exec cap prog sched).data.spec
  ⟨h.2.1, h.2.1.drained⟩

/-- the global receive order used above is consistent with what each receiver observed -/
theorem C09_order_consistent (cap : Nat) (prog : Nat → List Op) (sched : List Act) :
    OrderConsistent (obsOf (exec (init cap prog) sched)) :=
  (inv_exec cap prog sched).data.spec.1

/-- **After close, receivers drain…**: once the Go channel is closed a receive is always enabled
(never blocks) and returns the head of the buffer, or null when the buffer is empty. -/
theorem C09_closed_receive_drains (cap : Nat) (prog : Nat → List Op) (sched : List Act) (r : Nat) (rest : List Op)
    (hc : (exec (init cap prog) sched).chClosed = true)
    (hpc : (exec (init cap prog) sched).pc r = .idle)
    (hpg : (exec (init cap prog) sched).prog r = .recv :: rest) :
    ∃ s', step (exec (init cap prog) sched) (.run r) = some s' ∧
      s'.buf = (exec (init cap prog) sched).buf.tail ∧
      s'.hist r = (exec (init cap prog) sched).hist r ++
        [(Op.recv, match (exec (init cap prog) sched).buf with | m :: _ => Res.got m | [] => Res.null)] := by
  have hn := (inv_exec cap prog sched).proto.nopanic
  generalize exec (init cap prog) sched = s at *
  simp only [step, hn, stepRun, hpc, hpg, stepRecv]
  cases hb : s.buf with
  | nil => simp [hc, St.finish, hb]
  | cons m rest => simp [St.finish]

/-- **…then get null, for good**: once the Go channel is closed nothing is added any more — what
leaves the buffer is what is received, no send succeeds; and once some receive has returned null the
channel is closed and empty, so nothing is ever received after that under any continuation. -/
theorem C09_drain_then_null (cap : Nat) (prog : Nat → List Op) (sched sched' : List Act) :
    let s := exec (init cap prog) sched
    let s' := exec s sched'
    (s.chClosed = true →
        s'.chClosed = true ∧ msgs s' ++ s'.buf = msgs s ++ s.buf ∧ s'.sentLog = s.sentLog ∧
        (∃ k, s'.buf = s.buf.drop k)) ∧
    ((∃ r, (Op.recv, Res.null) ∈ s.hist r) →
        s.chClosed = true ∧ s.buf = [] ∧ s'.recvd = s.recvd ∧ s'.buf = [] ∧ s'.sentLog = s.sentLog) := by
  intro s s'
  have hi : Inv s := inv_exec cap prog sched
  refine ⟨fun hc => ?_, fun ⟨r, hr⟩ => ?_⟩
  · have := closed_exec s hi hc sched'
    exact ⟨this.closed, this.same, this.log, this.shrink⟩
  · obtain ⟨hc, hb⟩ := hi.obs.nullc r hr
    have h := closed_exec s hi hc sched'
    exact ⟨hc, hb, (h.frozen hb).1, (h.frozen hb).2, h.log⟩

/-- **After close, send reports failure**: once some `Close` call has returned, under any
continuation a send that starts is enabled and returns false at once; nothing is buffered or logged. -/
theorem C09_send_after_close_fails (cap : Nat) (prog : Nat → List Op) (sched sched' : List Act)
    (c t v : Nat) (rest : List Op)
    (hclose : (Op.close, Res.unit) ∈ (exec (init cap prog) sched).hist c)
    (hpc : (exec (exec (init cap prog) sched) sched').pc t = .idle)
    (hpg : (exec (exec (init cap prog) sched) sched').prog t = .send v :: rest) :
    ∃ s3, step (exec (exec (init cap prog) sched) sched') (.run t) = some s3 ∧
      s3.hist t = (exec (exec (init cap prog) sched) sched').hist t ++ [(Op.send v, Res.ok false)] ∧
      s3.buf = (exec (exec (init cap prog) sched) sched').buf ∧
      s3.sentLog = (exec (exec (init cap prog) sched) sched').sentLog ∧
      s3.recvd = (exec (exec (init cap prog) sched) sched').recvd := by
  have hi := inv_exec cap prog sched
  have hf := flag_exec _ sched' (hi.obs.closeRet c hclose)
  have hn := (inv_exec_from _ hi sched').proto.nopanic
  generalize exec (exec (init cap prog) sched) sched' = s at *
  simp [step, hn, stepRun, hpc, hpg, stepSendCheck, hf, St.finish]

/-- **Close is never blocked by senders, and wakes them**: while a closer waits for the mutex every
sender inside its send attempt can leave through `<-done` (returning false), and as soon as none is
inside, the closer's last step is enabled. (With `C09_no_panic`: that step closes an open channel.) -/
theorem C09_close_wakes_blocked_senders (cap : Nat) (prog : Nat → List Op) (sched : List Act) (c : Nat)
    (hpc : (exec (init cap prog) sched).pc c = .closeSignalled) :
    (∀ t, t ∈ (exec (init cap prog) sched).holders →
        ∃ s', step (exec (init cap prog) sched) (.abort t) = some s' ∧ s'.pc t = .idle ∧ t ∉ s'.holders) ∧
    ((exec (init cap prog) sched).holders = [] →
        ∃ s', step (exec (init cap prog) sched) (.run c) = some s' ∧ s'.chClosed = true ∧ s'.pc c = .idle) := by
  have hi := inv_exec cap prog sched
  have hw := hi.wf
  generalize exec (init cap prog) sched = s at *
  have hn := hi.proto.nopanic
  have hd := (hi.proto.thr c).cs hpc
  constructor
  · intro t ht
    have hpt := (hi.proto.thr t).hold.1 ht
    obtain ⟨v, rest, hp⟩ := (hw t).1 hpt
    simp [step, hn, stepAbortT, hpt, hp, stepAbort, hd.1, St.finish, St.release]
  · intro hh
    obtain ⟨rest, hp⟩ := (hw c).2 (by rw [hpc]; rfl)
    simp [step, hn, stepRun, hpc, hp, stepCloseFinal, hh, hd.2, St.finish]

/-- **The source follows the modelled protocol** (regenerated on every run from
`std/channel/*.go`): the fields are an RWMutex, an atomic flag and the two channels; `Send` holds the
shared lock from before the flag read until after a select that offers exactly `channel <- v` and
`<-done`; `Close` is CompareAndSwap, `close(done)`, then `close(channel)` inside the exclusive lock;
`Receive`/`IsClosed`/`Construct` have the expected shape; the yield hooks sit exactly between the
model's steps; no other method of `Channel` touches the flag, the lock or the channels. -/
theorem C09_locks_match_model :
    Generated.C09ChanLocks.fields = fieldProtocol ∧
    Generated.C09ChanLocks.extraFields = 0 ∧
    Generated.C09ChanLocks.send = sendProtocol ∧
    Generated.C09ChanLocks.close = closeProtocol ∧
    Generated.C09ChanLocks.receive = receiveProtocol ∧
    Generated.C09ChanLocks.isClosed = isClosedProtocol ∧
    Generated.C09ChanLocks.construct = constructProtocol ∧
    Generated.C09ChanLocks.others.length = 0 ∧
    Generated.C09ChanLocks.shapeChanged.length = 0 := by decide

/-- The script-level method objects (`$ch->send(...)` … in `channel_methods.go`) are thin wrappers:
each `Call` invokes exactly the one `Channel` method the model's operation stands for, once, with no
loop, no goroutine and no other `Channel` method (a shortcut through `IsClosed`/`Len` before
`Receive`, say, would be a different protocol from the one the theorems above are about). -/
def wrapperProtocol : List (String × List String) :=
  [("ChannelCapMethod", ["Cap"]), ("ChannelCloseMethod", ["Close"]),
   ("ChannelConstructMethod", ["Construct"]), ("ChannelIsClosedMethod", ["IsClosed"]),
   ("ChannelLenMethod", ["Len"]), ("ChannelReceiveMethod", ["Receive"]),
   ("ChannelSendMethod", ["Send"])]

theorem C09_script_methods_are_wrappers :
    Generated.C09ChanLocks.wrappers = wrapperProtocol := rfl

/-! ### the class / dispatch layer is write-free after construction

A script call `$ch->send($v)` reaches `Channel.Send` through the class object of the Channel instance
(`ChannelClass.GetMethod`, the `Channel*Method` objects) on whichever goroutine `spawn` started, with no
lock of its own. The model's steps start at `Channel`; what makes that sound is that everything in front
of it is immutable once the object exists. Regenerated from **every** file of `std/channel`: the types of
the package with their fields, every statement that writes anything but a plain local variable, the
package-level variables and the `go` statements. -/

/-- a dispatch-layer object may hold nothing but a reference to the channel or to its class object -/
def refOnly (ty : String) : Bool := ty == "*Channel" || ty == "*ChannelClass"

/-- the only writes of non-local state in the package: the two fields `Construct` replaces -/
def constructWrites : List String := ["Channel.Construct:c.channel", "Channel.Construct:c.done"]

/-- the events between the first `lock` and the next `unlock` -/
def insideLock : List Ev → List Ev
  | [] => []
  | .lock :: rest => rest.takeWhile (· != .unlock)
  | _ :: rest => insideLock rest

/-- Write-free after construction: every field of every type of the package other than `Channel` is a
reference (`*Channel` / `*ChannelClass`) — no map, slice, counter, flag or cache can live in the
dispatch layer —, the only statements of the package that write non-local state are the two
assignments of `Construct`, and those sit inside its exclusive lock (the lock facts of
`C09_locks_match_model`); no package-level variable other than the verif hook; no `go` statement. -/
def DispatchWriteFree (types : List (String × List (String × String))) (writes vars gos : List String)
    (construct : List Ev) : Bool :=
  types.all (fun t => t.2.all (fun f => refOnly f.2)) &&
  writes == constructWrites &&
  insideLock construct == [.makeChan, .makeDone, .storeFlag] &&
  vars.all (· == "VerifYield") &&
  gos.isEmpty

theorem C09_dispatch_layer_write_free :
    DispatchWriteFree Generated.C09ChanLocks.dispatchTypes Generated.C09ChanLocks.sharedWrites
      Generated.C09ChanLocks.pkgVars Generated.C09ChanLocks.goStmts Generated.C09ChanLocks.construct = true := by
  decide +kernel

/-- non-vacuity: the predicate rejects a lazily filled per-object cache (a map field written by
`GetMethod`), a write outside the lock, a package-level table and a goroutine started by the glue -/
example : DispatchWriteFree [("ChannelClass", [("channel", "*Channel"), ("methods", "map[string]data.Method")])]
    (constructWrites ++ ["ChannelClass.GetMethod:c.methods[name]"]) ["VerifYield"] [] constructProtocol = false := by decide +kernel
example : DispatchWriteFree [("ChannelClass", [("channel", "*Channel")])] constructWrites ["VerifYield"] []
    [.callClose, .makeChan, .lock, .makeDone, .storeFlag, .unlock] = false := by decide +kernel
example : DispatchWriteFree [] constructWrites ["VerifYield", "methodTable"] [] constructProtocol = false := by decide +kernel
example : DispatchWriteFree [] constructWrites [] ["ChannelCloseMethod.Call"] constructProtocol = false := by decide +kernel
example : DispatchWriteFree [("ChannelSendMethod", [("source", "*ChannelClass")])] constructWrites ["VerifYield"] []
    constructProtocol = true := by decide +kernel

/-! ### the pinned (pre-fix) protocol violated `no_panic`

`∀ cap prog sched, (ChanRacy.exec (ChanRacy.init cap prog) sched).panicked = false` is **false** for
the protocol the pinned tree had (plain bool `closed`, no lock). The two witnesses below were forced on
the pinned code and killed the interpreter; after fix `C09-close-send-race` the model is `Model.Chan`
and `C09_no_panic` holds at full strength, so none of the other theorems needs a `_partial` form. -/

def racyProg : Nat → List Op
  | 0 => [.send 1]
  | 1 => [.close]
  | 2 => [.close]
  | _ => []

/-- sender reads `closed = false`; closer checks and closes; sender sends → `send on closed channel` -/
theorem C09_prefix_no_panic_counterexample_send_close :
    ¬ ∀ (cap : Nat) (prog : Nat → List Op) (sched : List Nat),
      (Model.ChanRacy.exec (Model.ChanRacy.init cap prog) sched).panicked = false := by
  intro h
  have := h 1 racyProg [0, 1, 1, 0]
  revert this
  decide

/-- two closers both read `closed = false`; both close → `close of closed channel` -/
theorem C09_prefix_no_panic_counterexample_double_close :
    ¬ ∀ (cap : Nat) (prog : Nat → List Op) (sched : List Nat),
      (Model.ChanRacy.exec (Model.ChanRacy.init cap prog) sched).panicked = false := by
  intro h
  have := h 0 racyProg [1, 2, 1, 2]
  revert this
  decide

/-! ### non-vacuity: a concrete run (2 producers, 1 consumer, 1 closer, capacity 1) in which a send
succeeds, one is woken by close and fails, values are received, and a receive returns null -/

def demoProg : Nat → List Op
  | 0 => [.send 1, .send 2]
  | 1 => [.send 7]
  | 2 => [.recv, .recv, .recv]
  | 3 => [.close]
  | _ => []

def demoSched : List Act :=
  [.run 0, .run 0, .run 0, .run 1, .run 3, .run 3, .abort 0, .abort 1, .run 3, .run 2, .run 2, .run 1]

example : (exec (init 1 demoProg) demoSched).hist 0 = [(.send 1, .ok true), (.send 2, .ok false)] := by decide
example : (exec (init 1 demoProg) demoSched).hist 2 = [(.recv, .got ⟨0, 0, 1⟩), (.recv, .null)] := by decide
example : (exec (init 1 demoProg) demoSched).chClosed = true ∧ (exec (init 1 demoProg) demoSched).buf = [] := by decide
example : (Op.close, Res.unit) ∈ (exec (init 1 demoProg) demoSched).hist 3 := by decide
example : (exec (init 1 demoProg) (demoSched.take 6)).pc 3 = .closeSignalled ∧
    (exec (init 1 demoProg) (demoSched.take 6)).holders = [1, 0] := by decide
/-- unbuffered rendezvous is reachable too -/
example : (exec (init 0 demoProg) [.run 0, .hand 0 2]).hist 2 = [(.recv, .got ⟨0, 0, 1⟩)] := by decide

end C09
