import Proofs.Lemmas.RWLin
import Proofs.Lemmas.Reg
import Proofs.Lemmas.Cpm
import Proofs.Lemmas.Memo
import Generated.C10VmLocks
import Generated.C10PathLocks
import Proofs.Lemmas.Publish
import Generated.C10Publish
import Proofs.Lemmas.Split
import Generated.C10LockNames
/-!
# C10 — VM registries stay consistent under concurrent definition and lookup

The lock protocol (`Model.RW`); behind it the sequential registry and the class-path manager
(`Model.Reg`, `Model.Cpm`); lookups that keep derived state (`Model.Memo`); publication of declaration
objects (`Model.Publish`); a lock split (`Model.Split`).  Each discipline is read off facts regenerated
from the source on every run (`Generated.C10*`).

Trusted, not proved: `sync.RWMutex` behaves as `Model.RW.enter/leave`; Go's memory
model (accesses that never overlap conflictingly behave atomically).  The race
detector and the fatal-error check of the Go runtime sample the real lock in the
harness.
-/
namespace C10
open Model.RW Model.Reg Proofs.RW Proofs.Reg Proofs.RegConc

/-- **Exclusion.** If every access of every section is permitted by the lock the
section holds (write under `Lock`; read under `RLock` or `Lock`), then in every
state reachable under every schedule — any number of threads, any number of
sections — no two threads are simultaneously inside accesses of the same map of
which one is a write.  (Go: no `concurrent map writes`, no race report.) -/
theorem RW_exclusion {Λ L S : Type} (store : S) (loc : Tid → L) (prog : Tid → List (Sec Λ L S))
    (hd : ∀ t, ∀ sec ∈ prog t, sec.ok) (sched : List Tid) (t1 t2 : Tid) :
    ¬ Conflict (run (mkInit store loc prog) sched) t1 t2 :=
  inv_no_conflict _ (reach store loc prog hd sched).1 t1 t2

/-- the protocol of the pinned tree before the fix: `AddClass` inserts into
`classMap` while holding only `RLock` -/
def addClassUnderRLock : Sec Unit Unit Unit := ⟨(), .R, [.wr "classMap" (fun l s => (l, s))]⟩

/-- **Negation witness (pinned tree before fixes/C10-registry-locks.patch).**
Discipline is necessary: two goroutines running `AddClass` under `RLock` are
both inside the map write after four steps.  The harness replays it on the real
code as the smallest stress configuration (2 goroutines defining classes). -/
theorem RW_exclusion_counterexample :
    ¬ (∀ (prog : Tid → List (Sec Unit Unit Unit)) (sched : List Tid) (t1 t2 : Tid),
        ¬ Conflict (run (mkInit () (fun _ => ()) prog) sched) t1 t2) :=
  fun h => h (fun t => if t < 2 then [addClassUnderRLock] else []) [0, 1, 0, 1] 0 1
    (wr_under_RLock_conflict "classMap")

/-- **Sections are atomic.** While a thread is inside a section of a disciplined
program, what it still has to execute, run on the *current* store, gives exactly
the private result — and for a `Lock` section exactly the store — that executing
the whole section in one piece gives on the sequential witness (the log of
completed sections, in release order, run one after the other).  So a `Lock`
section sees no interleaved access and an `RLock` section no interleaved write. -/
theorem RW_sections_atomic {Λ L S : Type} (store : S) (loc : Tid → L) (prog : Tid → List (Sec Λ L S))
    (hd : ∀ t, ∀ sec ∈ prog t, sec.ok) (sched : List Tid) (t : Tid) (sec : Sec Λ L S) :
    let s := run (mkInit store loc prog) sched
    let w := seqExec s.log (store, loc)
    sec ∈ (s.thr t).pc.sec →
      (execAccs (s.thr t).pc.todo ((s.thr t).loc, s.store)).1 = (execAccs sec.accs (w.2 t, w.1)).1 ∧
      (sec.mode = .W →
        (execAccs (s.thr t).pc.todo ((s.thr t).loc, s.store)).2 = (execAccs sec.accs (w.2 t, w.1)).2) :=
  fun hs => have hl := (reach store loc prog hd sched).2; ⟨(hl.thr t).loc sec hs, (hl.thr t).store sec hs⟩

/-- **Sequential witness (generic).** For a disciplined program and any schedule:
the log of completed sections is an interleaving of the threads' programs
(per thread: completed ++ current ++ remaining = its program); every thread that
is between sections holds exactly the private state, and — whenever no writer is
inside — the store is exactly the store, that running the logged sections one
after the other from the initial state produces. -/
theorem RW_linearizable {Λ L S : Type} (store : S) (loc : Tid → L) (prog : Tid → List (Sec Λ L S))
    (hd : ∀ t, ∀ sec ∈ prog t, sec.ok) (sched : List Tid) :
    let s := run (mkInit store loc prog) sched
    let w := seqExec s.log (store, loc)
    (∀ t, logOf s.log t ++ (s.thr t).pc.sec ++ (s.thr t).prog = prog t) ∧
    (∀ t, (s.thr t).pc = .idle → (s.thr t).loc = w.2 t) ∧
    (s.writer = none → s.store = w.1) :=
  have hl := (reach store loc prog hd sched).2; ⟨hl.order, fun t => (hl.thr t).idle, hl.store⟩

/-- **No deadlock.** In every reachable state of a disciplined program in which
some thread has not finished, some thread has an enabled step (sections do not
nest and nothing is called while the lock is held — the `heldCalls` obligation
below — so every section runs to its release). -/
theorem RW_no_deadlock {Λ L S : Type} (store : S) (loc : Tid → L) (prog : Tid → List (Sec Λ L S))
    (hd : ∀ t, ∀ sec ∈ prog t, sec.ok) (sched : List Tid) (t : Tid) :
    let s := run (mkInit store loc prog) sched
    ((s.thr t).pc ≠ .idle ∨ (s.thr t).prog ≠ []) → ∃ u, enabled s u = true :=
  exists_enabled _ (reach store loc prog hd sched).1 t

/-- **Obligation (regenerated every run).** In the current `runtime/vm.go` every write of a
registry map happens under `vm.mu.Lock`, every read under `RLock` or `Lock`, no
method calls a loader (`LoadClass`, `LoadAndRun`, a function value, …) or a
method that takes `vm.mu` again while holding the lock, and the translator
understood every method.  Known findings: none after
fixes/C10-registry-locks.patch (status "fixed"); on the tree before the patch
this list is `AddClass/AddInterface/AddFunc:…:write-under-RLock` and the
unlocked readers, and the build fails. -/
theorem C10_vm_locks_disciplined :
    violations Generated.C10VmLocks.facts Generated.C10VmLocks.heldCalls Generated.C10VmLocks.shape = [] := by
  decide +kernel

/-- the lock each exported registry method holds around its map accesses, read off
the regenerated facts -/
def generatedLock : String → Mode := methodMode Generated.C10VmLocks.apiFacts

/-- **Obligation.** The table read off the facts is disciplined for every registry call
of `Model.Reg.Op` (writers hold `Lock`, readers `RLock`). -/
theorem C10_generated_lock_table : discB generatedLock = true := by decide +kernel

/-! ## The resolution path behind the registry maps: the class-path manager -/

/-- **Obligation (regenerated every run).** In the current `parser/class_path_manager.go`
every write of a namespace node's `children` map or `paths` slice — including the
memoising insert of `findNamespaceNode`, reached from `FindClassFile` — happens under
`m.mu.Lock`, every read under `RLock` or `Lock`, nothing that can load a class or take
the mutex again is called while it is held, the translator understood every method, and
no other struct / package-level variable of `parser/` and `runtime/` carries a mutex the
translator does not know.  (A `FindClassFile` that takes only `RLock` fails here with
`findNamespaceNode:children:write-under-RLock`.) -/
theorem C10_path_locks_disciplined :
    violations Generated.C10PathLocks.facts Generated.C10PathLocks.heldCalls Generated.C10PathLocks.shape = [] := by
  decide +kernel

/-- the lock each exported method of the class-path manager holds around its accesses of
the namespace tree, read off the regenerated facts -/
def pathLock : String → Mode := methodMode Generated.C10PathLocks.apiFacts

/-- **Obligation.** Both calls of `Model.Cpm.Op` write the tree (`FindClassFile` memoises),
so both hold `Lock` in the table read off the facts. -/
theorem C10_path_lock_table : Proofs.CpmConc.discB pathLock = true := by decide +kernel

/-- **Exclusion and linearizability of the class-path manager** for the regenerated lock
table, over every file system `d`: goroutines (parser clones, request handlers, coroutines)
issue arbitrary sequences of `AddNamespace` / `FindClassFile`; under every schedule no two of
them are inside conflicting accesses of the namespace tree, every goroutine has received
exactly the answers the *sequential* manager `Model.Cpm.step` gives when the completed calls
are executed one after the other in the order of their release, and whenever no writer is
inside, the tree (with everything memoised so far) is the tree of that sequential run. -/
theorem C10_path_linearizable_generated (d : Model.Cpm.Disk) (progs : Tid → List Model.Cpm.Op) (sched : List Tid) :
    let s := run (mkInit Model.Cpm.init (fun _ => []) (fun t => (progs t).map (Model.Cpm.secOf d pathLock))) sched
    let lin := s.log.map (fun e => (e.1, e.2.lbl))
    (∀ t, ((lin.filter (fun e => e.1 == t)).map (·.2)) ++ (s.thr t).pc.sec.map (·.lbl) ++
        (s.thr t).prog.map (·.lbl) = progs t) ∧
    (∀ t, (s.thr t).pc = .idle →
        (s.thr t).loc = (Proofs.CpmConc.cpmRun d lin (Model.Cpm.init, fun _ => [])).2 t) ∧
    (s.writer = none → s.store = Model.Cpm.runOps d Model.Cpm.init (lin.map (·.2))) ∧
    (∀ t1 t2, ¬ Conflict s t1 t2) := by
  -- `cpmRun d lin` and `runOps d` unfold to the folds of `callStep (step d)` in which `calls_linearizable` speaks
  exact calls_linearizable (Model.Cpm.secOf d pathLock) (fun _ => rfl)
    (Proofs.CpmConc.secOf_ok d pathLock C10_path_lock_table)
    (Model.Cpm.step d) (Proofs.CpmConc.seqStep_secOf d pathLock) Model.Cpm.init (fun _ => []) progs sched

/-- the protocol of a `FindClassFile` that takes only the read half of the mutex although
`findNamespaceNode` inserts into `children` -/
def findUnderRLock : Sec Unit Unit Unit := ⟨(), .R, [.wr "children" (fun l s => (l, s))]⟩

/-- **Discipline is necessary for the manager too**: two goroutines resolving not-yet-visited
namespaces under `RLock` are both inside the insert into `children` after four steps (Go:
`fatal error: concurrent map writes`).  The harness's `find` / `parse` / `load` / `temp`
streams look for exactly this on the real code. -/
theorem C10_path_exclusion_needs_lock :
    Conflict (run (mkInit () (fun _ => ()) (fun t => if t < 2 then [findUnderRLock] else [])) [0, 1, 0, 1]) 0 1 :=
  wr_under_RLock_conflict "children"

/-- **A registered namespace directory stays visible to every later lookup** (the class-path
manager's share of "every registration that reported success is visible"): after
`AddNamespace(ns, path)` with an existing path, whatever `AddNamespace` / `FindClassFile` calls
follow (each of them may memoise further nodes), the node of `ns` still lists `path`, and a
lookup of any class of that namespace whose file lies in `path` finds a file — without
memoising anything, i.e. from then on such a lookup really is read-only.  Holds for every
well-formed tree (root present, prefix-closed), in particular for every tree reachable from
the empty manager (`Proofs.Cpm.runOps_spec`). -/
theorem C10_path_registered_visible (d : Model.Cpm.Disk) (ns : Model.Cpm.Nodes) (hwf : Proofs.Cpm.WF ns)
    (parts : List String) (path : Model.Cpm.Dir) (ops : List Model.Cpm.Op)
    (hparts : parts ≠ []) (hpath : path ≠ "") (hex : d.exist path = true) :
    let ns₂ := Model.Cpm.runOps d (Model.Cpm.addNamespace d ns parts path) ops
    (∃ ps, Model.Cpm.look ns₂ parts = some ps ∧ path ∈ ps) ∧
    ∀ cls full f, d.file path cls = some f →
      (Model.Cpm.find d ns₂ parts cls full).2 ≠ none ∧ (Model.Cpm.find d ns₂ parts cls full).1 = ns₂ := by
  intro ns₂
  have hadd : Model.Cpm.addNamespace d ns parts path = Model.Cpm.addWalk ns [] parts path := by
    simp [Model.Cpm.addNamespace, hpath, hex]
  obtain ⟨a1, a2, a3⟩ := Proofs.Cpm.addWalk_spec parts path ns [] hwf.2 hwf.1
  have hwf1 : Proofs.Cpm.WF (Model.Cpm.addNamespace d ns parts path) := hadd ▸ ⟨a2.exists hwf.1, a1⟩
  obtain ⟨hwf2, hm⟩ := Proofs.Cpm.runOps_spec d ops _ hwf1
  obtain ⟨ps, hps, hin⟩ := a3 hparts
  obtain ⟨ps', hps', hsub⟩ := hm parts ps (hadd ▸ hps)
  refine ⟨⟨ps', hps', hsub _ hin⟩, fun cls full f hf => ?_⟩
  -- the node exists and the tree is prefix-closed: the walk goes straight to it and memoises nothing
  have hps'' : Model.Cpm.look ns₂ parts = some ps' := hps'
  have hw := Proofs.Cpm.walk_of_node d parts ns₂ [] hwf2.2 (by rw [List.nil_append, hps'']; nofun)
  have hfind : Model.Cpm.find d ns₂ parts cls full = (ns₂, Model.Cpm.findFile d cls full ps') := by
    simp only [Model.Cpm.find, hw, List.nil_append, hps'']
  rw [hfind]
  exact ⟨Proofs.Cpm.findFile_hit d cls full ps' path f (hsub _ hin) hf, rfl⟩

/-- **Linearizability of the registry.** Goroutines issue arbitrary sequences of
single-section registry calls (`progs`), each call executing `Model.Reg.step`
under the lock its method takes; the lock table is disciplined.  Then under every
schedule, with `lin` = the completed calls in the order of their release:
`lin` is an interleaving of the goroutines' call sequences; whenever no writer
is inside, the registry is exactly `runOps init lin`; and every goroutine has
received exactly the results the *sequential* registry gives when the calls are
executed one after the other in the order `lin`.  `single` is not used by the proof;
it records which calls `secOf` models faithfully. -/
theorem C10_linearizable (lockOf : String → Mode) (hd : Disc lockOf) (progs : Tid → List Op)
    (_single : ∀ t, ∀ op ∈ progs t, op.single = true) (sched : List Tid) :
    let s := run (mkInit Model.Reg.init (fun _ => []) (fun t => (progs t).map (secOf lockOf))) sched
    let lin := s.log.map (fun e => (e.1, e.2.lbl))
    let w := regRun lin (Model.Reg.init, fun _ => [])
    (∀ t, ((lin.filter (fun e => e.1 == t)).map (·.2)) ++ (s.thr t).pc.sec.map (·.lbl) ++
        (s.thr t).prog.map (·.lbl) = progs t) ∧
    (∀ t, (s.thr t).pc = .idle → (s.thr t).loc = w.2 t) ∧
    (s.writer = none → s.store = runOps Model.Reg.init (lin.map (·.2))) := by
  intro s lin w
  obtain ⟨h1, h2, h3, _⟩ := calls_linearizable (secOf lockOf) (fun _ => rfl) (secOf_ok lockOf hd) step
    (seqStep_secOf lockOf) Model.Reg.init (fun _ => []) progs sched
  -- `w` is `regRun lin …`, which unfolds to `lin.foldl (callStep step) …` (`regStep` is `callStep step` written out)
  exact ⟨h1, h2, h3⟩

/-- `C10_linearizable` for the lock table regenerated from the current source. -/
theorem C10_linearizable_generated (progs : Tid → List Op)
    (single : ∀ t, ∀ op ∈ progs t, op.single = true) (sched : List Tid) :
    let s := run (mkInit Model.Reg.init (fun _ => []) (fun t => (progs t).map (secOf generatedLock))) sched
    let lin := s.log.map (fun e => (e.1, e.2.lbl))
    (∀ t, (s.thr t).pc = .idle → (s.thr t).loc = (regRun lin (Model.Reg.init, fun _ => [])).2 t) ∧
    (s.writer = none → s.store = runOps Model.Reg.init (lin.map (·.2))) ∧
    (∀ t1 t2, ¬ Conflict s t1 t2) := by
  intro s lin
  have hd := disc_of_discB generatedLock C10_generated_lock_table
  obtain ⟨_, h2, h3⟩ := C10_linearizable generatedLock hd progs single sched
  -- exclusion is the fourth conjunct of the instance of `calls_linearizable` that `C10_linearizable` is read off
  exact ⟨h2, h3, (calls_linearizable (secOf generatedLock) (fun _ => rfl) (secOf_ok generatedLock hd) step
    (seqStep_secOf generatedLock) Model.Reg.init (fun _ => []) progs sched).2.2.2⟩

/-! ## Lookups that keep derived state: a memo of lookup answers next to the registry

`C10_linearizable` covers calls that are ONE locked section over the guarded maps.  A lookup that
remembers its answer in state of its own (a `sync.Map` of known misses, consulted without the lock and
cleared by `AddClass`) is several atomic steps: `Load` · read section · `Store`.  `Model.Memo` has
exactly these steps; `Disc` says whether there is a memo and where the `Store` happens. -/

/-- **Linearizability with a lookup memo.** Under a discipline that is `ok` (no memo, or the miss is
recorded inside the read section that observed it), for any number of goroutines issuing arbitrary
sequences of `add` / `get` and every schedule: the log — every call at one of its own steps, i.e.
between its invocation and its response — is an interleaving of the programs; read as a sequential
history it yields exactly the registry and exactly the logged results under the sequential
specification `specStep`; and every goroutine has received exactly the results logged for it. -/
theorem C10_memo_linearizable (d : Model.Memo.Disc) (hd : d.ok = true) (progs : Tid → List Model.Memo.Op)
    (sched : List Tid) :
    let s := Model.Memo.run d (Model.Memo.init progs) sched
    (∀ t, (Model.Memo.logOf s.log t).map (·.1) ++ (s.thr t).pc.pending ++ (s.thr t).prog = progs t) ∧
    Model.Memo.specRun [] (s.log.map (·.2.1)) = (s.reg, s.log.map (·.2.2)) ∧
    (∀ t, (s.thr t).out = (Model.Memo.logOf s.log t).map (·.2)) := by
  intro s
  have hi := Proofs.Memo.inv_run d hd progs _ sched (Proofs.Memo.inv_init progs)
  exact ⟨hi.order, hi.lin, hi.outs⟩

/-- the statement of visibility for one discipline: once `add x` has reported success, every `get x`
that takes effect afterwards — in particular every lookup invoked afterwards — hits, whatever the
other goroutines do and however long the history goes on -/
def MemoVisible (d : Model.Memo.Disc) : Prop :=
  ∀ (progs : Tid → List Model.Memo.Op) (s₁ s₂ : List Tid) (t : Tid) (x : Model.Memo.Name),
    (t, Model.Memo.Op.add x, Model.Memo.Res.ok) ∈ (Model.Memo.run d (Model.Memo.init progs) s₁).log →
    ∃ ext, (Model.Memo.run d (Model.Memo.init progs) (s₁ ++ s₂)).log =
        (Model.Memo.run d (Model.Memo.init progs) s₁).log ++ ext ∧
      ∀ e ∈ ext, e.2.1 = .get x → e.2.2 = .hit

/-- **A successful registration is visible to all later lookups — also through the memo.**
Full statement: `∀ d, MemoVisible d` (FALSE, see the counterexample); this is the `_partial` form with
the hypothesis that excludes the defect: the discipline is `ok`. -/
theorem C10_memo_registered_visible (d : Model.Memo.Disc) (hd : d.ok = true) : MemoVisible d := by
  intro progs s₁ s₂ t x hadd
  have hi := Proofs.Memo.inv_run d hd progs _ s₁ (Proofs.Memo.inv_init progs)
  rw [Proofs.Memo.run_append]
  obtain ⟨hi₂, ext, hext⟩ := Proofs.Memo.run_spec d hd progs _ s₂ hi
  have hlin := hi₂.lin
  rw [← hext, List.map_append, List.map_append, Proofs.Memo.specRun_append, hi.lin] at hlin
  obtain ⟨h1, h2⟩ := Prod.mk.inj hlin
  exact ⟨ext, hext.symm, Proofs.Memo.spec_hits (hi.added t x hadd) ext _ (Prod.ext h1 (List.append_cancel_left h2))⟩

/-- the discipline of a lookup that records its miss after leaving the read section -/
def storeOutside : Model.Memo.Disc := ⟨true, false⟩

/-- goroutine 0 registers name 7, goroutine 1 looks it up twice -/
def staleProgs : Tid → List Model.Memo.Op :=
  fun t => if t = 0 then [.add 7] else if t = 1 then [.get 7, .get 7] else []

/-- **Negation witness: the discipline is necessary.** With the `Store` outside the section, under the
schedule `Load₁ · scan₁ (miss) · add₀ (ok, Clear) · Store₁`: goroutine 0's `add 7` has reported success
and goroutine 1 has not yet invoked its second lookup; that lookup — invoked after the registration
returned — answers `miss`, and so does every later one.  Every step is atomic and properly locked
(no data race, nothing for the race detector).  The harness's overlap streams drive exactly this
window on the real VM (a registrant and first-time probers of one fresh name released together, then
a lookup after the join). -/
theorem C10_memo_stale_counterexample : ¬ (∀ d, MemoVisible d) := by
  intro h
  obtain ⟨ext, hlog, hhit⟩ := h storeOutside staleProgs [1, 1, 0, 1] [1] 0 7 (by decide)
  have hext : ext = [(1, .get 7, .miss)] := by
    have h2 : (Model.Memo.run storeOutside (Model.Memo.init staleProgs) ([1, 1, 0, 1] ++ [1])).log =
        (Model.Memo.run storeOutside (Model.Memo.init staleProgs) [1, 1, 0, 1]).log ++ [(1, .get 7, .miss)] := by
      decide
    exact (List.append_cancel_left (hlog.symm.trans h2)).symm ▸ rfl
  have := hhit (1, .get 7, .miss) (by rw [hext]; simp) rfl
  cases this

/-- **Obligation (regenerated every run).** No method on the resolution path of `runtime/vm.go` or
`parser/class_path_manager.go` touches AUXILIARY state — a field of `VM` / the manager that is not in the
translator's tables, or a package-level variable — outside the discipline: plain state obeys the lock
like a guarded map; a self-synchronised container (`sync.Map`, `atomic.*`) may be read anywhere but is
updated only inside a critical section that also accesses the registry.  (A `classMiss sync.Map` stored
into after `RUnlock` fails here with `findClassCaseInsensitive:classMiss:memo-updated-outside-every-critical-section`.) -/
theorem C10_vm_aux_disciplined :
    Model.Memo.auxViolations Generated.C10VmLocks.auxFacts = [] ∧
    Model.Memo.auxViolations Generated.C10PathLocks.auxFacts = [] := by
  decide +kernel

/-- facts that pass `auxViolations` describe a discipline that is `ok` -/
theorem memoDisc_ok_of_disciplined (aux : List Model.Memo.AuxFact) (h : Model.Memo.auxViolations aux = []) :
    (Model.Memo.memoDiscOf aux).ok = true := by
  have hb : ∀ f ∈ aux, f.bad = false := by
    simpa [Model.Memo.auxViolations, List.filter_eq_nil_iff] using h
  -- per fact: not `bad` means the update of a self-synchronised container is inside a section with the registry
  have key : ∀ (sy w : Bool) (k : Kind) (m : Mode),
      (if sy then k == .wr && (m == .none || !w) else !permits m k) = false →
      (!(sy && k == .wr) || (m != .none && w)) = true := by
    intro sy w k m
    cases sy
    · exact fun _ => rfl
    · cases k
      · exact fun _ => rfl
      · cases m <;> cases w <;> decide
  have hall : (Model.Memo.memoDiscOf aux).storeInside = true :=
    List.all_eq_true.mpr fun f hf => key _ _ _ _ (hb f hf)
  simp [Model.Memo.Disc.ok, hall]

/-- the discipline of the current source, read off the regenerated facts -/
def generatedMemoDisc : Model.Memo.Disc := Model.Memo.memoDiscOf Generated.C10VmLocks.auxFacts

/-- `C10_memo_linearizable` and `C10_memo_registered_visible` for the discipline regenerated from the
current source. -/
theorem C10_memo_linearizable_generated (progs : Tid → List Model.Memo.Op) (sched : List Tid) :
    let s := Model.Memo.run generatedMemoDisc (Model.Memo.init progs) sched
    Model.Memo.specRun [] (s.log.map (·.2.1)) = (s.reg, s.log.map (·.2.2)) ∧
    (∀ t, (s.thr t).out = (Model.Memo.logOf s.log t).map (·.2)) ∧
    MemoVisible generatedMemoDisc := by
  intro s
  have hd := memoDisc_ok_of_disciplined _ C10_vm_aux_disciplined.1
  obtain ⟨_, h2, h3⟩ := C10_memo_linearizable generatedMemoDisc hd progs sched
  exact ⟨h2, h3, C10_memo_registered_visible generatedMemoDisc hd⟩

/-! ## Publication: what is put into the registry is finished

A registration publishes a POINTER.  `Model.Publish`: the registrant of object `o` runs its program (field
writes and one `publish`), any number of goroutines look `o` up at any time and get a miss or the object as
it is at that moment.  The user's reading of "register class C" is one step: a lookup misses or returns the
finished class (`specLook`). -/

/-- every observation of every schedule returns a finished object -/
def PublishComplete (progs : Nat → Model.Publish.Prog) : Prop :=
  ∀ sched : List Model.Publish.Ev, ∀ e ∈ (Model.Publish.run (Model.Publish.init progs) sched).log,
    ∀ h, e.2.2 = some h → h = Model.Publish.final (progs e.2.1)

/-- **What an observer can miss.** For EVERY program (any discipline), any number of objects and observing
goroutines, every schedule: an object returned by a lookup lacks, compared with the finished object, only
writes that follow the publication step in its registrant's program — `seen ++ missing = final`,
`missing ⊆ postWrites`. -/
theorem C10_publish_lacks_only_post_writes (progs : Nat → Model.Publish.Prog) (sched : List Model.Publish.Ev) :
    ∀ e ∈ (Model.Publish.run (Model.Publish.init progs) sched).log, ∀ h, e.2.2 = some h →
      ∃ m, h ++ m = Model.Publish.final (progs e.2.1) ∧ ∀ x ∈ m, x ∈ Model.Publish.postWrites (progs e.2.1) := by
  intro e he h hh
  obtain ⟨n, hn⟩ := (Proofs.Publish.inv_run progs _ (Proofs.Publish.inv_init progs) sched).log e he
  rw [hn, Proofs.Publish.look_stepN] at hh
  split at hh
  · rename_i hc
    cases hh
    exact Proofs.Publish.seen_lacks_post _ n hc
  · cases hh

/-- **Linearizable publication** (full strength): observers only ever see finished objects — under every
schedule, for any number of objects and goroutines — IF AND ONLY IF no registrant writes to its object after
publishing it.  (⇐: the publication step is the linearization point of the whole construction; ⇒: stop the
registrant right after `publish` and look.) -/
theorem C10_publish_complete_iff (progs : Nat → Model.Publish.Prog) :
    PublishComplete progs ↔ ∀ o, (progs o).ok = true := by
  constructor
  · intro hc o
    by_cases hp : Model.Publish.postWrites (progs o) = []
    · simp [Model.Publish.Prog.ok, hp]
    · exfalso
      obtain ⟨h1, h2⟩ := Proofs.Publish.at_pubIdx (progs o) hp
      let sched := List.replicate (Model.Publish.pubIdx (progs o)) (Model.Publish.Ev.reg o) ++ [Model.Publish.Ev.obs 0 o]
      obtain ⟨ho, hl⟩ := Proofs.Publish.run_regs (Model.Publish.init progs) o (Model.Publish.pubIdx (progs o))
      have hlog : (Model.Publish.run (Model.Publish.init progs) sched).log =
          [(0, o, some (Model.Publish.inits ((progs o).take (Model.Publish.pubIdx (progs o)))))] := by
        simp only [sched, Model.Publish.run, List.foldl_append, List.foldl_cons, List.foldl_nil, Model.Publish.step]
        simp only [Model.Publish.run] at ho hl
        rw [hl, ho]
        have h1' : Model.Publish.Step.publish ∈ List.take (Model.Publish.pubIdx (progs o)) (progs o) := by
          simpa using h1
        simp [Model.Publish.init, Proofs.Publish.look_stepN, h1']
      have := hc sched _ (by rw [hlog]; exact List.mem_singleton.mpr rfl) _ rfl
      simp only [Model.Publish.final] at this
      rw [this] at h2
      exact hp (by simpa using h2)
  · intro hok sched e he h hh
    obtain ⟨m, hm, hsub⟩ := C10_publish_lacks_only_post_writes progs sched e he h hh
    exact Proofs.Publish.eq_of_lacks_nil hm hsub (Proofs.Publish.postWrites_of_ok (hok e.2.1))

/-- **Refinement of the one-step reading.** Under the discipline every logged observation is the answer of the
specification in which registration is ONE step taken at the publication point (`specLook`: miss before,
the FINISHED object after), for the number of steps the registrant had taken. -/
theorem C10_publish_linearizable (progs : Nat → Model.Publish.Prog) (hok : ∀ o, (progs o).ok = true)
    (sched : List Model.Publish.Ev) :
    ∀ e ∈ (Model.Publish.run (Model.Publish.init progs) sched).log,
      ∃ n, e.2.2 = Model.Publish.specLook (progs e.2.1) n := by
  intro e he
  obtain ⟨n, hn⟩ := (Proofs.Publish.inv_run progs _ (Proofs.Publish.inv_init progs) sched).log e he
  refine ⟨n, ?_⟩
  rw [hn, Proofs.Publish.look_stepN]
  simp only [Model.Publish.specLook]
  split
  · rename_i hc
    obtain ⟨m, hm, hsub⟩ := Proofs.Publish.seen_lacks_post (progs e.2.1) n hc
    rw [Proofs.Publish.eq_of_lacks_nil hm hsub (Proofs.Publish.postWrites_of_ok (hok e.2.1))]
  · rfl

/-- the seeded shape: the class is registered, THEN the inherited constructor is stored -/
def publishBeforeConstruct : Nat → Model.Publish.Prog :=
  fun _ => [.init "Methods", .publish, .init "Construct"]

/-- **Negation witness** (`ClassParser.Parse` with `AddClass` moved before the search for the inherited
constructor): the registrant publishes, a lookup returns the class without `Construct`, the registrant
stores it.  The harness finds the same on the real parser (publish stream). -/
theorem C10_publish_counterexample : ¬ PublishComplete publishBeforeConstruct := by
  intro h
  have := h [.reg 0, .reg 0, .obs 1 0, .reg 0] (1, 0, some ["Methods"]) (by decide) _ rfl
  revert this; decide

/-- the unchanged shape: constructor resolved, then registered -/
def constructBeforePublish : Nat → Model.Publish.Prog :=
  fun _ => [.init "Methods", .init "Construct", .publish]

example : PublishComplete constructBeforePublish :=
  (C10_publish_complete_iff _).mpr (fun _ => by simp only [constructBeforePublish]; decide)

/-- post-publication writes of the unchanged tree (deliberate in the source, each a window in which another
goroutine sees the declaration without them): annotations are evaluated with the class
registered (an annotation class may refer to it); an enum's cases are instances of the enum, created with `new`
after the class is registered; an interface registers itself before its constants are evaluated ("avoid the
self-dependency loop").  The last line (an interface normalising its parents' names after registering itself) matches nothing
on /repo after the repair 4a14ba4, where the normalisation stands before `AddInterface`; the obligation asks for `⊆` only. -/
def knownPostPublicationWrites : List String := [
  "parser/class_parser.go:ClassParser.Parse:AddClass(classStmt):callClassAnnotation→AddAnnotations()",
  "parser/trait_parser.go:TraitParser.Parse:AddClass(trait):callClassAnnotation→AddAnnotations()",
  "parser/enum_parser.go:EnumParser.Parse:AddClass(classStmt):StaticProperty.Store",
  "parser/interface_parser.go:InterfaceParser.Parse:AddInterface(i):StaticProperty.Store",
  "parser/interface_parser.go:InterfaceParser.Parse:AddInterface(i):Extends[]"]

/-- **Obligation on the regenerated facts** (`Generated.C10Publish`, from parser/, node/, runtime/ on every
run): no write to a published object after its publication, beyond the known ones; the scan found the
registration sites it exists for.  (`AddClass` before `c.Construct = inherited` fails here with
`…ClassParser.Parse:AddClass(classStmt):Construct`.) -/
theorem C10_publication_disciplined :
    (Model.Publish.pubViolations Generated.C10Publish.pubFacts).all (knownPostPublicationWrites.contains ·) = true ∧
    Generated.C10Publish.shape = [] := by
  decide +kernel

/-- `progOf` puts exactly the fact's `after` list behind the publication -/
theorem postWrites_progOf (f : Model.Publish.PubFact) : Model.Publish.postWrites (Model.Publish.progOf f) = f.after := by
  have h : ∀ (b : List String) (r : Model.Publish.Prog),
      Model.Publish.afterPub (b.map .init ++ (.publish :: r)) = r := by
    intro b r
    induction b with
    | nil => rfl
    | cons x b ih => simpa [Model.Publish.afterPub] using ih
  simp only [Model.Publish.postWrites, Model.Publish.progOf, List.append_assoc, List.singleton_append, h]
  exact Proofs.Publish.inits_map_init _

/-- **The regenerated sites.** Objects registered at the sites of the current source (object `k` by the
`k`-th site; beyond the table: nothing), any number of observers, every schedule: an observed declaration
lacks at most writes listed for its site in `knownPostPublicationWrites`'s terms — `seen ++ missing = final`
with `missing ⊆ after` of that site; for a site with no write after the publication the observed declaration
IS the finished one. -/
theorem C10_publish_generated (sched : List Model.Publish.Ev) :
    let progs : Nat → Model.Publish.Prog := fun k =>
      (Generated.C10Publish.pubFacts[k]?.map Model.Publish.progOf).getD []
    ∀ e ∈ (Model.Publish.run (Model.Publish.init progs) sched).log, ∀ h, e.2.2 = some h →
      ∃ f, Generated.C10Publish.pubFacts[e.2.1]? = some f ∧
        ∃ m, h ++ m = Model.Publish.final (Model.Publish.progOf f) ∧ (∀ x ∈ m, x ∈ f.after) ∧
          (f.after = [] → h = Model.Publish.final (Model.Publish.progOf f)) := by
  intro progs e he h hh
  obtain ⟨m, hm, hsub⟩ := C10_publish_lacks_only_post_writes progs sched e he h hh
  cases hf : Generated.C10Publish.pubFacts[e.2.1]? with
  | none =>
    exfalso
    obtain ⟨n, hn⟩ := (Proofs.Publish.inv_run progs _ (Proofs.Publish.inv_init progs) sched).log e he
    have hp : progs e.2.1 = [] := by simp [progs, hf]
    rw [hn, hp, Proofs.Publish.look_stepN] at hh
    simp at hh
  | some f =>
    have hp : progs e.2.1 = Model.Publish.progOf f := by simp [progs, hf]
    rw [hp] at hm hsub
    rw [postWrites_progOf] at hsub
    exact ⟨f, rfl, m, hm, hsub, Proofs.Publish.eq_of_lacks_nil hm hsub⟩

/-! ## Calls made of several sections: the autoload path (known finding)

Full statement (FALSE on the pinned tree, with or without the lock fix):
  `C10_loader_linearizable` — when goroutines call `GetOrLoadClass` for classes that
  have a class file, every call returns what some sequential order of the
  *calls* would give (i.e. the class).
`C10_linearizable` above is the `_partial` form: it speaks of calls that are a
single locked section (hypothesis `single`, the calls `secOf` models); `GetOrLoadClass`/`LoadClass`/`LoadAndRun`
is seven sections, and `SetPhpFileCache(f)` happens before the file's classes
are registered. -/

/-- two goroutines each calling `GetOrLoadClass("A")`, class file 1 declares `A` -/
def twoLoaders : Tid → List (Sec Op (List Res) Model.Reg.State) :=
  fun t => if t < 2 then loadCall ⟨"A".toList, 1, some 1⟩ 1 else []

/-- goroutine 0 runs up to and including `SetPhpFileCache`, goroutine 1 runs its whole call,
goroutine 0 finishes.  A section with one access is four steps of `Model.RW` (enter, begin, end, leave): 20 = the first five
sections of `loadCall`, 28 = all seven, 8 = the last two. -/
def loaderSchedule : List Tid := List.replicate 20 0 ++ List.replicate 28 1 ++ List.replicate 8 0

/-- **Negation witness (known finding C10-autoload-file-marked-before-registered).**
All sections are properly locked (no data race), yet under `loaderSchedule`
goroutine 1's `GetOrLoadClass("A")` fails with the loader's error while goroutine 0's
identical call returns the class — and in both sequential orders of the two
calls both return the class.  The harness reproduces it on the real VM in its
load stream. -/
theorem C10_autoload_counterexample :
    (∀ t, ∀ sec ∈ twoLoaders t, sec.ok) ∧
    loadOutcome ((run (mkInit Model.Reg.init (fun _ => []) twoLoaders) loaderSchedule).thr 1).loc = .errLoad ∧
    loadOutcome ((run (mkInit Model.Reg.init (fun _ => []) twoLoaders) loaderSchedule).thr 0).loc = .hit 1 ∧
    (∀ t, t < 2 → loadOutcome ((run (mkInit Model.Reg.init (fun _ => []) twoLoaders)
        (List.replicate 28 0 ++ List.replicate 28 1)).thr t).loc = .hit 1) ∧
    (∀ t, t < 2 → loadOutcome ((run (mkInit Model.Reg.init (fun _ => []) twoLoaders)
        (List.replicate 28 1 ++ List.replicate 28 0)).thr t).loc = .hit 1) := by
  -- the four outcomes in one evaluation: the runs share the program and, the first two, the schedule
  refine ⟨fun t sec hs => ?_, by decide +kernel⟩
  unfold twoLoaders at hs
  split at hs
  · exact loadCall_ok _ _ sec hs
  · cases hs

/-- **A successful registration is visible to every later lookup.** After
`AddClass d` reported success, whatever calls follow, the name resolves
(`LoadPkg`'s lookup finds a class or an interface), and unless the name was
already held by an interface (a same-file `AddClass` of an interface's name
reports success and registers nothing — see notes) `GetClass` finds a class.
(The conclusion does not even need the success hypothesis: a rejected `AddClass`
means the name is taken, hence found.) -/
theorem C10_add_visible (s : State) (d : Decl) (ops : List Op) (_ok : (addClass s d).2 = .ok) :
    isFound (lookPkg (runOps (addClass s d).1 ops) d.name) = true ∧
    (look s.ifaces d.name = none → isFound (findClass (runOps (addClass s d).1 ops) d.name) = true) := by
  have hk := keeps_run (addClass s d).1 ops
  rcases addClass_bound s d with ⟨x, hx⟩ | ⟨hne, x, hx⟩
  · have := hk.classes _ _ hx
    exact ⟨lookPkg_class this, fun _ => by simp [findClass, this, isFound]⟩
  · exact ⟨lookPkg_iface (hk.ifaces _ _ hx), fun h0 => absurd h0 hne⟩

/-- the same for interfaces, functions, constants (`GetConstant` strips one leading
backslash of the *query*) and globals (the same ZVal every time) -/
theorem C10_add_visible_others (s : State) (ops : List Op) :
    (∀ d, (addIface s d).2 = .ok →
        isFound (lookPkg (runOps (addIface s d).1 ops) d.name) = true ∧
        (look s.classes d.name = none → isFound (getIface (runOps (addIface s d).1 ops) d.name) = true)) ∧
    (∀ n id, (addFunc s n id).2 = .ok → getFunc (runOps (addFunc s n id).1 ops) n = .hit id) ∧
    (∀ n v q, (setConst s n v).2 = .ok → strip q = n → getConst (runOps (setConst s n v).1 ops) q = .hit v) ∧
    (∀ n z, (ensureGlobal s n).2 = .hit z →
        (ensureGlobal (runOps (ensureGlobal s n).1 ops) n).2 = .hit z) := by
  refine ⟨fun d _ => ?_, fun n id h => ?_, fun n v q h hq => ?_, fun n z h => ?_⟩
  · have hk := keeps_run (addIface s d).1 ops
    rcases addIface_bound s d with ⟨hne, x, hx⟩ | ⟨x, hx⟩
    · exact ⟨lookPkg_class (hk.classes _ _ hx), fun h0 => absurd h0 hne⟩
    · have := hk.ifaces _ _ hx
      exact ⟨lookPkg_iface this, fun _ => by simp [getIface, this, isFound]⟩
  · exact getFunc_bound ((keeps_run _ ops).funcs n id (addFunc_ok h))
  · exact getConst_bound (hq ▸ (keeps_run _ ops).consts n v (setConst_ok h))
  · rw [ensureGlobal_bound ((keeps_run _ ops).globals n z (ensureGlobal_hit h))]

/-- **A taken name has one winner.** Once `d₁` has been registered under a free
name, then after any further calls: every `AddClass`/`AddInterface` of that name
leaves the registry unchanged and reports success only for a same-file re-add of
`d₁` (otherwise the duplicate error), and `GetClass` keeps answering `d₁`. -/
theorem C10_duplicate_one_winner (s : State) (d₁ : Decl) (ops : List Op)
    (hc : look s.classes d₁.name = none) (hi : look s.ifaces d₁.name = none) :
    let s₂ := runOps (addClass s d₁).1 ops
    (addClass s d₁).2 = .ok ∧ findClass s₂ d₁.name = .hit d₁.id ∧
    ∀ d₂, d₂.name = d₁.name →
      addClass s₂ d₂ = (s₂, if samePhp d₂.src d₁.src then .ok else .errClass) ∧
      addIface s₂ d₂ = (s₂, if samePhp d₂.src d₁.src then .ok else .errIface) := by
  intro s₂
  have h1 : addClass s d₁ = ({ s with classes := s.classes ++ [(d₁.name, d₁)] }, .ok) := by
    simp [addClass, hc, hi]
  have hk := keeps_run (addClass s d₁).1 ops
  have hl : look s₂.classes d₁.name = some d₁ := by
    apply hk.classes
    rw [h1]; exact look_append_new _ _ _ hc
  refine ⟨by rw [h1], by simp [findClass, hl], fun d₂ hn => ?_⟩
  constructor
  · simp only [addClass, hn, hl]; split <;> simp_all
  · simp only [addIface, hn, hl]; split <;> simp_all

/-- functions and constants: after a successful registration every later one of
the same name is rejected and changes nothing -/
theorem C10_duplicate_one_winner_others (s : State) (ops : List Op) :
    (∀ n id id', (addFunc s n id).2 = .ok →
        addFunc (runOps (addFunc s n id).1 ops) n id' = (runOps (addFunc s n id).1 ops, .errFunc)) ∧
    (∀ n v v', (setConst s n v).2 = .ok →
        setConst (runOps (setConst s n v).1 ops) n v' = (runOps (setConst s n v).1 ops, .errConst)) := by
  exact ⟨fun n id id' h => addFunc_bound ((keeps_run _ ops).funcs n id (addFunc_ok h)) id',
    fun n v v' h => setConst_bound ((keeps_run _ ops).consts n v (setConst_ok h)) v'⟩

/-- a disciplined two-thread program with real accesses exists and runs: a writer and a reader -/
example : ∃ (prog : Tid → List (Sec Unit Nat Nat)), (∀ t, ∀ sec ∈ prog t, sec.ok) ∧
    (run (mkInit 0 (fun _ => 0) prog) [0, 1, 0, 0, 0, 1, 1, 1, 1]).store = 7 ∧
    ((run (mkInit 0 (fun _ => 0) prog) [0, 1, 0, 0, 0, 1, 1, 1, 1]).thr 1).loc = 7 :=
  ⟨fun t => if t = 0 then [⟨(), .W, [.wr "classMap" (fun l _ => (l, 7))]⟩]
            else if t = 1 then [⟨(), .R, [.rd "classMap" (fun _ s => s)]⟩] else [],
   by
    intro t sec hs
    by_cases h0 : t = 0
    · simp only [h0, ↓reduceIte, List.mem_singleton] at hs
      exact hs ▸ ok_single rfl
    · by_cases h1 : t = 1
      · simp only [h1, Nat.one_ne_zero, ↓reduceIte, List.mem_singleton] at hs
        exact hs ▸ ok_single rfl
      · simp only [h0, h1, ↓reduceIte, List.not_mem_nil] at hs,
   by decide, by decide⟩

/-- the generated lock table is not the trivial one: writers really are under `Lock`, readers under `RLock` -/
example : generatedLock "AddClass" = .W ∧ generatedLock "GetClass" = .R ∧ generatedLock "LoadPkg" = .R ∧
    generatedLock "NoSuchMethod" = .none := by decide +kernel

/-- `C10_add_visible` / `C10_duplicate_one_winner` on a concrete history: Foo from file 1 wins,
file 2 is rejected, a same-file re-add is accepted, the lookup (also case-insensitively) sees #1 -/
example :
    trace Model.Reg.init [.addClass ⟨"Foo".toList, 1, some 1⟩, .addClass ⟨"Foo".toList, 2, some 2⟩,
      .addClass ⟨"Foo".toList, 3, some 1⟩, .getClass "Foo".toList, .getClass "foo".toList,
      .addIface ⟨"Foo".toList, 4, some 2⟩, .loadPkg "\\Foo".toList, .getOrLoadClass "Bar".toList]
    = [.ok, .errClass, .ok, .hit 1, .hitAny [1], .errIface, .hit 1, .errLoad] := by decide +kernel

/-- the cross-kind same-file re-add that reports success and registers nothing (see notes) -/
example :
    trace Model.Reg.init [.addIface ⟨"Foo".toList, 1, some 1⟩, .addClass ⟨"Foo".toList, 2, some 1⟩,
      .getClass "Foo".toList, .lookPkg "Foo".toList]
    = [.ok, .ok, .miss, .hitI 1] := by decide +kernel

/-- the regenerated table of the class-path manager is not the trivial one: both calls hold `Lock`,
and the memoising helper is reached from `FindClassFile` -/
example : pathLock "FindClassFile" = .W ∧ pathLock "AddNamespace" = .W ∧ pathLock "LoadClass" = .W ∧
    methodWrites Generated.C10PathLocks.apiFacts "FindClassFile" = true ∧
    methodWrites Generated.C10PathLocks.facts "findNamespaceNode" = true := by decide +kernel

/-- a tiny file system: `/r1/A/C.php`, `/r2/A/C.php`, `/r2/A/F.php`, namespace `App` ↦ `/r1`, `/r2` -/
def demoDisk : Model.Cpm.Disk where
  exist p := p == "/r1" || p == "/r2" || p == "/r2/A"
  sub p part := if part == "A" && (p == "/r1" || p == "/r2") then some (p ++ "/A") else none
  file p cls := if (p == "/r1/A" || p == "/r2/A") && cls == "C" then some (p ++ "/C.php")
    else if p == "/r2/A" && cls == "F" then some (p ++ "/F.php") else none

/-- `FindClassFile` is a writer: the first lookup memoises `App\A` (here twice — the inner loop of
`findNamespaceNode` goes on after its first hit with `current` already moved, so the second root's
directory becomes a child of the first hit); the same lookup then answers from the memoised node.
The sequential correspondence run confirms this trace on the real manager. -/
example :
    Model.Cpm.trace demoDisk Model.Cpm.init
      [.add ["App"] "/r1", .add ["App"] "/r2", .find ["App", "A"] "C" (some "App\\A\\C"),
       .find ["App", "A"] "C" (some "App\\A\\C"), .find ["App", "A"] "F" (some "App\\A\\F")]
    = [.ok, .ok, .hit "/r2/A/C.php", .hit "/r1/A/C.php", .miss] := by decide +kernel

/-- `C10_path_registered_visible` is not vacuous: the empty manager is well-formed, the path exists -/
example : Proofs.Cpm.WF Model.Cpm.init ∧ demoDisk.exist "/r2/A" = true ∧
    (Model.Cpm.find demoDisk (Model.Cpm.runOps demoDisk (Model.Cpm.addNamespace demoDisk Model.Cpm.init ["App", "A"] "/r2/A") [])
      ["App", "A"] "F" none).2 = some "/r2/A/F.php" := by
  refine ⟨Proofs.Cpm.wf_init, by decide +kernel, by decide +kernel⟩

/-- `C10_memo_linearizable` is not vacuous: the store-inside discipline is `ok`, and under the schedule of the
counterexample it answers `miss` (before the registration) and then `hit`; the facts of a lookup that stores
after `RUnlock` describe `storeOutside`, are rejected by the obligation, and give `miss`, `miss` -/
example : (⟨true, true⟩ : Model.Memo.Disc).ok = true ∧
    ((Model.Memo.run ⟨true, true⟩ (Model.Memo.init staleProgs) [1, 1, 0, 1, 1]).thr 1).out = [.miss, .hit] ∧
    ((Model.Memo.run storeOutside (Model.Memo.init staleProgs) [1, 1, 0, 1, 1]).thr 1).out = [.miss, .miss] ∧
    ((Model.Memo.run storeOutside (Model.Memo.init staleProgs) [1, 1, 0, 1, 1]).thr 0).out = [.ok] ∧
    Model.Memo.memoDiscOf [⟨"AddClass", "classMiss", .wr, .W, true, true⟩,
      ⟨"findClassCaseInsensitive", "classMiss", .rd, .none, true, false⟩,
      ⟨"findClassCaseInsensitive", "classMiss", .wr, .none, true, false⟩] = storeOutside ∧
    Model.Memo.auxViolations [⟨"AddClass", "classMiss", .wr, .W, true, true⟩,
      ⟨"findClassCaseInsensitive", "classMiss", .rd, .none, true, false⟩,
      ⟨"findClassCaseInsensitive", "classMiss", .wr, .none, true, false⟩] =
      ["findClassCaseInsensitive:classMiss:memo-updated-outside-every-critical-section"] ∧
    Model.Memo.auxViolations [⟨"AddClass", "classMiss", .wr, .W, true, true⟩,
      ⟨"scanClass", "classMiss", .wr, .R, true, true⟩,
      ⟨"findClassCaseInsensitive", "classMiss", .rd, .none, true, false⟩] = [] := by decide +kernel

/-- **Obligation (regenerated facts with lock names)**: every access of a guarded map of `runtime.VM` and of the
class-path manager holds a mutex, and all accesses of one map hold the SAME mutex — a lock split that converts
some but not all accessors of a map (`EnsureGlobalZVal` under `valMu`, `RegisterGlobalContext` still under `mu`)
fails here by name. -/
theorem C10_one_lock_per_map :
    Model.Split.oneLock Generated.C10LockNames.vm = true ∧ Model.Split.oneLock Generated.C10LockNames.paths = true ∧
    Generated.C10LockNames.shape = [] := by decide +kernel

/-- `oneLock` read as a statement about pairs of facts -/
theorem C10_oneLock_spec (tbl : List Model.Split.LockFact) (h : Model.Split.oneLock tbl = true) :
    ∀ f ∈ tbl, f.locks ≠ "" ∧ ∀ g ∈ tbl, f.map = g.map → f.locks = g.locks := by
  intro f hf
  simp only [Model.Split.oneLock, List.all_eq_true, Bool.and_eq_true, Bool.or_eq_true, bne_iff_ne, beq_iff_eq] at h
  obtain ⟨h1, h2⟩ := h f hf
  refine ⟨h1, fun g hg hm => ?_⟩
  rcases h2 g hg with h3 | h3
  · exact absurd hm h3
  · exact h3

/-- **A name is bound once** (full strength: any number of goroutines, calls, mutexes and names, every schedule):
if all binding sections hold the same mutex, every two responses for one name carry the same binding. -/
theorem C10_split_bound_once (prog : Model.Split.Tid → List Model.Split.Sec) (h : Model.Split.SameLock prog)
    (sched : List Model.Split.Tid) :
    Model.Split.BoundOnce (Model.Split.run (Model.Split.init prog) sched).log := by
  obtain ⟨ℓ, hinit⟩ := Model.Split.inv_init_sameLock prog h
  have inv := Model.Split.inv_run sched hinit
  intro e₁ h₁ e₂ h₂ heq
  have a := inv.logged e₁ h₁
  have b := inv.logged e₂ h₂
  rw [heq] at a
  rw [a] at b
  exact Option.some.inj b

/-- **A completed binding is what every later call returns**: under the discipline a binding present in the
table at some point is still the binding after any further schedule, and every response agrees with the table. -/
theorem C10_split_binding_stable (prog : Model.Split.Tid → List Model.Split.Sec) (h : Model.Split.SameLock prog)
    (s₁ s₂ : List Model.Split.Tid) (n : Model.Split.Name) (v : Model.Split.Val)
    (hb : (Model.Split.run (Model.Split.init prog) s₁).store n = some v) :
    (Model.Split.run (Model.Split.run (Model.Split.init prog) s₁) s₂).store n = some v ∧
    ∀ e ∈ (Model.Split.run (Model.Split.run (Model.Split.init prog) s₁) s₂).log, e.1 = n → e.2 = v := by
  obtain ⟨ℓ, hinit⟩ := Model.Split.inv_init_sameLock prog h
  have inv₁ := Model.Split.inv_run s₁ hinit
  have st := Model.Split.store_stable_run s₂ inv₁ hb
  refine ⟨st, fun e he hn => ?_⟩
  have a := (Model.Split.inv_run s₂ inv₁).logged e he
  rw [hn, st] at a
  exact (Option.some.inj a).symm

/-- the lock split: goroutine 0 binds name 7 under mutex 0 (`RegisterGlobalContext`, `vm.mu`), goroutine 1 binds it
under mutex 1 (`EnsureGlobalZVal`, `vm.valMu`) -/
def splitProgs : Model.Split.Tid → List Model.Split.Sec
  | 0 => [⟨0, 7, 100⟩]
  | 1 => [⟨1, 7, 200⟩]
  | _ => []

/-- **Negation witness**: with the two writers under DIFFERENT mutexes both look the name up before either
inserts; the name is bound twice (the two calls are answered with different bindings) — the harness meets this
on the real code as `fatal error: concurrent map writes`. -/
theorem C10_split_counterexample :
    ¬ Model.Split.SameLock splitProgs ∧
    (Model.Split.run (Model.Split.init splitProgs) [0, 1, 0, 1, 0, 1, 0, 1]).log = [(7, 200), (7, 100)] ∧
    ¬ Model.Split.BoundOnce (Model.Split.run (Model.Split.init splitProgs) [0, 1, 0, 1, 0, 1, 0, 1]).log := by
  have hlog : (Model.Split.run (Model.Split.init splitProgs) [0, 1, 0, 1, 0, 1, 0, 1]).log = [(7, 200), (7, 100)] := by
    decide
  refine ⟨?_, hlog, ?_⟩
  · intro h
    have := h 0 ⟨0, 7, 100⟩ (by simp [splitProgs]) 1 ⟨1, 7, 200⟩ (by simp [splitProgs])
    simp at this
  · intro h
    rw [hlog] at h
    have := h (7, 200) (by simp) (7, 100) (by simp) rfl
    simp at this

/-- sections drawn from the facts of one map: a call of a method the table lists for `m`, under the mutex (index
`idx` of its name) the table gives for it -/
def SecsFrom (tbl : List Model.Split.LockFact) (idx : String → Model.Split.Lock) (m : String)
    (prog : Model.Split.Tid → List Model.Split.Sec) : Prop :=
  ∀ t sec, sec ∈ prog t → ∃ f ∈ tbl, f.map = m ∧ sec.lk = idx f.locks

/-- **Instantiated by the regenerated facts**: for every guarded map of `runtime.VM`, any goroutines running any
binding calls through the methods the facts list for that map bind every name once, in every schedule. -/
theorem C10_split_generated (idx : String → Model.Split.Lock) (m : String)
    (prog : Model.Split.Tid → List Model.Split.Sec) (h : SecsFrom Generated.C10LockNames.vm idx m prog)
    (sched : List Model.Split.Tid) :
    Model.Split.BoundOnce (Model.Split.run (Model.Split.init prog) sched).log := by
  apply C10_split_bound_once
  intro t sec hs t' sec' hs'
  obtain ⟨f, hf, hfm, hfl⟩ := h t sec hs
  obtain ⟨g, hg, hgm, hgl⟩ := h t' sec' hs'
  have := (C10_oneLock_spec _ C10_one_lock_per_map.1 f hf).2 g hg (hfm.trans hgm.symm)
  rw [hfl, hgl, this]

/-- `C10_split_bound_once` is not vacuous: the same two writers under ONE mutex — the schedule of the
counterexample serialises them, both calls are answered with the first binding -/
example : Model.Split.SameLock (fun t => (splitProgs t).map fun s => { s with lk := 0 }) ∧
    (Model.Split.run (Model.Split.init (fun t => (splitProgs t).map fun s => { s with lk := 0 })) [0, 1, 0, 1, 0, 1, 0, 1, 1, 1, 1]).log
      = [(7, 100), (7, 100)] ∧
    Model.Split.oneLock [⟨"EnsureGlobalZVal", "globalVars", "valMu"⟩, ⟨"RegisterGlobalContext", "globalVars", "mu"⟩] = false := by
  refine ⟨?_, by decide +kernel, by decide +kernel⟩
  intro t sec hs t' sec' hs'
  simp only [List.mem_map] at hs hs'
  obtain ⟨a, _, rfl⟩ := hs
  obtain ⟨b, _, rfl⟩ := hs'
  rfl

end C10
