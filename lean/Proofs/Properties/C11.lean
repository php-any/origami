import Proofs.Lemmas.Req
import Proofs.Lemmas.ReqSite
import Proofs.Lemmas.ReqLimit
import Proofs.Lemmas.ReqReg
import Proofs.Lemmas.ReqIC
import Proofs.Lemmas.ReqCap
import Proofs.Lemmas.ReqOut
import Proofs.Lemmas.ReqFacts
/-!
# C11 — concurrent HTTP requests do not interfere: a response depends on its request

Full statement (DESIGN §5):

    C11_noninterference : (∀ c, scope c = perRequest) → ∀ schedule r, response r = soloResponse r
    obligation            Generated.C11Superglobals.facts.allPerRequest = true

`C11_noninterference` is proved below at full strength, generically in the scope table.
The obligation is **false on the pinned tree** (all nine superglobals are cached in
package-level variables of package `node`): it is stated as `violations ⊆ Known`
(`C11_superglobals_known`), the leak the package-level scope causes is proved to exist in the
model (`C11_shared_cache_leaks`, `C11_first_read_leaks`) and replayed against the real server
with gates on every run, and `C11_noninterference_partial` / `C11_noninterference_generated`
state what does hold on this tree: a request whose steps stay off the package-level caches
(request object, locals, parameters, closures) is not affected by any other request.

Every further kind of state a request has next to process-wide state gets the same treatment —
a model with the placement as a parameter, isolation under the placement the pinned tree has, a
witness of the leak under the other, and an obligation on the regenerated facts that decides
which one the analysed tree has: values made by evaluating a shared syntax node (`Model.ReqSite`),
limits next to the VM's call counter (`Model.ReqLimit`), registries keyed by the request
(`Model.ReqReg`), call-site memory (`Model.ReqIC`), by-value captures of the one handler closure
(`Model.ReqCap`), the process-wide output hook (`Model.ReqOut`).

Trusted, not proved: `net/http` hands every request its own `*http.Request`; the Go memory
model (steps are atomic in the model; the real caches are plain pointers — the parallel-load
stream of the harness samples that).
-/
namespace C11
open Model.Req Proofs.Req

/-- **Projection.** For a request whose steps touch only superglobals stored per request
(whatever the others touch), after *any* schedule — any number of in-flight requests, any
interleaving, complete or not — its state (program counter, locals, every value read, body)
is what it would be had it been served alone for the number of turns the schedule gave it. -/
theorem C11_noninterference_prefix (w : World) (r : Rid) (hp : PrivPc w (w.prog r)) (sched : List Rid) :
    (run w (init w) sched).req r = (run w (init w) (List.replicate (sched.count r) r)).req r :=
  (sim_run (w := w) (r := r) sched ⟨rfl, agree_refl w _⟩ hp).1

/-- **What holds on the pinned tree** (`_partial`: the hypothesis excludes exactly the reads
and writes of superglobals whose cache is package-level — the known finding): if the steps
of request `r` touch only per-request cells, its response under every schedule that lets it
finish equals its solo response.  No assumption on the other requests. -/
theorem C11_noninterference_partial (w : World) (r : Rid) (hp : PrivPc w (w.prog r)) (sched : List Rid)
    (hdone : (w.prog r).length ≤ sched.count r) :
    response (run w (init w) sched) r = soloResponse w r := by
  unfold response soloResponse solo response
  rw [C11_noninterference_prefix w r hp sched]
  have := Proofs.Req.run_saturate w r (sched.count r) (init w) hdone
  rw [this]
  rfl

/-- **C11, full strength.** If every superglobal is stored per request, then for every
schedule and every request that the schedule lets finish, the response equals the response
of the same request served alone. -/
theorem C11_noninterference (w : World) (h : ∀ k, w.scope k = .perRequest) (sched : List Rid) (r : Rid)
    (hdone : (w.prog r).length ≤ sched.count r) :
    response (run w (init w) sched) r = soloResponse w r :=
  C11_noninterference_partial w r (fun _ _ k _ => h k) sched hdone

def privWorld : World where
  scope := fun _ => .perRequest
  prog := fun r => if r < 3 then
    [.reset, .parseForm, .readSG .get 0, .writeSG .session 1 (40 + r), .gate, .readSG .request 0,
     .readSG .session 1, .readReq .input 0, .writeLocal 0 .last, .readLocal 0, .write] else []
  data := fun r => { query := [(0, 7 + r)], form := [(0, 70 + r)], cookies := [(2, 9)] }

example : (∀ k, privWorld.scope k = .perRequest) ∧
    response (run privWorld (init privWorld) ([0, 0, 0, 0, 0] ++ [1, 1, 1, 1, 1] ++ [2, 2, 2, 2, 2] ++
      [0, 1, 2, 0, 1, 2, 0, 1, 2, 0, 1, 2, 0, 1, 2, 0, 1, 2, 0, 1, 2, 0, 1, 2])) 1
      = [some 8, some 71, some 41, some 71, some 71] ∧
    soloResponse privWorld 1 = [some 8, some 71, some 41, some 71, some 71] := by
  refine ⟨fun _ => rfl, by decide +kernel, by decide +kernel⟩

/-- the same programs on package-level caches: request 1 sees request 2's session value and request 0's `$_REQUEST` -/
example : response (run { privWorld with scope := fun _ => .packageLevel } (init { privWorld with scope := fun _ => .packageLevel })
      ([0, 0, 0, 0, 0] ++ [1, 1, 1, 1, 1] ++ [2, 2, 2, 2, 2] ++ [0, 1, 2, 0, 1, 2, 0, 1, 2, 0, 1, 2, 0, 1, 2, 0, 1, 2, 0, 1, 2, 0, 1, 2])) 1
      ≠ soloResponse privWorld 1 := by decide +kernel

/-- A request served alone produces what the specification computes from the request's own
data (whatever the scope of the caches: alone, a request only ever meets its own arrays). -/
theorem C11_solo_refines_spec (w : World) (r : Rid) :
    soloResponse w r = Spec.Req.respond w.env (w.data r) (w.prog r) := by
  unfold soloResponse solo response Spec.Req.respond
  have h := iter_abs w.env (w.data r) (w.prog r) ((init w).req r) (cellView w (init w) r) rfl
  rw [← run_solo_iter w r (w.prog r).length (init w), abs_init] at h
  exact congrArg Spec.Req.Own.body h

/-- **A response depends on its request**: with per-request storage the response under any
schedule is the specification's function of the request's own data and handler. -/
theorem C11_response_function_of_request (w : World) (h : ∀ k, w.scope k = .perRequest) (sched : List Rid)
    (r : Rid) (hdone : (w.prog r).length ≤ sched.count r) :
    response (run w (init w) sched) r = Spec.Req.respond w.env (w.data r) (w.prog r) := by
  rw [C11_noninterference w h sched r hdone, C11_solo_refines_spec]

/-- **Locals are private** (any scope of the caches): steps of other requests never change a
request's program counter, locals, parse state, values read or body. -/
theorem C11_locals_private (w : World) (s : State) (r : Rid) (sched : List Rid) (h : r ∉ sched) :
    (run w s sched).req r = s.req r :=
  Proofs.Sched.frame (stepReq w) r (fun s => s.req r) (fun _ s ha => step_req_other w s ha) sched s h

/-- A handler that uses no superglobal at all (request object, locals, gates, writes) is
isolated on **every** tree, whatever the scope table says. -/
theorem C11_superglobal_free_isolated (w : World) (r : Rid) (hfree : ∀ st ∈ w.prog r, st.kinds = [])
    (sched : List Rid) (hdone : (w.prog r).length ≤ sched.count r) :
    response (run w (init w) sched) r = soloResponse w r :=
  C11_noninterference_partial w r (fun st hst k hk => by rw [hfree st hst] at hk; cases hk) sched hdone

/-- **Sequential service is fresh** (any scope): a request whose first step is the reset
(`Handler.ServeHTTP`), served with nothing else in flight after an arbitrary history `s` of
earlier requests, behaves as on a fresh process. -/
theorem C11_sequential_fresh (w : World) (s : State) (r : Rid) (rest : List Step)
    (hprog : w.prog r = .reset :: rest) (hq : s.req r = (init w).req r) (n : Nat) :
    (run w s (List.replicate n r)).req r = (run w (init w) (List.replicate n r)).req r := by
  have h1 := congrArg Prod.fst (run_solo_iter w r n s)
  have h2 := congrArg Prod.fst (run_solo_iter w r n (init w))
  simp only at h1 h2
  rw [h1, h2, hq]
  cases n with
  | zero => rfl
  | succ n =>
    rw [iter_reset_first w.env (w.data r) ((init w).req r) rest (by simp [init, hprog])]

/-- two requests `?x=7` and `?x=8` against `function($req,$res){ $a=$_GET["x"]; verif_gate(); $b=$_GET["x"]; $res->write(…) }` -/
def leakWorld : World where
  scope := fun _ => .packageLevel
  prog := fun r =>
    if r = 0 then [.reset, .readSG .get 0, .gate, .readSG .get 0, .write]
    else if r = 1 then [.reset, .readSG .get 0, .write] else []
  data := fun r => { query := [(0, 7 + r)] }

/-- A is parked at the gate between its two reads while B runs to completion -/
def leakSched : List Rid := [0, 0, 0, 1, 1, 1, 0, 0]

/-- **Negation witness** (replayed on the real server with `verif_gate` on every run): with
package-level caches there is a schedule of two complete requests in which A's second read
of `$_GET["x"]` returns B's value — A answers `7,8`, alone it answers `7,7`. -/
theorem C11_shared_cache_leaks :
    ∃ (w : World) (sched : List Rid), (∀ k, w.scope k = .packageLevel) ∧
      (∀ r, (w.prog r).length ≤ sched.count r) ∧
      response (run w (init w) sched) 0 = [some 7, some 8] ∧ soloResponse w 0 = [some 7, some 7] := by
  refine ⟨leakWorld, leakSched, fun _ => rfl, ?_, by decide +kernel, by decide +kernel⟩
  intro r
  by_cases h0 : r = 0
  · subst h0; decide
  · by_cases h1 : r = 1
    · subst h1; decide
    · simp [leakWorld, h0, h1]

/-- hence the unconditional statement is false for the package-level scope -/
theorem C11_noninterference_counterexample :
    ¬ (∀ (w : World) (sched : List Rid) (r : Rid), (w.prog r).length ≤ sched.count r →
        response (run w (init w) sched) r = soloResponse w r) := by
  intro h
  obtain ⟨w, sched, _, hd, h1, h2⟩ := C11_shared_cache_leaks
  have := h w sched 0 (hd 0)
  rw [h1, h2] at this
  exact absurd this (by decide)

/-- `C11_noninterference_partial` applies to a superglobal-free handler next to leaking ones -/
example : PrivPc leakWorld [.reset, .readReq .query 0, .gate, .writeLocal 1 (.const 3), .readLocal 1, .write] := by
  intro st hst k hk
  simp at hst
  rcases hst with rfl | rfl | rfl | rfl | rfl | rfl <;> simp [Step.kinds] at hk

/-- `C11_sequential_fresh`: request 1 of `leakWorld` after request 0 finished -/
example : (run leakWorld (run leakWorld (init leakWorld) [0, 0, 0, 0, 0]) [1, 1, 1]).req 1
    = (run leakWorld (init leakWorld) [1, 1, 1]).req 1 :=
  C11_sequential_fresh leakWorld _ 1 _ rfl (by decide +kernel) 3

/-- B has reset and is parked before its first read; A reads again (refilling the cache from
A's request); B's **first** read of `$_GET["x"]` then returns A's value. -/
def firstReadWorld : World where
  scope := fun _ => .packageLevel
  prog := fun r =>
    if r = 0 then [.reset, .readSG .get 0, .gate, .readSG .get 0, .write]
    else if r = 1 then [.reset, .gate, .readSG .get 0, .write] else []
  data := fun r => { query := [(0, 7 + r)] }

theorem C11_first_read_leaks :
    response (run firstReadWorld (init firstReadWorld) [0, 0, 0, 1, 1, 0, 0, 1, 1]) 1 = [some 7] ∧
    soloResponse firstReadWorld 1 = [some 8] := by
  constructor <;> decide +kernel

/-- A write to a superglobal (`$_SESSION["u"] = …`) by one request is read by another. -/
def writeWorld : World where
  scope := fun _ => .packageLevel
  prog := fun r =>
    if r = 0 then [.reset, .writeSG .session 0 5, .gate, .readSG .session 0, .write]
    else if r = 1 then [.reset, .gate, .readSG .session 0, .write] else []
  data := fun _ => {}

theorem C11_superglobal_write_leaks :
    response (run writeWorld (init writeWorld) [1, 1, 0, 0, 0, 1, 1, 0, 0]) 1 = [some 5] ∧
    soloResponse writeWorld 1 = [none] := by
  constructor <;> decide +kernel

/-- Script code that runs **before** the reset (a middleware ahead of `Handler.ServeHTTP`)
reads the arrays cached for the previous request even when requests are served strictly one
after the other. -/
def staleWorld : World where
  scope := fun _ => .packageLevel
  prog := fun r =>
    if r ≤ 1 then [.readSG .get 0, .write, .reset, .readSG .get 0, .write] else []
  data := fun r => { query := [(0, 7 + r)] }

theorem C11_stale_before_reset :
    response (run staleWorld (init staleWorld) [0, 0, 0, 0, 0, 1, 1, 1, 1, 1]) 1 = [some 7, some 8] ∧
    soloResponse staleWorld 1 = [some 8, some 8] := by
  constructor <;> decide +kernel

/-- the entries of `known_findings.json` for C11 as they appear in the facts: the nine
superglobals served from package-level variables of package `node` (whatever the variables are called) -/
def Known : List String :=
  ["shared:$_GET", "shared:$_POST", "shared:$_COOKIE", "shared:$_SERVER", "shared:$_REQUEST",
   "shared:$_FILES", "shared:$_SESSION", "shared:$_ENV", "shared:$GLOBALS"]

/-- **Obligation** (`violations facts ⊆ Known`, DESIGN §2.6): the only isolation violations
in the current source are the known package-level superglobal caches — every cache variable
is cleared by `ResetSuperglobals`, no other package-level variable sits on the request path
except the request-keyed `sync.Map`s, and the translator understood every shape.  Code that
stores a superglobal per request drops entries from the left side and keeps this true. -/
theorem C11_superglobals_known :
    (Generated.C11Superglobals.facts.violations.all (fun v => Known.contains v)) = true := by
  unfold Facts.violations
  rw [Proofs.ReqFacts.nodeWriteViolations_nil, Proofs.ReqFacts.captureViolations_nil]
  decide +kernel

/-- **Obligation**: no script code of a request (closure handler, function or class
middleware, annotation controller, error handler) runs before the caches were reset for that
request, and every context handed to script code is created for the request. -/
theorem C11_entries_reset_first : Generated.C11Superglobals.facts.entryViolations = [] := by
  decide +kernel

/-- the facts are not empty: nine cells, the closure handler resets first -/
example : Generated.C11Superglobals.facts.cells.length = 9 ∧
    Generated.C11Superglobals.facts.handlerResets = true ∧
    Generated.C11Superglobals.facts.entries.any (fun e => e.runsScript) = true := by decide +kernel

def generatedWorld (prog : Rid → List Step) (data : Rid → ReqData) (env : Content) : World :=
  { scope := Generated.C11Superglobals.facts.scope, prog := prog, data := data, env := env }

/-- **Instance for the analysed tree**: a request that touches only superglobals the current
source stores per request (on the pinned tree: none of them, i.e. it uses the request object,
locals, parameters and closures) is isolated under every schedule. -/
theorem C11_noninterference_generated (prog : Rid → List Step) (data : Rid → ReqData) (env : Content) (r : Rid)
    (hp : ∀ st ∈ prog r, ∀ k ∈ st.kinds, Generated.C11Superglobals.facts.scope k = .perRequest)
    (sched : List Rid) (hdone : (prog r).length ≤ sched.count r) :
    response (run (generatedWorld prog data env) (init (generatedWorld prog data env)) sched) r
      = Spec.Req.respond env (data r) (prog r) := by
  rw [C11_noninterference_partial (generatedWorld prog data env) r hp sched hdone, C11_solo_refines_spec]
  rfl

section Site
open Model.ReqSite Proofs.ReqSite

/-- **Projection** for values made per evaluation: a request all of whose closure literals keep
their environment in the fresh closure object is, after *any* schedule (any number of requests
evaluating and calling the same literals, any interleaving, complete or not), in the state its
own turns alone produce. -/
theorem C11_site_noninterference_prefix (w : Model.ReqSite.World) (r : Rid)
    (hp : PrivProg w.scope (w.prog r)) (sched : List Rid) :
    (Model.ReqSite.run w (Model.ReqSite.init w) sched).req r
      = (Model.ReqSite.run w (Model.ReqSite.init w) (List.replicate (sched.count r) r)).req r :=
  Proofs.ReqSite.sim_run w r sched _ _ rfl (good_init w r hp)

/-- **Isolation of per-request values**: under every schedule that lets it finish, the request
answers what it answers alone, which is the specification's function of its own datum — every
call of a closure it made observes its own `$this` / captured variables.  No assumption on the
other requests. -/
theorem C11_site_noninterference (w : Model.ReqSite.World) (r : Rid)
    (hp : PrivProg w.scope (w.prog r)) (sched : List Rid) (hdone : (w.prog r).length ≤ sched.count r) :
    Model.ReqSite.response (Model.ReqSite.run w (Model.ReqSite.init w) sched) r = Model.ReqSite.soloResponse w r ∧
    Model.ReqSite.soloResponse w r = Spec.ReqSite.respond (w.env r) (w.prog r) := by
  -- the solo response is the response under the schedule of `r`'s own turns
  have hsolo := isolated w r hp (List.replicate (w.prog r).length r) (by rw [List.count_replicate_self]; exact Nat.le_refl _)
  exact ⟨(isolated w r hp sched hdone).trans hsolo.symm, hsolo⟩

/-- one closure literal in a class method, two requests: make the closure, (gate,) call it -/
def siteWorld (sc : SiteScope) : Model.ReqSite.World where
  scope := fun _ => sc
  prog := fun _ => [.mk 0 0, .gate, .call 0, .write]
  env := fun r => 7 + r

/-- `C11_site_noninterference` applies: three requests through one closure literal, all made before any is called -/
example : Proofs.ReqSite.PrivProg (siteWorld .perEvaluation).scope ((siteWorld .perEvaluation).prog 2) ∧
    Model.ReqSite.response (Model.ReqSite.run (siteWorld .perEvaluation) (Model.ReqSite.init (siteWorld .perEvaluation))
      [0, 0, 1, 1, 2, 2, 2, 2, 1, 1, 0, 0]) 0 = [some 7] ∧
    Spec.ReqSite.respond 7 ((siteWorld .perEvaluation).prog 0) = [some 7] := by
  refine ⟨fun _ _ _ => rfl, by decide +kernel, by decide +kernel⟩

/-- **Negation witness** (the seeded class of change, `f.ctx = ctx; return NewFuncValue(f)`):
with the environment kept in the syntax node, request 0 parked between making and calling its
closure while request 1 evaluates the same literal answers with request 1's datum; alone it
answers with its own. -/
theorem C11_node_slot_leaks :
    Model.ReqSite.response (Model.ReqSite.run (siteWorld .inNode) (Model.ReqSite.init (siteWorld .inNode)) [0, 0, 1, 1, 1, 1, 0, 0]) 0 = [some 8] ∧
    Model.ReqSite.soloResponse (siteWorld .inNode) 0 = [some 7] ∧
    Model.ReqSite.response (Model.ReqSite.run (siteWorld .perEvaluation) (Model.ReqSite.init (siteWorld .perEvaluation)) [0, 0, 1, 1, 1, 1, 0, 0]) 0 = [some 7] := by
  decide +kernel

/-- **Obligation + instance for the analysed tree**: no evaluation-time method of a syntax node
of package `node` stores into its own receiver, except the listed memos of process-wide
definitions and the cells that are shared by the language's design (regenerated every run);
hence every site keeps its values per evaluation and every request is isolated with respect
to the closures it makes, under every schedule. -/
theorem C11_site_noninterference_generated :
    Generated.C11Superglobals.facts.nodeWriteViolations = [] ∧
    ∀ (prog : Rid → List Model.ReqSite.Step) (env : Rid → Model.ReqSite.Val) (r : Rid) (sched : List Rid),
      (prog r).length ≤ sched.count r →
      let w : Model.ReqSite.World := { scope := scopeOf Generated.C11Superglobals.facts, prog := prog, env := env }
      Model.ReqSite.response (Model.ReqSite.run w (Model.ReqSite.init w) sched) r = Spec.ReqSite.respond (env r) (prog r) := by
  have hv := Proofs.ReqFacts.nodeWriteViolations_nil
  refine ⟨hv, ?_⟩
  rw [scopeOf_of_nil _ hv]
  intro prog env r sched hdone w
  exact isolated w r (fun _ _ _ => rfl) sched hdone

/-- the node-write facts are not empty: the translator sees the stores of the definition memos and of the generator states -/
example : Generated.C11Superglobals.facts.nodeWrites.any (fun w => w.parserBuilt && w.typ == "NewExpression") = true ∧
    Generated.C11Superglobals.facts.nodeWrites.any (fun w => !w.parserBuilt && w.typ == "FuncYieldStackState") = true := by decide +kernel

end Site

section Limit
open Model.ReqLimit Proofs.ReqLimit

/-- **Bookkeeping.** After *any* interleaving of the enter / leave operations of any number of
requests — whatever the guards are decided on, refusals and their unwinding included — the
VM's counter is the sum of the counted frames the requests hold: `c = Σ d_i`. -/
theorem C11_depth_counter_is_sum (w : Model.ReqLimit.World) (sched : List Rid) :
    (Model.ReqLimit.run w (Model.ReqLimit.init w) sched).cnt
      = total w.guards (Model.ReqLimit.run w (Model.ReqLimit.init w) sched) w.n :=
  inv_run w sched _ (inv_init w)

/-- **The decision of an `own` guard is a function of the calling request alone**: in every
reachable state, for every request and every frame it may enter next, the guard refuses iff the
request's *own* frames (the entering one included) exceed the limit — the process-wide number,
i.e. what all the other requests hold, does not enter. -/
theorem C11_depth_decision_own (w : Model.ReqLimit.World) (sched : List Rid) (r : Rid) (hr : r < w.n)
    (k : Callee) (gd : Guard) (hon : gd.on = .own) (hok : GuardOK w.guards gd) :
    refuse gd ((Model.ReqLimit.run w (Model.ReqLimit.init w) sched).cnt + 1)
        (ownDepth gd k ((Model.ReqLimit.run w (Model.ReqLimit.init w) sched).req r))
      = decide (ownDepth gd k ((Model.ReqLimit.run w (Model.ReqLimit.init w) sched).req r) > gd.ownLimit) :=
  refuse_own w.guards gd k _ _ hon hok
    (depth_le_cnt w _ r hr (inv_run w sched _ (inv_init w)))

/-- **Projection** for limits: when every guard decides on the request's own frames, a request is,
after *any* schedule (any number of requests holding any number of frames, complete or not), in
the state its own turns alone produce. -/
theorem C11_depth_noninterference_prefix (w : Model.ReqLimit.World) (hg : GoodGuards w.guards) (r : Rid)
    (sched : List Rid) :
    (Model.ReqLimit.run w (Model.ReqLimit.init w) sched).req r
      = (Model.ReqLimit.run w (Model.ReqLimit.init w) (List.replicate (sched.count r) r)).req r :=
  Proofs.ReqLimit.sim_run w hg r sched _ _ (inv_init w) (inv_init w) rfl

/-- **Isolation of limits**: under every schedule that lets it finish, the request answers what it
answers alone (accepted, or refused with the same reported depth), which is the specification's
function of its own program: refused iff its own frames exceed the limit.  No assumption on the
other requests. -/
theorem C11_depth_noninterference (w : Model.ReqLimit.World) (hg : GoodGuards w.guards) (r : Rid) (hr : r < w.n)
    (sched : List Rid) (hdone : (w.prog r).length ≤ sched.count r) :
    Model.ReqLimit.response (Model.ReqLimit.run w (Model.ReqLimit.init w) sched) r = Model.ReqLimit.soloResponse w r ∧
    Model.ReqLimit.soloResponse w r = Spec.ReqLimit.respond w.guards (w.prog r) := by
  have hsolo := isolated w hg r hr (List.replicate (w.prog r).length r) (by rw [List.count_replicate_self]; exact Nat.le_refl _)
  exact ⟨(isolated w hg r hr sched hdone).trans hsolo.symm, hsolo⟩

/-- one guarded kind of frame ("m", limit 2); request 0 descends two frames and parks, request 1 needs one -/
def limitWorld (on : DecidesOn) : Model.ReqLimit.World where
  n := 2
  guards := fun k => if k = "m" then some { limit := 2, ownLimit := 2, on := on, ownCounts := ["m"] } else none
  prog := fun r => if r = 0 then [.enter "m", .enter "m", .gate, .leave, .leave, .write]
                   else [.enter "f", .enter "m", .leave, .leave, .write]

/-- **Negation witness** (the seeded class of change, `if depth := vm.EnterCall(); depth > limit
{ … return error }`): with the refusal decided on the process-wide number, request 1 — one counted
frame deep — is refused with "depth 3" while request 0 is parked holding two frames; alone it is
served; decided on its own frames it is served under the same schedule. -/
theorem C11_shared_depth_guard_leaks :
    Model.ReqLimit.response (Model.ReqLimit.run (limitWorld .shared) (Model.ReqLimit.init (limitWorld .shared)) [0, 0, 0, 1, 1, 1, 1, 1, 0, 0, 0]) 1 = .refused 3 ∧
    Model.ReqLimit.soloResponse (limitWorld .shared) 1 = .ok ∧
    Model.ReqLimit.response (Model.ReqLimit.run (limitWorld .own) (Model.ReqLimit.init (limitWorld .own)) [0, 0, 0, 1, 1, 1, 1, 1, 0, 0, 0]) 1 = .ok ∧
    Model.ReqLimit.response (Model.ReqLimit.run (limitWorld .shared) (Model.ReqLimit.init (limitWorld .shared)) [0, 0, 0, 1, 1, 1, 1, 1, 0, 0, 0]) 0 = .ok := by
  decide +kernel

/-- the full statement fails for a guard decided on the sum -/
theorem C11_depth_noninterference_counterexample :
    ¬ (∀ (w : Model.ReqLimit.World) (r : Rid) (sched : List Rid), r < w.n → (w.prog r).length ≤ sched.count r →
        Model.ReqLimit.response (Model.ReqLimit.run w (Model.ReqLimit.init w) sched) r = Model.ReqLimit.soloResponse w r) := by
  intro h
  have := h (limitWorld .shared) 1 [0, 0, 0, 1, 1, 1, 1, 1, 0, 0, 0] (by decide) (by decide)
  rw [C11_shared_depth_guard_leaks.1, C11_shared_depth_guard_leaks.2.1] at this
  exact absurd this (by decide)

/-- `GoodGuards` is satisfiable by a table that really guards, the witness world's requests exist
and finish under the schedule, and the analysed tree has a guard that decides on own frames -/
example : Proofs.ReqLimit.GoodGuards (C11.limitWorld .own).guards ∧
    (1 < (C11.limitWorld .own).n ∧ ((C11.limitWorld .own).prog 1).length ≤ [0, 0, 0, 1, 1, 1, 1, 1, 0, 0, 0].count 1) ∧
    Model.ReqLimit.total (C11.limitWorld .own).guards
      (Model.ReqLimit.run (C11.limitWorld .own) (Model.ReqLimit.init (C11.limitWorld .own)) [0, 0, 0, 1, 1]) 2 = 3 ∧
    Spec.ReqLimit.respond (C11.limitWorld .own).guards [.enter "m", .enter "m", .enter "m", .write] = .refused 3 ∧
    Generated.C11Superglobals.facts.depthGuards.any (fun d => d.decidesOn == "own" && decide (d.limit > 0)) = true := by
  refine ⟨?_, by decide +kernel, by decide +kernel, by decide +kernel, by decide +kernel⟩
  intro k gd hk
  simp only [C11.limitWorld] at hk
  split at hk
  · simp only [Option.some.injEq] at hk
    subst hk
    simp [Proofs.ReqLimit.GuardOK, Model.ReqLimit.counted, C11.limitWorld]
  · simp at hk

/-- **Obligation + instance for the analysed tree**: every place that enters a process-wide counter
of the VM (regenerated every run from all non-test Go files) refuses only under a count of the
calling goroutine's own frames — frames that are counted in the process-wide number, against a
limit not below the process-wide one —, leaves the counter on every path, and the VM has no
other numeric field; hence under every schedule every request is served or refused as the
specification's function of its own program says. -/
theorem C11_depth_guards_generated :
    Generated.C11Superglobals.facts.guardViolations = [] ∧
    ∀ (n : Nat) (prog : Rid → List Model.ReqLimit.Step) (r : Rid) (sched : List Rid), r < n →
      (prog r).length ≤ sched.count r →
      let w : Model.ReqLimit.World := { n := n, guards := guardsOf Generated.C11Superglobals.facts, prog := prog }
      Model.ReqLimit.response (Model.ReqLimit.run w (Model.ReqLimit.init w) sched) r
        = Spec.ReqLimit.respond (guardsOf Generated.C11Superglobals.facts) (prog r) := by
  have hv : Generated.C11Superglobals.facts.guardViolations = [] := by decide +kernel
  have hi : Generated.C11Superglobals.facts.guardsIsolated = true := by decide +kernel
  refine ⟨hv, ?_⟩
  intro n prog r sched hr hdone w
  exact isolated w (goodGuards_of_facts _ hi) r hr sched hdone

end Limit

section Registry
open Model.ReqReg Proofs.ReqReg

/-- no other request of the schedule stores, loads and deletes under `r`'s key -/
def KeyApart (w : Model.ReqReg.World) (r : Rid) (sched : List Rid) : Prop :=
  ∀ a ∈ sched, a ≠ r → w.key a ≠ w.key r

/-- **Projection** for registries: if no other request of the schedule uses `r`'s key, then after
*any* interleaving (any number of requests attaching, looking up, detaching, finishing — complete
or not) request `r` and the entries under its key are where its own turns alone leave them. -/
theorem C11_registry_isolation_prefix (w : Model.ReqReg.World) (r : Rid) (sched : List Rid)
    (hk : KeyApart w r sched) :
    (Model.ReqReg.run w (Model.ReqReg.init w) sched).req r
        = (Model.ReqReg.run w (Model.ReqReg.init w) (List.replicate (sched.count r) r)).req r ∧
    Model.ReqReg.view w (Model.ReqReg.run w (Model.ReqReg.init w) sched) r
        = Model.ReqReg.view w (Model.ReqReg.run w (Model.ReqReg.init w) (List.replicate (sched.count r) r)) r := by
  have h := Proofs.ReqReg.sim_run w r sched (Model.ReqReg.init w) (Model.ReqReg.init w) rfl hk
  exact proj_eq.1 h

/-- **Isolation of registry state**: under every schedule that lets it finish and in which the
other requests use other keys, every lookup of the request returns what the request itself
attached (and has not detached): its response is its solo response, which is the specification's
function of its own program.  No assumption on what the other requests do. -/
theorem C11_registry_isolation (w : Model.ReqReg.World) (r : Rid) (sched : List Rid)
    (hk : KeyApart w r sched) (hdone : (w.prog r).length ≤ sched.count r) :
    Model.ReqReg.response (Model.ReqReg.run w (Model.ReqReg.init w) sched) r = Model.ReqReg.soloResponse w r ∧
    Model.ReqReg.soloResponse w r = Spec.ReqReg.respond (w.prog r) := by
  have hsolo : Model.ReqReg.soloResponse w r = Spec.ReqReg.respond (w.prog r) :=
    (Proofs.ReqReg.solo_spec w r (w.prog r) (Model.ReqReg.init w) [] rfl (fun _ => rfl)).1
  exact ⟨(isolated_from w r _ sched rfl hk hdone).1.trans hsolo.symm, hsolo⟩

/-- with an **injective key function** (the `*http.Request` pointer) every request is isolated under
every schedule, any number of requests in flight -/
theorem C11_registry_isolation_injective (w : Model.ReqReg.World) (hinj : ∀ a b, w.key a = w.key b → a = b)
    (sched : List Rid) (r : Rid) (hdone : (w.prog r).length ≤ sched.count r) :
    Model.ReqReg.response (Model.ReqReg.run w (Model.ReqReg.init w) sched) r = Spec.ReqReg.respond (w.prog r) := by
  have h := C11_registry_isolation w r sched (fun a _ hne hk => hne (hinj a r hk)) hdone
  rw [h.1, h.2]

/-- **A key may be recycled once its holder has detached**: request `r₁` finishes during `s₁` and
leaves nothing attached (`Spec.ReqReg.leaves = []`: every layer ends with the detach); request `r₂`,
which has the *same* key (an address reused for a later `*http.Request`), runs during `s₂`; the other
requests of both phases use other keys.  Then `r₂` is answered as if it were alone.  (`r₁ ∉ s₂` is not used:
`r₁` may even run again, only the keys of the second phase matter.) -/
theorem C11_registry_key_reuse (w : Model.ReqReg.World) (r₁ r₂ : Rid) (s₁ s₂ : List Rid)
    (h2 : r₂ ∉ s₁) (h1 : r₁ ∉ s₂) (hk₁ : KeyApart w r₁ s₁) (hk₂ : ∀ a ∈ s₂, a ≠ r₂ → w.key a ≠ w.key r₂)
    (hsame : w.key r₁ = w.key r₂)
    (hdone₁ : (w.prog r₁).length ≤ s₁.count r₁) (hclean : Spec.ReqReg.leaves (w.prog r₁) = [])
    (hdone₂ : (w.prog r₂).length ≤ s₂.count r₂) :
    Model.ReqReg.response (Model.ReqReg.run w (Model.ReqReg.init w) (s₁ ++ s₂)) r₂ = Spec.ReqReg.respond (w.prog r₂) := by
  have _ := h1
  -- after the first phase nothing is attached under the shared key, and `r₂` has not moved
  have hv1 := (isolated_from w r₁ _ s₁ rfl hk₁ hdone₁).2
  rw [hclean] at hv1
  have hproj : Proofs.ReqReg.proj w (Model.ReqReg.run w (Model.ReqReg.init w) s₁) r₂
      = Proofs.ReqReg.proj w (Model.ReqReg.init w) r₂ := by
    unfold Proofs.ReqReg.proj
    rw [Proofs.ReqReg.run_frame w r₂ s₁ _ h2]
    congr 1
    funext g
    have := hv1 g
    rwa [Model.ReqReg.view, hsame] at this
  rw [Proofs.ReqReg.run_append]
  exact (isolated_from w r₂ _ s₂ hproj hk₂ hdone₂).1

/-- registry 0 = the formatter slots (value 1 = the server's `onFormat` slot), registry 1 = one
attribute of the bag.  Request 0: the formatter middleware attaches, a closure middleware sets
the attribute and parks, then the handler's `beginResponse` looks the slot up, the handler reads
the attribute, answers, detaches.  Request 1: the same without parking. -/
def regWorld (key : Rid → Model.ReqReg.Key) : Model.ReqReg.World where
  key := key
  prog := fun r =>
    if r = 0 then [.attach 0 1, .attach 1 7, .gate, .lookup 0, .lookup 1, .write, .detach 0, .detach 1]
    else [.attach 0 1, .attach 1 8, .lookup 0, .lookup 1, .write, .detach 0, .detach 1]

/-- request 0 up to its gate, request 1 to completion, request 0 to its end -/
def regSched : List Rid := [0, 0, 0] ++ [1, 1, 1, 1, 1, 1, 1] ++ [0, 0, 0, 0, 0]

/-- `C11_registry_isolation` applies: two requests keyed by identity, request 1 running from attach to detach while
request 0 is parked; `KeyApart` holds, request 0's program finishes, and its observations are not trivial -/
example : C11.KeyApart (C11.regWorld id) 0 ([0, 0, 0] ++ [1, 1, 1, 1, 1, 1, 1] ++ [0, 0, 0, 0, 0]) ∧
    ((C11.regWorld id).prog 0).length ≤ C11.regSched.count 0 ∧
    Spec.ReqReg.respond ((C11.regWorld id).prog 0) = [some 1, some 7] ∧
    Spec.ReqReg.leaves ((C11.regWorld id).prog 0) = [] := by
  refine ⟨?_, by decide +kernel, by decide +kernel, by decide +kernel⟩
  intro a _ hne hk
  exact hne hk

/-- `C11_registry_key_reuse` applies: request 1 reuses request 0's key after request 0 has finished and detached -/
example : Model.ReqReg.response (Model.ReqReg.run (C11.regWorld fun _ => 0) (Model.ReqReg.init (C11.regWorld fun _ => 0))
      ([0, 0, 0, 0, 0, 0, 0, 0] ++ [1, 1, 1, 1, 1, 1, 1])) 1 = [some 1, some 8] :=
  C11.C11_registry_key_reuse (C11.regWorld fun _ => 0) 0 1 [0, 0, 0, 0, 0, 0, 0, 0] [1, 1, 1, 1, 1, 1, 1]
    (by decide +kernel) (by decide +kernel) (fun a ha hne => by simp at ha; exact absurd ha hne)
    (fun a ha hne => by simp at ha; exact absurd ha hne) rfl (by decide +kernel) (by decide +kernel) (by decide +kernel)

/-- **Negation witness** (the seeded class of change, `requestFormatterSlots.Store(r.Context(), slot)`):
with a key that two requests in flight share, request 0 — parked between the attach and its final
lookup while request 1 finishes and detaches — finds neither the server's envelope nor its
attribute (`[none, none]`); alone it finds both (`[some 1, some 7]`); keyed by its identity it finds
both under the same schedule.  Released before request 1 detaches, it reads request 1's attribute. -/
theorem C11_shared_registry_key_leaks :
    Model.ReqReg.response (Model.ReqReg.run (regWorld fun _ => 0) (Model.ReqReg.init (regWorld fun _ => 0)) regSched) 0 = [none, none] ∧
    Model.ReqReg.soloResponse (regWorld fun _ => 0) 0 = [some 1, some 7] ∧
    Model.ReqReg.response (Model.ReqReg.run (regWorld id) (Model.ReqReg.init (regWorld id)) regSched) 0 = [some 1, some 7] ∧
    Model.ReqReg.response (Model.ReqReg.run (regWorld fun _ => 0) (Model.ReqReg.init (regWorld fun _ => 0))
      ([0, 0, 0] ++ [1, 1] ++ [0, 0, 0, 0, 0] ++ [1, 1, 1, 1, 1])) 0 = [some 1, some 8] := by
  decide +kernel

/-- the full statement fails for a key that does not identify the request -/
theorem C11_registry_isolation_counterexample :
    ¬ (∀ (w : Model.ReqReg.World) (r : Rid) (sched : List Rid), (w.prog r).length ≤ sched.count r →
        Model.ReqReg.response (Model.ReqReg.run w (Model.ReqReg.init w) sched) r = Model.ReqReg.soloResponse w r) := by
  intro h
  have := h (regWorld fun _ => 0) 0 regSched (by decide +kernel)
  rw [C11_shared_registry_key_leaks.1, C11_shared_registry_key_leaks.2.1] at this
  exact absurd this (by decide)

/-- **Obligation + instance for the analysed tree**: every use of every package-level map of
`std/net/http` (regenerated every run: Store / Load / LoadOrStore / Delete sites, and every call
of a function that keys a registry by its parameter) has the `*http.Request` itself as the key,
no site walks or clears a whole registry, and every registry is deleted from; hence the key
function of the tree is the request's identity and every request finds, under every schedule
and any number of requests in flight, exactly what it attached itself. -/
theorem C11_registry_keys_generated :
    Generated.C11Superglobals.facts.registryViolations = [] ∧
    ∀ (prog : Rid → List Model.ReqReg.Step) (r : Rid) (sched : List Rid), (prog r).length ≤ sched.count r →
      let w : Model.ReqReg.World := { key := keyOf Generated.C11Superglobals.facts, prog := prog }
      Model.ReqReg.response (Model.ReqReg.run w (Model.ReqReg.init w) sched) r = Spec.ReqReg.respond (prog r) := by
  have hv := Proofs.ReqFacts.registryViolations_nil
  refine ⟨hv, ?_⟩
  rw [keyOf_of_nil _ hv]
  intro prog r sched hdone w
  exact C11_registry_isolation_injective w (fun _ _ h => h) sched r hdone

/-- the registry facts are not empty: a `Store` into the formatter slots, a `Delete` from the attribute bags and a
caller of a helper function are listed -/
example : Generated.C11Superglobals.facts.registries.any (fun s => s.var == "requestFormatterSlots" && s.op == "Store") = true ∧
    Generated.C11Superglobals.facts.registries.any (fun s => s.var == "requestAttrBags" && s.op == "Delete") = true ∧
    Generated.C11Superglobals.facts.registries.any (fun s => s.op == "call" && s.fn == "Handler.ServeHTTP→detachRequestAttrs") = true ∧
    Generated.C11Superglobals.facts.registryKeysIdentity = true :=
  ⟨by decide +kernel, by decide +kernel, by decide +kernel,
    by rw [Model.Req.Facts.registryKeysIdentity, Proofs.ReqFacts.registryViolations_nil]; rfl⟩

end Registry

section CallSite
open Model.ReqIC Proofs.ReqIC

/-- **Call-site memory, isolation (prefix form).** The node of `$obj->m(…)` may remember the class
and the resolved method of the receiver it saw last, provided probe and fill are indivisible
(`publish ≠ torn`) and — when it remembers anything at all — the class identity of `r`'s receiver is
`r`'s alone (`Apart`: the per-request proxy classes of `$req` / `$res`).  Then after ANY schedule —
any number of other requests executing the same call sites, with whatever receivers, parked wherever —
what is left of `r`'s program, continued by the specification, gives the specified response: every
call `r` has made so far observed `r`'s own datum. -/
theorem C11_callsite_isolation_prefix (w : Model.ReqIC.World) (hp : w.publish ≠ .torn) (r : Rid)
    (ha : w.publish = .atomic → Apart w r) (sched : List Rid) :
    let s := Model.ReqIC.run w (Model.ReqIC.init w) sched
    Spec.ReqIC.go (w.env r) (s.req r).pc (s.req r).pending (s.req r).body = Spec.ReqIC.respond (w.env r) (w.prog r) :=
  (inv_run w hp r ha sched _ (inv_init w r)).onTrack

/-- **Call-site memory, isolation.** Under the same hypotheses every request the schedule lets finish
has written what it writes when served alone, which is the specification's function of its own
datum and program. -/
theorem C11_callsite_isolation (w : Model.ReqIC.World) (hp : w.publish ≠ .torn) (r : Rid)
    (ha : w.publish = .atomic → Apart w r) (sched : List Rid)
    (hdone : Model.ReqIC.finished (Model.ReqIC.run w (Model.ReqIC.init w) sched) r = true) :
    Model.ReqIC.response (Model.ReqIC.run w (Model.ReqIC.init w) sched) r = Model.ReqIC.soloResponse w r ∧
    Model.ReqIC.soloResponse w r = Spec.ReqIC.respond (w.env r) (w.prog r) := by
  have h1 := onTrack_finished (inv_run w hp r ha sched _ (inv_init w r)).onTrack
    (by simpa [Model.ReqIC.finished] using hdone)
  have h2 := onTrack_finished (inv_run w hp r ha (List.replicate (4 * (w.prog r).length) r) _ (inv_init w r)).onTrack
    (solo_finished w hp r)
  exact ⟨by simp only [Model.ReqIC.response, Model.ReqIC.soloResponse, Model.ReqIC.solo] at *; rw [h1, h2], h2⟩

/-- **No memory in the node** (what the pinned tree does: `class.GetMethod(name)` on every evaluation):
every request is isolated, whatever the class identities are. -/
theorem C11_callsite_no_memory (w : Model.ReqIC.World) (hp : w.publish = .none) (r : Rid) (sched : List Rid)
    (hdone : Model.ReqIC.finished (Model.ReqIC.run w (Model.ReqIC.init w) sched) r = true) :
    Model.ReqIC.response (Model.ReqIC.run w (Model.ReqIC.init w) sched) r = Spec.ReqIC.respond (w.env r) (w.prog r) := by
  have h := C11_callsite_isolation w (by simp [hp]) r (by simp [hp]) sched hdone
  rw [h.1, h.2]

/-- **Any node memory of a per-request-bound value leaks unless its key identifies the request** —
even with indivisible probe and fill.  Two different requests whose receivers have the SAME class
identity (a script class, a bound callable made from a shared definition, a proxy class made once
for all requests) but whose method objects are bound to the request: the second one to reach a call
site invokes the method the first one filed there and answers with the first one's datum.  For every
world of that shape, not for a sample. -/
theorem C11_callsite_shared_class_leaks (w : Model.ReqIC.World) (hp : w.publish = .atomic) (r₀ r₁ : Rid) (s : Site)
    (hne : r₀ ≠ r₁) (hk : w.cls r₀ = w.cls r₁) (p₀ : List Model.ReqIC.Step)
    (h₀ : w.prog r₀ = .call s :: p₀) (h₁ : w.prog r₁ = [.call s, .write]) :
    Model.ReqIC.response (Model.ReqIC.run w (Model.ReqIC.init w) [r₀, r₁, r₁]) r₁ = [some (w.env r₀)] ∧
    Spec.ReqIC.respond (w.env r₁) (w.prog r₁) = [some (w.env r₁)] := by
  have hne' : ¬ r₁ = r₀ := fun h => hne h.symm
  constructor
  · -- the three turns unfolded: `r₀` misses and files `⟨r₀⟩` under the class identity it shares with `r₁`
    -- (`hk`); `r₁` probes, hits, invokes the method bound to `r₀`; `r₁` writes
    simp [Model.ReqIC.response, Model.ReqIC.run, Model.ReqIC.stepReq, Model.ReqIC.localStep, Model.ReqIC.exec,
      Model.ReqIC.init, Model.ReqIC.invoke, Cache.setCls, Cache.setMeth, hp, h₀, h₁, hk, hne']
  · simp [h₁, Spec.ReqIC.respond, Spec.ReqIC.go]

/-- two requests, per-request class identities (`cls r = r`: injective, as for `$req` / `$res`),
both executing call site 0 twice (a loop), datum `7 + r` -/
def icWorld (p : Model.ReqIC.Publish) : Model.ReqIC.World :=
  { publish := p, cls := fun r => r, prog := fun _ => [.call 0, .call 0, .write], env := fun r => 7 + r }

/-- **The torn publish** (seeded/C11-inline-method-cache-torn). Class identities are per request, so an
indivisible cache would be sound (`C11_callsite_isolation`); with two plain fields:
(fill torn) request 0 has stored `icClass`, request 1 fills both words, request 0 stores `icMethod` —
the node now reads (class of 1, method of 0) — and request 1, back at the site, hits and answers its
second call with request 0's datum: `[8, 7]`; alone `[8, 8]`; the same schedule with an indivisible
cache `[8, 8]`;
(probe torn) request 1 has loaded its own `icClass`, request 0 refills both words, request 1 loads
`icMethod`: `[8, 7]` again. -/
theorem C11_callsite_torn_publish_leaks :
    Model.ReqIC.response (Model.ReqIC.run (icWorld .torn) (Model.ReqIC.init (icWorld .torn)) [0, 0, 1, 1, 1, 0, 1, 1, 1]) 1
      = [some 8, some 7] ∧
    Model.ReqIC.response (Model.ReqIC.run (icWorld .torn) (Model.ReqIC.init (icWorld .torn)) [1, 1, 1, 1, 0, 0, 0, 1, 1]) 1
      = [some 8, some 7] ∧
    Model.ReqIC.soloResponse (icWorld .torn) 1 = [some 8, some 8] ∧
    Spec.ReqIC.respond ((icWorld .torn).env 1) ((icWorld .torn).prog 1) = [some 8, some 8] ∧
    Model.ReqIC.response (Model.ReqIC.run (icWorld .atomic) (Model.ReqIC.init (icWorld .atomic)) [0, 0, 1, 1, 1, 0, 1, 1, 1]) 1
      = [some 8, some 8] ∧
    Model.ReqIC.finished (Model.ReqIC.run (icWorld .torn) (Model.ReqIC.init (icWorld .torn)) [0, 0, 1, 1, 1, 0, 1, 1, 1]) 1 = true := by
  decide +kernel

/-- the isolation statement without `publish ≠ torn` is false, even with per-request class identities -/
theorem C11_callsite_isolation_counterexample :
    ¬ (∀ (w : Model.ReqIC.World) (r : Rid) (sched : List Rid), Apart w r →
        Model.ReqIC.finished (Model.ReqIC.run w (Model.ReqIC.init w) sched) r = true →
        Model.ReqIC.response (Model.ReqIC.run w (Model.ReqIC.init w) sched) r = Spec.ReqIC.respond (w.env r) (w.prog r)) := by
  intro h
  have := h (icWorld .torn) 1 [0, 0, 1, 1, 1, 0, 1, 1, 1] (fun r' hr => hr) C11_callsite_torn_publish_leaks.2.2.2.2.2
  rw [C11_callsite_torn_publish_leaks.1, C11_callsite_torn_publish_leaks.2.2.2.1] at this
  exact absurd this (by decide)

/-- **Obligation + instance for the analysed tree**: no evaluation-time method of a syntax node stores
into its own receiver outside the listed memos of process-wide definitions (regenerated every run) —
in particular no call-site node keeps a class / method / bound callable of the receiver it saw —
hence `publishOf facts = none` and every request's method calls act on the request itself, under
every schedule, any number of requests, any class identities. -/
theorem C11_callsite_generated :
    Generated.C11Superglobals.facts.nodeWriteViolations = [] ∧
    ∀ (cls : Rid → Cls) (prog : Rid → List Model.ReqIC.Step) (env : Rid → Model.ReqIC.Val) (r : Rid) (sched : List Rid),
      let w : Model.ReqIC.World := { publish := publishOf Generated.C11Superglobals.facts, cls := cls, prog := prog, env := env }
      Model.ReqIC.finished (Model.ReqIC.run w (Model.ReqIC.init w) sched) r = true →
      Model.ReqIC.response (Model.ReqIC.run w (Model.ReqIC.init w) sched) r = Spec.ReqIC.respond (env r) (prog r) := by
  have hv := Proofs.ReqFacts.nodeWriteViolations_nil
  refine ⟨hv, ?_⟩
  rw [publishOf_of_nil _ hv]
  intro cls prog env r sched w hdone
  exact C11_callsite_no_memory w rfl r sched hdone

/-- the hypotheses of the call-site theorems are satisfiable: per-request class identities are apart,
request 1 finishes with request 0 run between its two calls, and an indivisible cache really fills (after
request 1's two calls alone the node holds its class) -/
example : Proofs.ReqIC.Apart (C11.icWorld .atomic) 1 ∧
    Model.ReqIC.finished (Model.ReqIC.run (C11.icWorld .atomic) (Model.ReqIC.init (C11.icWorld .atomic)) [1, 0, 0, 0, 1, 1]) 1 = true ∧
    (Model.ReqIC.run (C11.icWorld .atomic) (Model.ReqIC.init (C11.icWorld .atomic)) [1, 1]).cache.cls 0 = some 1 ∧
    Model.ReqIC.publishOf Generated.C11Superglobals.facts = .none :=
  ⟨fun _ h => h, by decide +kernel, by decide +kernel, Proofs.ReqIC.publishOf_of_nil Generated.C11Superglobals.facts Proofs.ReqFacts.nodeWriteViolations_nil⟩

end CallSite

section Capture

def CaptureIsolated (w : Model.ReqCap.World) : Prop :=
  ∀ (r : Model.ReqCap.Rid) (sched : List Model.ReqCap.Rid),
    Model.ReqCap.finished (Model.ReqCap.run w (Model.ReqCap.init w) sched) r = true →
    Model.ReqCap.response (Model.ReqCap.run w (Model.ReqCap.init w) sched) r = Model.ReqCap.soloResponse w r

/-- **Isolation, prefix form.** With a private binding (the capture copies, or the value is
immutable) the whole state of a request after ANY schedule — any number of requests running the
same closure, complete or not — is the iterate of its own turns over the boot value, and the value
of the definition-time environment is untouched. -/
theorem C11_capture_isolation_prefix (w : Model.ReqCap.World) (hp : Model.ReqCap.bindsPrivate w = true)
    (r : Model.ReqCap.Rid) (sched : List Model.ReqCap.Rid) :
    (Model.ReqCap.run w (Model.ReqCap.init w) sched).shared = (Model.ReqCap.init w).shared ∧
    (Model.ReqCap.run w (Model.ReqCap.init w) sched).reqs r =
      (Model.ReqCap.run w (Model.ReqCap.init w) (List.replicate (sched.count r) r)).reqs r := by
  have h := Proofs.ReqCap.run_private w hp sched _ (Proofs.ReqCap.init_noAlias w)
  exact ⟨h.1, by rw [h.2 r, Proofs.ReqCap.run_solo w hp]⟩

/-- **Isolation.** With a private binding a request that finishes under any schedule answers what
it answers alone, and that is `Spec.ReqCap.respond` of the boot content, its own datum and its
own program: no other request, no schedule. -/
theorem C11_capture_isolation (w : Model.ReqCap.World) (hp : Model.ReqCap.bindsPrivate w = true) :
    CaptureIsolated w ∧
    ∀ r, Model.ReqCap.soloResponse w r =
      Spec.ReqCap.respond w.boot (w.datum r) ((w.prog r).map Proofs.ReqCap.toOp) := by
  have hsolo : ∀ r, Model.ReqCap.soloResponse w r =
      Spec.ReqCap.respond w.boot (w.datum r) ((w.prog r).map Proofs.ReqCap.toOp) := by
    intro r
    unfold Model.ReqCap.soloResponse Model.ReqCap.response
    rw [Proofs.ReqCap.run_solo w hp, Proofs.ReqCap.solo_spec w hp r]
    rfl
  exact ⟨fun r sched hdone => (Proofs.ReqCap.isolated w hp r sched hdone).trans (hsolo r).symm, hsolo⟩

/-- a read-only handler: `foreach` over the captured value, parked after the first iteration -/
def capLoop : List Model.ReqCap.Step := [.rewind, .next, .gate, .next, .next, .write]
/-- a handler that stores its request's datum in the captured value, parks and reads it back -/
def capStore : List Model.ReqCap.Step := [.set 0, .gate, .readAll, .write]

def capWorld (kind : Model.ReqCap.Kind) (copied : Bool) (prog : List Model.ReqCap.Step) : Model.ReqCap.World :=
  { kind := kind, copied := copied, boot := [1, 2, 3], prog := fun _ => prog, datum := fun r => 7 + r }

/-- request 0 enters the closure and is parked; request 1 runs the same closure to the end; request 0 goes on -/
def capSched : List Model.ReqCap.Rid := [0, 0, 0] ++ List.replicate 8 1 ++ List.replicate 6 0

/-- **Negation witness — hidden state.** The handler only READS the captured `{k: v}` object. With
a binding that does not copy, request 0 parked inside its foreach while request 1 loops over the
same value answers `[1]` (the cursor it shares was moved to the end); alone, and with a copying
binding under the same schedule, `[1, 2, 3]`. Same for arrays. -/
theorem C11_capture_cursor_leaks :
    Model.ReqCap.response (Model.ReqCap.run (capWorld .obj false capLoop) (Model.ReqCap.init (capWorld .obj false capLoop)) capSched) 0 = [1] ∧
    Model.ReqCap.soloResponse (capWorld .obj false capLoop) 0 = [1, 2, 3] ∧
    Model.ReqCap.response (Model.ReqCap.run (capWorld .obj true capLoop) (Model.ReqCap.init (capWorld .obj true capLoop)) capSched) 0 = [1, 2, 3] ∧
    Model.ReqCap.response (Model.ReqCap.run (capWorld .arr false capLoop) (Model.ReqCap.init (capWorld .arr false capLoop)) capSched) 0 = [1] := by
  decide +kernel

/-- **Negation witness — content.** Request 0 stores its datum 7, is parked, request 1 stores 8:
request 0 reads back `[8, 2, 3]`; alone `[7, 2, 3]`; with a copying binding `[7, 2, 3]`. -/
theorem C11_capture_write_leaks :
    Model.ReqCap.response (Model.ReqCap.run (capWorld .obj false capStore) (Model.ReqCap.init (capWorld .obj false capStore)) capSched) 0 = [8, 2, 3] ∧
    Model.ReqCap.soloResponse (capWorld .obj false capStore) 0 = [7, 2, 3] ∧
    Model.ReqCap.response (Model.ReqCap.run (capWorld .obj true capStore) (Model.ReqCap.init (capWorld .obj true capStore)) capSched) 0 = [7, 2, 3] := by
  decide +kernel

/-- **Isolated iff the capture copies every mutable kind.** For a kind of value and a binding
discipline: every boot content, every program (read-only ones included), every number of requests
and every schedule is isolated exactly when the kind is immutable or the binding copies it. -/
theorem C11_capture_isolated_iff (kind : Model.ReqCap.Kind) (copied : Bool) :
    (∀ (boot : List Nat) (prog : Model.ReqCap.Rid → List Model.ReqCap.Step) (datum : Model.ReqCap.Rid → Nat),
      CaptureIsolated { kind := kind, copied := copied, boot := boot, prog := prog, datum := datum }) ↔
    (kind = .scalar ∨ copied = true) := by
  constructor
  · intro h
    have h0 := h [1, 2, 3] (fun _ => capLoop) (fun r => 7 + r) 0 capSched
    cases kind <;> cases copied <;> simp
    · exact absurd (h0 (by decide +kernel)) (by decide +kernel)
    · exact absurd (h0 (by decide +kernel)) (by decide +kernel)
  · intro hk boot prog datum
    refine (C11_capture_isolation _ ?_).1
    rcases hk with hk | hk <;> simp [Model.ReqCap.bindsPrivate, hk]

/-- the full statement without the copy hypothesis is false -/
theorem C11_capture_isolation_counterexample :
    ¬ (∀ w : Model.ReqCap.World, CaptureIsolated w) := by
  intro h
  rcases (C11_capture_isolated_iff .obj false).1 (fun _ _ _ => h _) with e | e <;> cases e

/-- **Obligation + instance.** On the analysed tree every value a closure reads from its
definition-time environment is either aliased under the by-reference guard or stored through the
slot store (`captureBinds`: no direct store, no escape), and the slot store clones arrays and
`{k: v}` objects (`slotCopies`) — hence `copiedOf facts` is true for every kind and every request
running the shared closure is answered as `Spec.ReqCap.respond` says, under every schedule. -/
theorem C11_capture_generated :
    Generated.C11Superglobals.facts.captureViolations = [] ∧
    ∀ (kind : Model.ReqCap.Kind) (boot : List Nat) (prog : Model.ReqCap.Rid → List Model.ReqCap.Step)
      (datum : Model.ReqCap.Rid → Nat) (r : Model.ReqCap.Rid) (sched : List Model.ReqCap.Rid),
      let w : Model.ReqCap.World := { kind := kind, copied := Model.ReqCap.copiedOf Generated.C11Superglobals.facts kind,
                                      boot := boot, prog := prog, datum := datum }
      Model.ReqCap.finished (Model.ReqCap.run w (Model.ReqCap.init w) sched) r = true →
      Model.ReqCap.response (Model.ReqCap.run w (Model.ReqCap.init w) sched) r =
        Spec.ReqCap.respond boot (datum r) ((prog r).map Proofs.ReqCap.toOp) := by
  have hv := Proofs.ReqFacts.captureViolations_nil
  refine ⟨hv, ?_⟩
  intro kind boot prog datum r sched w hdone
  have hc := Proofs.ReqCap.copiedOf_of_nil _ hv kind
  have hp : Model.ReqCap.bindsPrivate w = true := by simp [w, Model.ReqCap.bindsPrivate, hc]
  exact Proofs.ReqCap.isolated w hp r sched hdone

example : Model.ReqCap.bindsPrivate (capWorld .obj true capStore) = true ∧
    Model.ReqCap.finished (Model.ReqCap.run (capWorld .obj true capStore) (Model.ReqCap.init (capWorld .obj true capStore)) capSched) 1 = true ∧
    Model.ReqCap.response (Model.ReqCap.run (capWorld .obj true capStore) (Model.ReqCap.init (capWorld .obj true capStore)) capSched) 1 = [8, 2, 3] := by
  decide +kernel

end Capture

section Output
open Model.ReqOut

/-- `direct`: for EVERY trace (any number of requests, any interleaving) a request is attributed exactly
what it wrote, nothing reaches a body, and that is what it is attributed when it runs alone. -/
theorem C11_output_direct_isolation (t : List Ev) (r : Nat) :
    attributed (Model.ReqOut.run .direct Model.ReqOut.init t) r = Spec.ReqOut.echoes r t ∧
    (Model.ReqOut.run .direct Model.ReqOut.init t).body r = [] ∧
    attributed (Model.ReqOut.run .direct Model.ReqOut.init t) r = attributed (Model.ReqOut.run .direct Model.ReqOut.init (Spec.ReqOut.own r t)) r := by
  have h := Proofs.ReqOut.direct_attributed t r
  exact ⟨h.2, h.1, by rw [h.2, (Proofs.ReqOut.direct_attributed (Spec.ReqOut.own r t) r).2, Proofs.ReqOut.echoes_own]⟩

/-- `swap` is right for well-nested traces (a request parks, others run start-to-finish inside, it resumes):
every body is what its request wrote and stdout receives nothing — which is why "park one, run another to
completion" sees nothing. -/
theorem C11_output_swap_nested (t : List Ev) (h : nested [] t = true) (r : Nat) :
    attributed (Model.ReqOut.run .swap Model.ReqOut.init t) r = Spec.ReqOut.echoes r t ∧ (Model.ReqOut.run .swap Model.ReqOut.init t).stdout = [] := by
  have hc : Proofs.ReqOut.Chain Model.ReqOut.init.saved [] Model.ReqOut.init.cur := rfl
  obtain ⟨h1, h2⟩ := Proofs.ReqOut.swap_nested [] t Model.ReqOut.init hc h
  have hs : (Model.ReqOut.run .swap Model.ReqOut.init t).stdout = [] := by rw [h1]; rfl
  refine ⟨?_, hs⟩
  have hb := h2 r
  have h0 : Model.ReqOut.init.body r = [] := rfl
  rw [h0, List.nil_append] at hb
  unfold attributed
  rw [hs, hb]
  simp [proj]

/-- the overlapped trace A-start, B-start, A-echo, A-stop, B-echo, B-stop (not nested): A's output lands in
B's body, A's exit puts stdout back under B, whose later output leaves the response, and the hook is left
pointing at the finished A; alone B is attributed `[8]`. -/
theorem C11_output_overlap_leaks :
    let t : List Ev := [.start 0, .start 1, .echo 0 7, .stop 0, .echo 1 8, .stop 1]
    nested [] t = false ∧
    (Model.ReqOut.run .swap Model.ReqOut.init t).body 1 = [7] ∧ (Model.ReqOut.run .swap Model.ReqOut.init t).body 0 = [] ∧
    (Model.ReqOut.run .swap Model.ReqOut.init t).stdout = [(1, 8)] ∧ (Model.ReqOut.run .swap Model.ReqOut.init t).cur = some 0 ∧
    attributed (Model.ReqOut.run .swap Model.ReqOut.init t) 1 = [7, 8] ∧
    attributed (Model.ReqOut.run .swap Model.ReqOut.init (Spec.ReqOut.own 1 t)) 1 = [8] ∧
    attributed (Model.ReqOut.run .direct Model.ReqOut.init t) 1 = [8] := by
  decide +kernel

/-- a discipline isolates the output of every request under every trace IFF it leaves the process-wide hook
alone. -/
theorem C11_output_isolated_iff (d : Discipline) :
    (∀ (t : List Ev) (r : Nat), attributed (Model.ReqOut.run d Model.ReqOut.init t) r = Spec.ReqOut.echoes r t) ↔ d = .direct := by
  constructor
  · intro h
    cases d with
    | direct => rfl
    | swap =>
      have h1 := h [.start 0, .start 1, .echo 0 7, .stop 0, .echo 1 8, .stop 1] 1
      exact absurd h1 (by decide +kernel)
  · intro h; subst h
    intro t r
    exact (C11_output_direct_isolation t r).1

/-- Not a negation, whatever the name: the hypothesis of `C11_output_swap_nested` can be met: the solo projection of the
overlap witness is nested, and so is the trace with B wholly inside A, on which `swap` attributes `[7]` to request 0 -/
theorem C11_output_isolation_counterexample :
    nested [] (Spec.ReqOut.own 1 [.start 0, .start 1, .echo 0 7, .stop 0, .echo 1 8, .stop 1]) = true ∧
    nested [] [.start 0, .start 1, .echo 1 8, .stop 1, .echo 0 7, .stop 0] = true ∧
    attributed (Model.ReqOut.run .swap Model.ReqOut.init [.start 0, .start 1, .echo 1 8, .stop 1, .echo 0 7, .stop 0]) 0 = [7] := by
  decide +kernel

/-- Obligation on the regenerated facts + instance: the only stores into another package's package-level
variable made by per-request or per-call code are the known ones of the `ob_*` family (finding
`output:ob-shared-buffer`); none is in `std/net/http`, so the request path's discipline is `direct` and every
request is attributed exactly what it wrote under every trace. -/
theorem C11_output_generated :
    (Generated.C11Superglobals.facts.hookViolations.all fun v => Model.Req.knownHookViolations.contains v) = true ∧
    disciplineOf Generated.C11Superglobals.facts = .direct ∧
    ∀ (t : List Ev) (r : Nat),
      attributed (Model.ReqOut.run (disciplineOf Generated.C11Superglobals.facts) Model.ReqOut.init t) r = Spec.ReqOut.echoes r t := by
  have hv : (Generated.C11Superglobals.facts.hookViolations.all fun v => Model.Req.knownHookViolations.contains v) = true := by
    decide +kernel
  have hd : disciplineOf Generated.C11Superglobals.facts = .direct := by decide +kernel
  refine ⟨hv, hd, ?_⟩
  rw [hd]
  exact (C11_output_isolated_iff .direct).2 rfl

end Output

end C11
