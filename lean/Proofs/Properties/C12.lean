import Proofs.Lemmas.Temp
import Proofs.Lemmas.TempRoutes
import Generated.C12TempVm
import Proofs.Lemmas.TempShared
/-!
# C12 — request-scoped VMs are isolated: temporary definitions never leak

All statements quantify over every environment (`Disk`: file contents, class path,
case folding, bodies of the autoload callbacks), every history (`List Op`, any length, any
number of TempVMs — slots are natural numbers) and every operation. The operations are the
host API (`AddX`, `LoadAndRun`, `ParseFile`, `GetOrLoadClass`, `GetOrLoadInterface`,
`LoadPkg`, discard) and every route by which *script code* running on a VM defines
something: `eval()`, `include` / `require`, a function statement executed at run time,
`spl_autoload_register` (the callbacks then run on whichever VM autoloads), a class needed
at parse or run time, `define()`, `class_alias`, and the routes that define nothing.

The routing the model assumes is tied to the source by the obligations on the regenerated facts of
`runtime/vm_temp.go` (`Model.TempRoutes`: `C12_defs_stay_local`, `C12_parsers_bound_to_temp`, with
what each check means stated for every table in the `_sound` theorems).  The last part
(`Model.TempShared`) covers code parsed once on the base VM and run through several VMs, with an
obligation of its own on the syntax nodes (`C12_declaration_nodes_stateless`).

Trusted, not proved: the extractor's reading of the method bodies (syntactic: state reached through
a local alias or a helper function is not seen; the harness streams are the backstop).
-/
namespace C12
open Model.Temp Spec.Temp Proofs.Temp

abbrev tables (d : Disk) (ops : List Op) : Tables := resolve d (run d ops)

theorem tables_snoc (d : Disk) (ops : List Op) (op : Op) :
    tables d (ops ++ [op]) = resolve d (step d (run d ops) op).1 :=
  congrArg (resolve d) (run_snoc d ops op)

/-
Full statement (what the property asks for):

  theorem C12_isolation (d : Disk) (ops : List Op) (op : Op) (i : Nat) (hv : op.via = .temp i) :
      Isolated i (tables d ops) (tables d (ops ++ [op]))

It is FALSE on the pinned tree: `TempVM.GetOrLoadInterface` and `TempVM.LoadPkg` hand an
unresolved name to the *base's* `GetOrLoadInterface` / `LoadPkg`, which autoload with the
base's parser, so the file's definitions land in the base (known finding
C12-temp-autoload-through-base; negation witnesses below). `TempVM.ParseFile` had the
same defect and is repaired (fixes/C12-parsefile-tempvm.patch); the model has the repaired
routing and `ParseFile` is covered by the theorem.
-/

/-- **Isolation** (`_partial`: the hypothesis `leaky … = false` excludes exactly the
operations that reach the base's autoloader through a TempVM — `GetOrLoadInterface` /
`LoadPkg` on TempVM `i` for a name that neither the TempVM nor the base has and for
which the base's autoloader has something to try: a class-path file or a registered
autoload callback). After any history, any other operation invoked on
TempVM `i` — registering a class / interface / function, `LoadAndRun`, `ParseFile`,
`GetOrLoadClass` (autoload, also through the callbacks scripts registered on *any* VM),
discarding the TempVM, and every script route: `eval()`, `include` / `require`, a function
statement executed at run time, `spl_autoload_register`, a class needed by `new` /
`extends` / trait `use`, `define()`, `class_alias`, anonymous classes / closures — leaves
what the base and every other TempVM resolve exactly as it was. -/
theorem C12_isolation_partial (d : Disk) (ops : List Op) (op : Op) (i : Nat)
    (hv : op.via = .temp i) (hl : leaky d (run d ops) op = false) :
    Isolated i (tables d ops) (tables d (ops ++ [op])) := by
  intro v hne
  rw [tables_snoc]
  have hloc := hv ▸ local_step d (run d ops) op hl
  exact resolve_congr d (hloc.others nofun) (hloc.others hne)

/-- **Isolation of the defining routes**, with a purely syntactic hypothesis: every
operation other than `GetOrLoadInterface` / `LoadPkg` is isolated unconditionally. -/
theorem C12_isolation_defining_routes (d : Disk) (ops : List Op) (op : Op) (i : Nat)
    (hv : op.via = .temp i)
    (hk : ∀ v n, op ≠ .getOrLoadInterface v n ∧ op ≠ .loadPkg v n) :
    Isolated i (tables d ops) (tables d (ops ++ [op])) := by
  apply C12_isolation_partial d ops op i hv
  cases op with
  | getOrLoadInterface v n => exact absurd rfl (hk v n).1
  | loadPkg v n => exact absurd rfl (hk v n).2
  | _ => rfl

/-- **`eval()` is refused on a TempVM and defines nothing anywhere**: nobody's table changes,
not even the TempVM's own (on the pinned tree `EvalFunction.Call` insists on a
`*runtime.VM`; a TempVM that *delegated* the string to the base's `EvalCode` would register
its classes in the base — the regenerated obligation `C12_parsers_bound_to_temp` and the
correspondence run watch for exactly that). -/
theorem C12_eval_refused_on_temp (d : Disk) (ops : List Op) (i : Nat) (u : File) (id : Nat) :
    tables d (ops ++ [.evalCode (.temp i) u id]) = tables d ops :=
  (tables_snoc d ops _).trans (((quiet_bindParser _ (.temp i)).trans (quiet_throwControl _)).resolve d)

/-- **The routes that define nothing define nothing**, on whichever VM they run (the base
included): registering an autoload callback, `define()` (constants are shared by design and
are not part of the resolve tables), `class_alias`, anonymous classes / closures. -/
theorem C12_inert_routes_define_nothing (d : Disk) (ops : List Op) (op : Op)
    (h : Op.inertRoute op = true) : tables d (ops ++ [op]) = tables d ops :=
  (tables_snoc d ops op).trans ((quiet_inert d _ op h).resolve d)

/-- the part of the environment the negation witnesses need: `B.php` declares interface 2
(and function 3), `C.php` declares class 4 and interface 5; the class path finds them. -/
def witnessDisk : Disk where
  content := fun f =>
    if f = 1 then some [⟨.ifc, 2⟩, ⟨.fn, 3⟩]
    else if f = 2 then some [⟨.cls, 4⟩, ⟨.ifc, 5⟩]
    else if f = 0 then some [⟨.cls, 0⟩, ⟨.fn, 0⟩]
    else none
  find := fun n => if n = 2 then some 1 else if n = 4 then some 2 else if n = 0 then some 0 else none
  fold := id

/-- **Negation witness** (replayed on the real code by the harness's known stream):
`GetOrLoadInterface` through a fresh TempVM makes the *base* resolve the interface. -/
theorem C12_isolation_counterexample :
    ¬ (∀ (d : Disk) (ops : List Op) (op : Op) (i : Nat), op.via = .temp i →
        Isolated i (tables d ops) (tables d (ops ++ [op]))) := by
  intro h
  have h1 := h witnessDisk [] (.getOrLoadInterface (.temp 0) 2) 0 rfl .base (by decide)
  have h2 := congrFun (congrFun h1 .ifc) 2
  revert h2
  decide

/-- second witness: `LoadPkg` through a fresh TempVM defines class 4 and interface 5 in
the base. -/
theorem C12_isolation_counterexample_loadPkg :
    ¬ Isolated 0 (tables witnessDisk []) (tables witnessDisk [.loadPkg (.temp 0) 4]) := by
  intro h
  have h2 := congrFun (congrFun (h .base (by decide)) .cls) 4
  revert h2
  decide

/-- **Base definitions are visible everywhere**: after any history, whatever the base
resolves is resolvable through every TempVM. -/
theorem C12_base_visible_everywhere (d : Disk) (ops : List Op) : BaseVisible (tables d ops) := by
  intro i k n h
  unfold tables at h ⊢
  rw [resolve_temp]
  split <;> simp only [Option.isSome_or, h, Bool.or_true, Bool.true_or]

/-- Classes and interfaces of the base cannot even be shadowed: a TempVM resolves them
to the base's own definition. -/
theorem C12_base_definition_wins (d : Disk) (ops : List Op) (i : Nat) (k : Kind) (n : Name) (s : Src)
    (hk : k ≠ .fn) (h : tables d ops .base k n = some s) : tables d ops (.temp i) k n = some s := by
  unfold tables at h ⊢
  rw [resolve_temp, if_neg hk, h]
  rfl

/-- **Own definitions are visible**: what a TempVM registers it resolves itself (a
function to exactly that definition; a class / interface unless the base already has the
name, in which case `C12_base_definition_wins` applies) — so isolation is not achieved by
dropping the definition. -/
theorem C12_own_definition_visible (d : Disk) (ops : List Op) (i : Nat) (k : Kind) (n : Name) (id : Nat) :
    (tables d (ops ++ [.add (.temp i) k n id]) (.temp i) k n).isSome ∧
    (k = .fn → tables d (ops ++ [.add (.temp i) k n id]) (.temp i) k n = some (.stub id)) := by
  have own : (tblOf (step d (run d ops) (.add (.temp i) k n id)).1 (.temp i) k).lookup n = some (.stub id) := by
    show (tblOf (addDef (run d ops) (.temp i) k n (.stub id)).1 (.temp i) k).lookup n = _
    cases k <;> dsimp only [tblOf] <;> rw [addDef_temp] <;> exact List.lookup_cons_self
  rw [tables_snoc]
  refine ⟨?_, fun hk => ?_⟩ <;> rw [resolve_temp, own]
  · split <;> simp only [Option.isSome_or, Option.isSome_some, Bool.or_true, Bool.true_or]
  · rw [if_pos hk]; rfl

/-- **Discarding a TempVM forgets everything it defined**: the fresh TempVM in that slot
resolves exactly what the base resolves. -/
theorem C12_discard_forgets (d : Disk) (ops : List Op) (i : Nat) :
    tables d (ops ++ [.discard i]) (.temp i) = tables d (ops ++ [.discard i]) .base := by
  rw [tables_snoc]
  funext k n
  rw [resolve_temp, show (step d (run d ops) (.discard i)).1 = (run d ops).setTemp i {} from rfl, tblOf_discard]
  simp only [List.lookup_nil, Option.none_or, Option.or_none, ite_self]

/-- Operations on the base never touch a TempVM's request-local state (they change what
TempVMs resolve only through the base's own tables, as the property intends). -/
theorem C12_base_operations_keep_request_state (d : Disk) (ops : List Op) (op : Op)
    (hv : op.via = .base) : (run d (ops ++ [op])).temps = (run d ops).temps := by
  have hl : leaky d (run d ops) op = false := by unfold leaky; split <;> first | cases hv | rfl
  rw [run_snoc]
  exact funext fun j => (hv ▸ local_step d _ op hl).temps j nofun

/-- **No foreign definitions** (set-based bookkeeping, `_partial`: histories without a
leaky step). After any such history the base resolves only names that were offered
*through the base* (classes up to letter case), and TempVM `i` only names offered through
the base or through TempVM `i` since its last discard. -/
theorem C12_no_foreign_definitions_partial (d : Disk) (ops : List Op) (h : NoLeak d {} ops) :
    Bounded d ops (tables d ops) := by
  have hi := inv_foldl d ops (fun _ => []) {} inv_init h
  refine ⟨base_covers d _ _ hi, fun i k n h => ?_⟩
  unfold tables at h
  rw [resolve_temp] at h
  split at h <;> simp only [Option.isSome_or, Bool.or_eq_true] at h
  · exact h.symm.imp (base_covers d _ _ hi k n) fun h => hi _ k n (has_of_lookup h)
  · exact h.imp (base_covers d _ _ hi k n) fun h => hi _ k n (has_of_lookup h)

/-- The same bookkeeping bound fails on the pinned tree once a leaky step is allowed
(witness: the interface autoloaded through TempVM 0 is resolved by the base, through
which nothing was ever offered). -/
theorem C12_no_foreign_definitions_counterexample :
    ¬ Bounded witnessDisk [.getOrLoadInterface (.temp 0) 2]
        (tables witnessDisk [.getOrLoadInterface (.temp 0) 2]) := by
  intro h
  obtain ⟨n', hm, _⟩ := h.1 .ifc 2 (by decide)
  simp [offered, offeredStep, Op.via] at hm

/-- Not part of the isolation claim, recorded because it is observable across requests:
the file cache is shared by design, so whether `GetOrLoadClass` on one TempVM can autoload
a class depends on whether another TempVM loaded that file before (the file is never
parsed twice, and the first TempVM's definitions are private). File 9 does not exist:
loading it only binds TempVM 1's parser, without which `GetOrLoadClass` would crash. -/
theorem C12_shared_file_cache_starves_autoload :
    (step witnessDisk (run witnessDisk [.loadAndRun (.temp 1) 9]) (.getOrLoadClass (.temp 1) 0)).2
      = .ok (some (.file 0)) ∧
    (step witnessDisk (run witnessDisk [.loadAndRun (.temp 0) 0, .loadAndRun (.temp 1) 9])
      (.getOrLoadClass (.temp 1) 0)).2 = .err := by
  decide

open Model.TempRoutes

/-- **Definitions stay local** (regenerated on every run from `runtime/vm_temp.go`):
the extractor found the expected shape of every method, the methods that register
definitions write the TempVM's own maps or use the TempVM's own parser exactly as
`Model.Temp` assumes, and every method that hands work to a *defining* method of the
base is one of the known ones (`Known`). A new write-through to the base (e.g.
`AddFunc` storing into `vm.Base`) or a changed route makes the evaluation in
`Proofs.TempRoutes.facts_evaluated` fail. -/
theorem C12_defs_stay_local : WellRouted Generated.C12TempVm.facts = true :=
  Proofs.TempRoutes.facts_evaluated.1

/-- What the obligation means, for every table: a method outside `Known` that is
`WellRouted` does not hand work to a defining base method and assigns nothing through
`vm.Base`. -/
theorem C12_wellRouted_sound (fs : List Fact) (h : WellRouted fs = true) (f : Fact) (hf : f ∈ fs)
    (hk : f.method ∉ Known) : f.delegatesDefining = false ∧ f.writesBase = [] := by
  have hok := Proofs.TempRoutes.wellRouted_factOk h hf
  simp only [factOk, Bool.and_eq_true, Bool.or_eq_true, List.isEmpty_iff] at hok
  obtain ⟨⟨⟨_, hwb⟩, _⟩, hkd⟩ := hok
  refine ⟨?_, hwb⟩
  rcases hkd with hkn | hnd
  · exact absurd (List.contains_iff_mem.mp hkn) hk
  · simpa using hnd

/-- **Parsers and contexts are bound to the TempVM** (regenerated on every run from
`runtime/*.go`): classes / interfaces / traits / enums register while *parsing*, through the
VM the parser is bound to, and functions while *running*, through the VM of the context. So:
the base's parser is only ever handed to `PrepareParse` (which clones it and binds the clone
to the TempVM); a `TempVM` method that parses does so after `PrepareParse`; programs are
evaluated in `vm.CreateContext(…)` or the caller's context; only `PrepareParse` assigns
`vm.parser`; and no method outside the intended delegations (`Intended`) and the known
finding (`KnownLeaks`) hands code to a method of the base that — by the regenerated facts
about `runtime.VM`, closed under calls — parses or autoloads with the base-bound parser.
A `TempVM.EvalCode` that returns `vm.Base.EvalCode(…)`, or that clones `vm.Base.parser`
itself, makes the evaluation in `Proofs.TempRoutes.facts_evaluated` fail. -/
theorem C12_parsers_bound_to_temp :
    ParsersBound Generated.C12TempVm.vmFacts Generated.C12TempVm.vmParsing Generated.C12TempVm.facts = true :=
  have ⟨hw, hl, hv, hc, hp⟩ := Proofs.TempRoutes.facts_evaluated
  Proofs.TempRoutes.parsersBound_of_wellRouted _ _ _ hv hc hw hl
    fun m hm => Proofs.TempRoutes.not_contains_callName _ m (hp m hm)

/-- What that obligation means, for every table: a method outside `Known` hands nothing to
a parsing method of the base, uses the base's parser only through `PrepareParse`, parses only
after `PrepareParse`, and evaluates only in its own or the caller's context. -/
theorem C12_parsersBound_sound (vs : List VmFact) (P : List String) (fs : List Fact)
    (h : ParsersBound vs P fs = true) (f : Fact) (hf : f ∈ fs) (hk : f.method ∉ Known) :
    f.delegatesParsing P = false ∧ (∀ c ∈ f.baseParser, c = "PrepareParse") ∧
    (f.parses ≠ [] → "PrepareParse" ∈ f.selfCalls) ∧
    (∀ c ∈ f.evalCtx, c = "self.CreateContext" ∨ c = "param") := by
  simp only [ParsersBound, Bool.and_eq_true, List.all_eq_true] at h
  have hok := h.1.2 f hf
  simp only [parserOk, Bool.and_eq_true, Bool.or_eq_true, List.all_eq_true, beq_iff_eq,
    List.isEmpty_iff, List.contains_iff_mem] at hok
  obtain ⟨⟨⟨⟨hbp, hpa⟩, hev⟩, _⟩, hdel⟩ := hok
  refine ⟨?_, hbp, ?_, hev⟩
  · rcases hdel with hkn | hnd
    · exact absurd hkn hk
    · simpa using hnd
  · intro hne
    rcases hpa with he | hp
    · exact absurd he hne
    · exact hp

/-- the least fixed point the translator emits is what the obligation is about: anything
closed under `parsingStep` contains every method that uses `vm.parser` itself -/
theorem C12_closed_contains_direct (vs : List VmFact) (P : List String) (h : closedUnder vs P = true)
    (f : VmFact) (hf : f ∈ vs) (ho : f.ownParser = true) : f.method ∈ P := by
  simp only [closedUnder, parsingStep, List.all_eq_true, List.mem_map, List.mem_filter,
    List.contains_iff_mem] at h
  exact h f.method ⟨f, ⟨hf, by simp [ho]⟩, rfl⟩

/-- `witnessDisk` plus include files (5: class 0, function 0; 6: class 7) and one autoload
callback that includes file 6 when asked for name 7 (the class path has no file for 7) -/
def scriptDisk : Disk :=
  { witnessDisk with
    content := fun f =>
      if f = 5 then some [⟨.cls, 0⟩, ⟨.fn, 0⟩]
      else if f = 6 then some [⟨.cls, 7⟩]
      else witnessDisk.content f
    cbs := [fun n => if n = 7 then some 6 else none] }

/-- script routes: TempVM 0 registers the autoload callback and includes file 5; the base
`eval`s a declaration of class 4; TempVM 1 needs class 7 (`new`), which the callback —
registered by TempVM 0 — includes *on TempVM 1*; TempVM 1 declares function 3 at run time;
`eval` on TempVM 1 is refused. -/
def scriptDemo : List Op :=
  [.autoReg (.temp 0) 0, .incl (.temp 0) 5 true, .evalCode .base 2 9, .useClass (.temp 1) 7 false,
   .runFn (.temp 1) 3 8, .evalCode (.temp 1) 5 7]

example : (tables scriptDisk scriptDemo .base .cls 0, tables scriptDisk scriptDemo (.temp 0) .cls 0,
           tables scriptDisk scriptDemo (.temp 1) .cls 0,
           tables scriptDisk scriptDemo .base .cls 4, tables scriptDisk scriptDemo (.temp 1) .cls 4)
    = (none, some (.file 5), none, some (.stub 9), some (.stub 9)) := by decide +kernel

example : (tables scriptDisk scriptDemo .base .cls 7, tables scriptDisk scriptDemo (.temp 0) .cls 7,
           tables scriptDisk scriptDemo (.temp 1) .cls 7,
           tables scriptDisk scriptDemo (.temp 1) .fn 3, tables scriptDisk scriptDemo (.temp 0) .fn 3,
           (run scriptDisk scriptDemo).base.thrown)
    = (none, none, some (.file 6), some (.stub 8), none, 1) := by decide +kernel

example : NoLeak scriptDisk {} scriptDemo := by decide

example : Op.inertRoute (.autoReg (.temp 0) 0) = true ∧ Op.inertRoute (.define .base 1) = true := by decide

/-- once a callback is registered, `GetOrLoadInterface` through a TempVM is a leaky route even
for a name without a class-path file -/
example : leaky scriptDisk (run scriptDisk [.autoReg (.temp 0) 0]) (.getOrLoadInterface (.temp 1) 7) = true ∧
    leaky scriptDisk (run scriptDisk []) (.getOrLoadInterface (.temp 1) 7) = false := by decide


/-- a history over three VMs using host stubs, `loadAndRun`, `parseFile` and `getOrLoadClass`
(the script routes are in `scriptDemo`); TempVM 0 and TempVM 1 define the same names
differently, the base sees none of it -/
def demo : List Op :=
  [.add .base .cls 7 1, .loadAndRun (.temp 0) 0, .add (.temp 1) .cls 0 2, .add (.temp 1) .fn 0 3,
   .parseFile (.temp 1) 1, .getOrLoadClass (.temp 0) 4]

example : (tables witnessDisk demo .base .cls 0, tables witnessDisk demo (.temp 0) .cls 0,
           tables witnessDisk demo (.temp 1) .cls 0, tables witnessDisk demo (.temp 1) .ifc 2,
           tables witnessDisk demo (.temp 0) .cls 4, tables witnessDisk demo (.temp 2) .cls 7)
    = (none, some (.file 0), some (.stub 2), some (.file 1), some (.file 2), some (.stub 1)) := by decide +kernel

example : (Op.getOrLoadClass (.temp 0) 4).via = .temp 0 ∧
    leaky witnessDisk (run witnessDisk (demo.take 5)) (.getOrLoadClass (.temp 0) 4) = false := by decide

example : leaky witnessDisk (run witnessDisk []) (.getOrLoadInterface (.temp 0) 2) = true := by decide

example : NoLeak witnessDisk {} demo := by decide

example : (tables witnessDisk demo .base .cls 7).isSome := by decide

end C12

/-! ## Code parsed once on the base VM, executed through several VMs (`Model.TempShared`)

The body of a function / method / closure defined on the base VM is ONE AST; every TempVM that
calls it executes the same nodes, and a declaration statement inside registers into whichever
VM runs it. Statements over every history (any length, any number of TempVMs, any bodies with
plain and `function_exists`-guarded declarations, colliding names, shared nodes). -/
namespace C12
open Model.TempShared

/-- **Noninterference for shared bodies.** With a declaration statement that consults nothing
but the executing VM (the pinned tree), what VM `v` resolves after any history is what it
resolves after only its own and the base's operations: it is as if `v` were the first VM ever
to run each body. -/
theorem C12_shared_body_noninterference : NonInterfering ⟨false⟩ :=
  fun h v n => sees_resolve (runH_purge v h {} {} ⟨rfl, rfl⟩) n

/-- **Negation witness.** A "declared" flag kept on the (shared) declaration node: TempVM 0 runs
the body, TempVM 1 runs it — TempVM 1 does not get the function it would have got alone. -/
theorem C12_node_flag_breaks_noninterference : ¬ NonInterfering ⟨true⟩ := by
  intro h
  have := h [.run (.temp 0) [{ node := 0, name := 5 }], .run (.temp 1) [{ node := 0, name := 5 }]] (.temp 1) 5
  revert this
  decide

/-- what a VM resolves is independent of what other TempVMs did with shared code **iff** the
declaration statement keeps no state on its node -/
theorem C12_shared_body_noninterference_iff (impl : Impl) :
    NonInterfering impl ↔ impl.nodeFlag = false := by
  cases impl with
  | mk f =>
    cases f with
    | false => exact ⟨fun _ => rfl, fun _ => C12_shared_body_noninterference⟩
    | true => exact ⟨fun h => absurd h C12_node_flag_breaks_noninterference, fun h => by cases h⟩

/-- why the step-by-step snapshot oracle cannot see node state: whatever the implementation keeps
on nodes, an operation of another TempVM changes nothing `v` resolves *at that step* — the
damage shows only when `v` itself runs the body later -/
theorem C12_snapshot_isolation_blind_to_node_state (impl : Impl) (v : VM) (o : Op) (s : State) (n : Nat)
    (h : keeps v o = false) : resolve (step impl s o) v n = resolve s v n :=
  sees_resolve (step_drop impl h s) n

/-- obligation on the regenerated facts (`extract/c12`, package `node`): every function that
calls a defining VM method assigns no field of its AST node and no package-level variable
(known: `IncludeCore`), and every other listed function writes only known resolve-once caches -/
theorem C12_declaration_nodes_stateless :
    NodesStateless Generated.C12TempVm.nodeFactsError Generated.C12TempVm.nodeFacts := by decide +kernel

/-- what the obligation means: a defining node function outside the known list is modelled by
`nodeFlag = false`, hence noninterfering -/
theorem C12_nodesStateless_sound (err : Option String) (facts : List NodeFact)
    (hw : NodesStateless err facts) (f : NodeFact) (hf : f ∈ facts) (hd : f.defining = true)
    (hk : KnownStateful.contains (f.typ, f.method) = false) : NonInterfering (implOf f) := by
  have hall := List.all_eq_true.mp hw.2.2 f hf
  simp only [hd, if_true, statelessOrKnown, hk, Bool.or_false, Bool.and_eq_true] at hall
  have : implOf f = ⟨false⟩ := by simp [implOf, hall.1]
  rw [this]
  exact C12_shared_body_noninterference

end C12
