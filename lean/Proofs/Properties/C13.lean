import Proofs.Lemmas.Resp
import Proofs.Lemmas.Mw
import Model.RespCache
import Generated.C13StatusSites
import Proofs.Lemmas.RespLayer
import Generated.C13LayerEntries
import Proofs.Lemmas.MwTopo
import Generated.C13DerivedSlices
/-!
# C13 — HTTP response commits once; pre-commit status/headers reach the client;
middlewares run in ascending priority, ties in registration order.

`Model.Resp` mirrors `std/net/http/response.go`, `Spec.Resp.run` is the commit-once reference, `Model.Mw` mirrors
`applyMiddlewares`; the cache, layer and server-tree models are introduced where their theorems start.
-/
namespace C13
open Model.Resp Spec.Resp Proofs.Resp

/-- both views at once: on a recorder (`e = false`) and over a connection (`e = true`) the client-visible
result of the buffered writer is the commit-once reference, its body cut down to what the wire keeps. -/
theorem C13_refines_core (e : Bool) (ops : List Op) :
    (Model.Resp.runOn e ops).client =
      { Spec.Resp.run ops with body := kept e (Spec.Resp.run ops).status (Spec.Resp.run ops).body } := by
  rw [← spec_runOn_eq]; exact refines_on e ops

/-- **Refinement.** For every operation sequence what the client observes from
the buffered writer is exactly what the commit-once reference prescribes:
last status set up to the first committing operation (200 if none), the header
map at that point, the concatenation of all bodies, and the number of header
commits on the underlying connection. (Recorder view: every write is kept.) -/
theorem C13_refines (ops : List Op) : (Model.Resp.run ops).client = Spec.Resp.run ops :=
  refines_on false ops

/-- non-vacuity of `C13_refines`: the status and headers set after the first write do not reach the client -/
example : (Model.Resp.run [.header "X" "1", .status 201, .write "a", .status 500, .header "Y" "2", .write "b"]).client
    = { status := 201, hdr := [("X", ["1"])], body := "ab", commits := 1 } := rfl

/-- **Refinement over a real connection.** What an HTTP client receives is the commit-once reference
with the body present exactly when the COMMITTED status can carry one (not 1xx/204/304). The model
enforces this write by write, as net/http does (`ErrBodyNotAllowed`, swallowed by the writer); the
reference decides it once, from the committed status alone — so a status that was chosen and then
replaced before the commit has no say in whether the body arrives. -/
theorem C13_conn_refines (ops : List Op) : (Model.Resp.runConn ops).client = Spec.Resp.runConn ops :=
  refines_on true ops

/-- non-vacuity of `C13_conn_refines`: the committed 204 drops every body byte -/
example : (Model.Resp.runConn [.status 200, .noContent 204, .write "x", .json "[1]"]).client
    = { status := 204, hdr := [], body := "", commits := 1 } := rfl

/-- **Every body byte reaches the client when the committed status allows a body**, for every operation
sequence — whatever statuses were chosen and replaced before the commit, and whatever is called after it. -/
theorem C13_body_reaches_client (ops : List Op)
    (h : bodyAllowed (Model.Resp.runConn ops).client.status = true) :
    (Model.Resp.runConn ops).client.body = concat (ops.map bodyOf) := by
  rw [Model.Resp.runConn, C13_refines_core true ops] at h ⊢
  exact (kept_of_allowed h true _).trans (spec_run_body ops)

/-- The shape a stale status-derived decision breaks: non-committing operations `pre` (any statuses,
for instance `status(204)`), then a committing operation `c` that carries the status `k`, then anything.
If `k` allows a body the client receives `k` and every body byte of `c :: rest`. -/
theorem C13_replaced_status_cannot_drop_body (pre rest : List Op) (c : Op) (k : Nat)
    (hpre : ∀ o ∈ pre, committing o = false) (hc : committing c = true) (hk : statusOf c = some k)
    (hb : bodyAllowed k = true) :
    (Model.Resp.runConn (pre ++ c :: rest)).client.status = k ∧
    (Model.Resp.runConn (pre ++ c :: rest)).client.body = concat ((c :: rest).map bodyOf) := by
  have hst : (Model.Resp.runConn (pre ++ c :: rest)).client.status = k := by
    rw [Model.Resp.runConn, C13_refines_core true, spec_run_commit hpre hc, lastStatus_snoc, hk]; rfl
  refine ⟨hst, ?_⟩
  rw [C13_body_reaches_client _ (by rw [hst]; exact hb), List.map_append, concat_append,
    concat_map_bodyOf_pre pre hpre, String.empty_append]

/-- non-vacuity of `C13_replaced_status_cannot_drop_body`: a 204 replaced before the commit, and its hypothesis `hpre` -/
example : (Model.Resp.runConn [.status 204, .writeHeader 200, .write "x"]).client
    = { status := 200, hdr := [], body := "x", commits := 1 } := rfl
example : ∀ o ∈ [Op.status 204, Op.header "X" "1"], committing o = false := by decide

/-- **At most one header commit** reaches the underlying connection, for every
operation sequence, on a recorder and over a connection. (Also a corollary of the refinement; proved
from the invariant so that it does not depend on the spec.) -/
theorem C13_single_commit (e : Bool) (ops : List Op) : (Model.Resp.runOn e ops).wire.commits ≤ 1 :=
  (inv_finish (List.foldlRecOn ops step (inv_init e) fun s hs o _ => inv_step s o hs)).commits_le

/-- **Calls after the commit are inert** for status and already-sent headers:
once `ops₁` contains a committing operation, no continuation changes the status
or the header block the client receives; it can only append body bytes. -/
theorem C13_post_commit_inert (ops₁ ops₂ : List Op) (h : ∃ o ∈ ops₁, committing o = true) :
    (Model.Resp.run (ops₁ ++ ops₂)).client.status = (Model.Resp.run ops₁).client.status ∧
    (Model.Resp.run (ops₁ ++ ops₂)).client.hdr = (Model.Resp.run ops₁).client.hdr ∧
    (Model.Resp.run (ops₁ ++ ops₂)).client.commits = 1 ∧
    (Model.Resp.run (ops₁ ++ ops₂)).client.body =
      (Model.Resp.run ops₁).client.body ++ concat (ops₂.map bodyOf) := by
  obtain ⟨o, ho, hc⟩ := h
  rcases split_commit ops₁ with hq | ⟨pre, c, rest, rfl, hq, hc'⟩
  · rw [hq o ho] at hc; cases hc
  · rw [C13_refines, C13_refines, List.append_assoc, List.cons_append, spec_run_commit hq hc', spec_run_commit hq hc']
    refine ⟨rfl, rfl, rfl, ?_⟩
    show concat _ = concat _ ++ _
    rw [← concat_append, ← List.map_append, List.append_assoc]; rfl

/-- the hypothesis of `C13_post_commit_inert` can be met -/
example : ∃ o ∈ [Op.status 404, Op.noContent 204], committing o = true := ⟨Op.noContent 204, by simp, rfl⟩

/-- the same over a real connection: a call after the commit cannot alter the status or the header
block the client receives, and the connection still sees exactly one commit. -/
theorem C13_post_commit_inert_conn (ops₁ ops₂ : List Op) (h : ∃ o ∈ ops₁, committing o = true) :
    (Model.Resp.runConn (ops₁ ++ ops₂)).client.status = (Model.Resp.runConn ops₁).client.status ∧
    (Model.Resp.runConn (ops₁ ++ ops₂)).client.hdr = (Model.Resp.runConn ops₁).client.hdr ∧
    (Model.Resp.runConn (ops₁ ++ ops₂)).client.commits = 1 := by
  have h0 := C13_post_commit_inert ops₁ ops₂ h
  rw [C13_refines, C13_refines] at h0
  simp only [Model.Resp.runConn, C13_refines_core true]
  exact ⟨h0.1, h0.2.1, h0.2.2.1⟩

/-- **Default 200**: if no operation of the sequence asks for a status, the client receives 200
(the implicit status of the first commit). -/
theorem C13_default_200 (ops : List Op) (h : ∀ o ∈ ops, statusOf o = none) :
    (Model.Resp.run ops).client.status = 200 := by
  have hnone : ∀ l : List Op, (∀ o ∈ l, o ∈ ops) → lastStatus l = none := fun l hl => by
    rw [lastStatus, List.filterMap_eq_nil_iff.mpr fun a ha => h a (hl a ha)]; rfl
  rw [C13_refines]
  rcases split_commit ops with hq | ⟨pre, c, rest, rfl, hq, hc⟩
  · rw [spec_run_quiet hq, hnone _ (fun _ ho => ho)]; rfl
  · rw [spec_run_commit hq hc, lastStatus_snoc, h c (List.mem_append_right _ List.mem_cons_self),
      hnone pre (fun _ ho => List.mem_append_left _ ho)]; rfl

/-! ### a decision cached from the status is recomputed wherever the status is assigned

`Generated.C13.facts` is regenerated from std/net/http/*.go on every run; `Model.RespCache.CSt` is a status plus ONE
value cached from it. -/
section cache
open Model.RespCache

/-- **A cache that every assignment site refreshes is always coherent**: after any history of site runs
with any codes, the cached value is the function of the CURRENT status — whatever the function is,
whatever the state was before. -/
theorem C13_status_cache_coherent {α : Type} (g : Nat → α) (s0 : CSt α) (hist : List (Bool × Nat))
    (h0 : Coherent g s0) (hall : ∀ p ∈ hist, p.1 = true) : Coherent g (runSites g s0 hist) :=
  List.foldlRecOn hist _ h0 fun s hs p hp => by
    show (if p.1 then g p.2 else s.cache) = g p.2
    rw [hall p hp, if_pos rfl]

/-- **One site that does not refresh is enough to go stale** (negation witness, for every function that
distinguishes two codes): a refreshing site stores `c₁`, a non-refreshing one replaces it by `c₂` — the
cache still answers for `c₁`. With `g = "forbids a body"`, `c₁ = 204`, `c₂ = 200` this is
`status(204); writeHeader(200)` followed by a body write that is dropped. -/
theorem C13_stale_site_breaks_cache {α : Type} (g : Nat → α) (s0 : CSt α) (c₁ c₂ : Nat) (hne : g c₁ ≠ g c₂) :
    ¬ Coherent g (runSites g s0 [(true, c₁), (false, c₂)]) := by
  simp [runSites, Coherent, CSt.assign, hne]

/-- the generic step from the regenerated table to the machine: if no (site, field) pair is listed as a
violation, every history over the status-assigning sites keeps every status-derived field coherent. -/
theorem C13_status_sites_sound (f : Facts) (hwf : f.violations = []) {α : Type} (g : Nat → α) (s0 : CSt α)
    (h0 : Coherent g s0) (d : String) (hd : d ∈ f.derivedFields) (h : List (Site × Nat))
    (hs : ∀ p ∈ h, p.1 ∈ f.assignSites) : Coherent g (runSites g s0 (histOf d h)) := by
  apply C13_status_cache_coherent g s0 _ h0
  intro p hp
  obtain ⟨q, hq, rfl⟩ := List.mem_map.mp hp
  simp only [Facts.violations, List.flatMap_eq_nil_iff, List.map_eq_nil_iff, List.filter_eq_nil_iff] at hwf
  simpa using hwf q.1 (hs q hq) d hd

/-- **Obligation on the current source**: no place that assigns `bufferedWriter.status` leaves a field
computed from the status as it was, and the translator found the shapes it expects. -/
theorem C13_status_sites_wf :
    Generated.C13.facts.violations = [] ∧ Generated.C13.facts.shapeChanged = [] := by decide

/-- … hence every history over the real assignment sites keeps every status-derived field coherent. -/
theorem C13_status_sites_coherent {α : Type} (g : Nat → α) (s0 : CSt α) (h0 : Coherent g s0) (d : String)
    (hd : d ∈ Generated.C13.facts.derivedFields) (h : List (Site × Nat))
    (hs : ∀ p ∈ h, p.1 ∈ Generated.C13.facts.assignSites) : Coherent g (runSites g s0 (histOf d h)) :=
  C13_status_sites_sound _ C13_status_sites_wf.1 g s0 h0 d hd h hs

/-- non-vacuity of the obligation: the table of a writer that caches "forbids a body" in `SetStatus`
only is rejected, with the two stale assignment sites named (the composite literal of
`newBufferedWriter` is no assignment site). -/
example : Facts.violations
    { fields := ["status", "statusSet", "headerSent", "noBody"],
      derived := [{ field := "noBody", fn := "bufferedWriter.SetStatus", how := "rhs" }],
      sites := [{ fn := "bufferedWriter.NoContent", kind := "assign", refreshes := ["headerSent", "status", "statusSet"] },
                { fn := "bufferedWriter.SetStatus", kind := "assign", refreshes := ["noBody", "status", "statusSet"] },
                { fn := "bufferedWriter.WriteHeader", kind := "assign", refreshes := ["headerSent", "status"] },
                { fn := "newBufferedWriter", kind := "literal", refreshes := ["status"] }],
      shapeChanged := [] }
    = [("bufferedWriter.NoContent", "noBody"), ("bufferedWriter.WriteHeader", "noBody")] := rfl

example : ¬ Coherent (fun c => !bodyAllowed c) (runSites (fun c => !bodyAllowed c) ⟨200, false⟩ [(true, 204), (false, 200)]) :=
  C13_stale_site_breaks_cache _ _ 204 200 (by decide)

example : Coherent (fun c => !bodyAllowed c) (⟨200, false⟩ : CSt Bool) := by simp [Coherent, bodyAllowed]

end cache

/-! ### layers over one response: every layer entry commits what is pending when it returns

All layers of a request share ONE `bufferedWriter`. `Model.RespLayer.runLayers` mirrors the layer entries
(`beginResponse` + `defer commitPending`); `Spec.RespLayer` is the commit-once reference read in execution order
across the layers, where the return of a layer with a status pending and nothing committed
counts as the terminal call that commits it. -/
section layers
open Model.RespLayer Spec.RespLayer Proofs.RespLayer

/-- The hinge of this section: when every layer entry commits on return, the layered run is the plain run of the one
operation list `flat ls` (`lower_sim`), so everything proved of plain runs applies. -/
theorem C13_layers_run_eq (e : Bool) (ls : List Layer) (hall : ∀ l ∈ ls, l.commits = true) :
    (serveOn e ls).finish = Model.Resp.runOn e (flat ls) := by
  unfold serveOn Model.Resp.runOn flat
  rw [runLayers_eq, lower_sim (events ls) (events_rets ls hall) _ none false (track_init e)]

/-- **Refinement for layered requests.** If every layer entry commits what is pending when it returns,
then for every stack of layers (any depth, any operations before and after `$next`, any layer
short-circuiting) the client receives exactly what the commit-once reference prescribes: the last status
set before the first body byte / terminal call / return of a layer with a status pending, the headers set
before that point, every body byte, and the connection sees one header commit. -/
theorem C13_layers_refine (e : Bool) (ls : List Layer) (hne : ls ≠ [])
    (hall : ∀ l ∈ ls, l.commits = true) :
    (serveOn e ls).client = Spec.RespLayer.runOn e ls := by
  obtain ⟨l, rest, rfl⟩ := List.exists_cons_of_ne_nil hne
  rw [← serve_finish e l rest (hall l List.mem_cons_self), C13_layers_run_eq e _ hall, Spec.RespLayer.runOn]
  exact refines_on e _

/-- **A layer that answers by itself with a bare status is heard.** Outer layers that only choose statuses /
set headers before calling `$next`, then a layer that commits on return, does not call `$next` and only
chooses statuses / sets headers: the client receives the last status chosen, committed once — whatever the
inner layers are (they never run) and whether or not the outer layers commit on return. -/
theorem C13_short_circuit_status_reaches_client (e : Bool) (outers inner : List Layer) (l : Layer)
    (hout : ∀ o ∈ outers, o.calls = true ∧ ∀ x ∈ o.pre, committing x = false)
    (hl : l.commits = true) (hcalls : l.calls = false)
    (hops : ∀ x ∈ l.pre ++ l.post, committing x = false) (c : Nat)
    (hst : lastStatus (outers.flatMap (·.pre) ++ (l.pre ++ l.post)) = some c) :
    (serveOn e (outers ++ l :: inner)).client.status = c ∧
    (serveOn e (outers ++ l :: inner)).client.commits = 1 := by
  have hq : Quiet (outers.flatMap (·.pre)) := fun x hx =>
    have ⟨o, ho, hxo⟩ := List.mem_flatMap.mp hx
    (hout o ho).2 x hxo
  have hp := Pre.foldl e (l.pre ++ l.post) hops _ _ (model_run_quiet e hq)
  rw [List.foldl_append] at hp
  have hc := hp.status
  rw [hst] at hc
  obtain ⟨h, hpost⟩ : ∃ h, Post e
      (runLayers ((outers.flatMap (·.pre)).foldl step { wire := { enforce := e } }) (l :: inner)) c h "" := by
    simp only [runLayers, hcalls, hl, if_true, Bool.false_eq_true, if_false]
    rw [finish_of_pending hp.unsent (by rw [hp.statusSet, hst]; rfl), hc]
    exact ⟨_, writeHeader_post hp.unsent hp.inv (by rw [hp.wire]) c⟩
  obtain ⟨b, hb⟩ := post_of_calling outers (l :: inner) (fun o ho => (hout o ho).1) _ ⟨"", hpost⟩
  rw [serveOn, Post.client hb]
  exact ⟨rfl, rfl⟩

/-- **Negation witness (a layer that does not commit).** A middleware that does not commit on return
answers by itself with a bare `status(c)`: nothing is committed by anybody — the inner layers and their
deferred commit never run — and the client receives net/http's implicit 200, whatever `c` was, whatever the
inner layers are; the reference owes the client `c`. -/
theorem C13_uncommitted_layer_loses_status (e : Bool) (c : Nat) (inner : List Layer) :
    (serveOn e ({ commits := false, pre := [.status c], calls := false } :: inner)).client
      = { status := 200, hdr := [], body := "", commits := 0 } ∧
    (Spec.RespLayer.runOn e ({ commits := false, pre := [.status c], calls := false } :: inner)).status = c ∧
    (Spec.RespLayer.runOn e ({ commits := false, pre := [.status c], calls := false } :: inner)).commits = 1 := by
  have hflat : flat ({ commits := false, pre := [.status c], calls := false } :: inner) =
      [.status c, .writeHeader c] := rfl
  refine ⟨rfl, ?_, ?_⟩
  · rw [Spec.RespLayer.runOn, (spec_runOn_head e _).1, hflat]; rfl
  · rw [Spec.RespLayer.runOn, (spec_runOn_head e _).2.2, hflat]; rfl

/-- the same after `$next`: the route handler (which commits on return) set only a header, the
non-committing middleware then chooses the status — it is lost. -/
theorem C13_uncommitted_layer_loses_late_status (e : Bool) (c : Nat) (k v : String) :
    (serveOn e [{ commits := false, post := [.status c] }, { commits := true, pre := [.header k v], calls := false }]).client.status = 200 ∧
    (serveOn e [{ commits := false, post := [.status c] }, { commits := true, pre := [.header k v], calls := false }]).client.commits = 0 :=
  ⟨rfl, rfl⟩

/-- **At most one header commit** reaches the connection for every stack, whichever layers commit. -/
theorem C13_layers_single_commit (e : Bool) (ls : List Layer) : (serveOn e ls).wire.commits ≤ 1 :=
  Inv.commits_le (by
    rw [serveOn, runLayers_eq]
    exact List.foldlRecOn _ stepEv (inv_init e) fun s hs ev _ => stepEv_inv s ev hs)

/-- from the regenerated table to the model: if no layer entry is listed as returning without a commit, then
every stack made of those entries — with any script code in them — gives the client what the reference says. -/
theorem C13_layer_entries_sound (f : EntryFacts) (hwf : f.violations = []) (e : Bool)
    (stack : List (Entry × List Op × Bool × List Op)) (hne : stack ≠ [])
    (hs : ∀ p ∈ stack, p.1 ∈ f.entries) :
    (serveOn e (stack.map fun p => layerOf p.1 p.2.1 p.2.2.1 p.2.2.2)).client =
      Spec.RespLayer.runOn e (stack.map fun p => layerOf p.1 p.2.1 p.2.2.1 p.2.2.2) := by
  apply C13_layers_refine e _ (by simpa using hne)
  intro l hl
  obtain ⟨p, hp, rfl⟩ := List.mem_map.mp hl
  simp only [EntryFacts.violations, List.map_eq_nil_iff, List.filter_eq_nil_iff] at hwf
  simpa [layerOf] using hwf p.1 (hs p hp)

/-- **Obligation on the current source: every layer entry commits pending.** Every function of
std/net/http that obtains the response through `beginResponse` binds the writer and defers `commitPending`
on it, there is at least one such function, and the translator found the shapes it expects. -/
theorem C13_layer_entries_wf :
    Generated.C13.layerEntries.violations = [] ∧ Generated.C13.layerEntries.shapeChanged = [] ∧
    Generated.C13.layerEntries.entries ≠ [] := by decide

/-- … hence every stack over the real layer entries gives the client what the reference says. -/
theorem C13_layer_entries_refine (e : Bool) (stack : List (Entry × List Op × Bool × List Op)) (hne : stack ≠ [])
    (hs : ∀ p ∈ stack, p.1 ∈ Generated.C13.layerEntries.entries) :
    (serveOn e (stack.map fun p => layerOf p.1 p.2.1 p.2.2.1 p.2.2.2)).client =
      Spec.RespLayer.runOn e (stack.map fun p => layerOf p.1 p.2.1 p.2.2.1 p.2.2.2) :=
  C13_layer_entries_sound _ C13_layer_entries_wf.1 e stack hne hs

/-- non-vacuity: a closure guard `header; status(403); return` in front of a handler that would write. -/
example : (serveOn true [{ pre := [.header "X-Denied" "closure", .status 403], calls := false },
      { pre := [.write "handler"], calls := false }]).client
    = { status := 403, hdr := [("X-Denied", ["closure"])], body := "", commits := 1 } := rfl

/-- a middleware that turns the handler's untouched response into a 404 after `$next`. -/
example : (serveOn true [{ post := [.status 404] }, { pre := [.header "X-Handler" "ran"], calls := false }]).client
    = { status := 404, hdr := [("X-Handler", ["ran"])], body := "", commits := 1 } := rfl

/-- the handler's own bare status is committed when the handler returns: a status chosen by the middleware
afterwards comes after the commit. -/
example : (serveOn false [{ post := [.status 500] }, { pre := [.status 201], calls := false }]).client.status = 201 := rfl

/-- the table of the tree in which the two middleware entries dropped the defer is rejected, naming them. -/
example : EntryFacts.violations
    { entries := [{ fn := "Handler.ServeHTTP", binds := true, defers := true },
                  { fn := "ServerMiddlewareMethod.Call#1#1", binds := false, defers := false },
                  { fn := "newMiddleware#1#1", binds := false, defers := false }],
      shapeChanged := [] } = ["ServerMiddlewareMethod.Call#1#1", "newMiddleware#1#1"] := rfl

end layers

open Model.Mw Proofs.Mw

/-- **Middleware order.** The served trace is: `pre` of every middleware in
ascending priority, the final handler, then `post` in the reverse order — each
middleware wraps all later ones — where the order is a stable sort of the
registration list: it is a permutation, ascending in priority, and entries of
equal priority keep their registration order. -/
theorem C13_mw_order (final : Handler) (entries : List Entry) (hcalls : ∀ e ∈ entries, e.calls = true) :
    ∃ sorted : List Entry,
      sorted.Perm entries ∧
      sorted.Pairwise (fun a b => a.prio ≤ b.prio) ∧
      (∀ p : Int, sorted.filter (fun x => x.prio == p) = entries.filter (fun x => x.prio == p)) ∧
      Model.Mw.apply final entries =
        sorted.map (fun e => Ev.pre e.id) ++ final ++ sorted.reverse.map (fun e => Ev.post e.id) := by
  refine ⟨sortStable entries, sort_perm entries, sort_asc entries, sort_stable entries, ?_⟩
  rw [apply_eq_chain]
  exact chain_all_call final _ (fun e he => hcalls e ((sort_perm entries).mem_iff.mp he))

/-- non-vacuity of `C13_mw_order`: four calling middlewares, two of equal priority -/
example : Model.Mw.apply [Ev.final] [⟨5, 0, true⟩, ⟨0, 1, true⟩, ⟨0, 2, true⟩, ⟨-1, 3, true⟩]
    = [.pre 3, .pre 1, .pre 2, .pre 0, .final, .post 0, .post 2, .post 1, .post 3] := rfl

/-- With short-circuiting middlewares the trace is the nested expansion of the
sorted list (everything inside the first non-calling middleware is skipped). -/
theorem C13_mw_order_general (final : Handler) (entries : List Entry) :
    Model.Mw.apply final entries = expected final (sortStable entries) :=
  (apply_eq_chain final entries).trans (chain_eq_expected final _)

/-! ### trees of server objects: `group()` and the middleware slices

`Model.MwTopo` has Go's slices — (backing array, len), capacity = length of the array, `append` in place when
there is room — and one `middlewares` slice per server object; `Spec.MwTopo` has one plain list per object. -/

/-- **Every route is wrapped with its own object's middlewares.** If derived server objects copy the slice, then
for every program of `middleware()` / `group()` / route registrations on any tree of server objects, in any
order, every route is finalised with exactly the list the reference gives: what its object inherited when it was
created plus what was registered on that very object before the route. -/
theorem C13_topo_refines (ops : List Model.MwTopo.Op) :
    (Model.MwTopo.run true ops).routes = (Spec.MwTopo.run ops).routes :=
  (Proofs.MwTopo.inv_run ops).routes_eq

/-- … hence the trace of every route is the documented order over that list. -/
theorem C13_topo_traces (ops : List Model.MwTopo.Op) :
    Model.MwTopo.traces true ops = Spec.MwTopo.traces ops := by
  unfold Model.MwTopo.traces Spec.MwTopo.traces
  rw [C13_topo_refines]
  exact List.map_congr_left (fun l _ => apply_eq_chain _ l)

/-- after any program every server object shows its own list -/
theorem C13_topo_object_lists (ops : List Model.MwTopo.Op) (i : Nat) (hi : i < (Model.MwTopo.run true ops).n) :
    Model.MwTopo.view (Model.MwTopo.run true ops).heap ((Model.MwTopo.run true ops).objs i) =
      (Spec.MwTopo.run ops).objs i :=
  (Proofs.MwTopo.inv_run ops).views i hi

/-- **Registrations on different server objects are independent.** After any program, a `middleware()` call on
object `o` leaves what every other object shows as it was (whatever the lengths and capacities are). -/
theorem C13_topo_append_independent (ops : List Model.MwTopo.Op) (o i : Nat) (e : Model.Mw.Entry)
    (hi : i < (Model.MwTopo.run true ops).n) (hne : i ≠ o) :
    Model.MwTopo.view (Model.MwTopo.run true (ops ++ [.mw o e])).heap ((Model.MwTopo.run true (ops ++ [.mw o e])).objs i) =
      Model.MwTopo.view (Model.MwTopo.run true ops).heap ((Model.MwTopo.run true ops).objs i) := by
  have hn : (Model.MwTopo.run true (ops ++ [.mw o e])).n = (Model.MwTopo.run true ops).n := by
    rw [Proofs.MwTopo.run_snoc]; simp only [Model.MwTopo.step]; split <;> rfl
  rw [C13_topo_object_lists _ i (hn ▸ hi), C13_topo_object_lists _ i hi, Proofs.MwTopo.srun_snoc]
  simp only [Spec.MwTopo.step]
  split
  · exact if_neg hne
  · rfl

/-- **Two holders of one slice with spare capacity clobber each other.** Whatever the backing array holds: when
two server objects hold the same slice (same array, same len) and there is room (`len < cap`), then after the
first registers `a` and the second registers `b`, the FIRST one's list ends with `b` — its own middleware is gone
and a foreign one runs in its place. -/
theorem C13_alias_append_clobbers (h : Model.MwTopo.Heap) (next : Nat) (s : Model.MwTopo.Slice) (a b : Model.Mw.Entry)
    (hroom : s.len < (h s.arr).length) :
    Model.MwTopo.view (Model.MwTopo.appendS (Model.MwTopo.appendS h next s a).1 (Model.MwTopo.appendS h next s a).2.1 s b).1
        (Model.MwTopo.appendS h next s a).2.2 =
      Model.MwTopo.view h s ++ [b] := by
  rw [Proofs.MwTopo.appendS_of_room hroom]
  have hroom2 : s.len < ((fun x => if x = s.arr then (h s.arr).set s.len a else h x) s.arr).length := by
    simp [hroom]
  rw [Proofs.MwTopo.appendS_of_room hroom2]
  simp only [Model.MwTopo.view, if_true]
  rw [List.set_set, Proofs.MwTopo.take_set_append _ _ _ hroom]

/-- negation witness at len 3, cap 4: three middlewares on the parent, a group that takes the
slice itself, the group registers 4, the parent registers 5, the group registers a route: the route is finalised
with the parent's middleware 5 instead of the group's 4. -/
theorem C13_topo_alias_counterexample :
    (Model.MwTopo.run false [.mw 0 { prio := -1, id := 1 }, .mw 0 { prio := 0, id := 2 }, .mw 0 { prio := 0, id := 3 },
        .group 0, .mw 1 { prio := 1, id := 4 }, .mw 0 { prio := 0, id := 5 }, .route 1]).routes
      = [[{ prio := -1, id := 1 }, { prio := 0, id := 2 }, { prio := 0, id := 3 }, { prio := 0, id := 5 }]] ∧
    (Spec.MwTopo.run [.mw 0 { prio := -1, id := 1 }, .mw 0 { prio := 0, id := 2 }, .mw 0 { prio := 0, id := 3 },
        .group 0, .mw 1 { prio := 1, id := 4 }, .mw 0 { prio := 0, id := 5 }, .route 1]).routes
      = [[{ prio := -1, id := 1 }, { prio := 0, id := 2 }, { prio := 0, id := 3 }, { prio := 1, id := 4 }]] :=
  ⟨rfl, rfl⟩

/-- control: with two (or four) middlewares on the parent the slice is full, both appends reallocate, and the
aliasing constructor behaves — which is why ordinary use does not notice. -/
example : (Model.MwTopo.run false [.mw 0 { prio := -1, id := 1 }, .mw 0 { prio := 0, id := 2 },
        .group 0, .mw 1 { prio := 1, id := 4 }, .mw 0 { prio := 0, id := 5 }, .route 1]).routes
      = [[{ prio := -1, id := 1 }, { prio := 0, id := 2 }, { prio := 1, id := 4 }]] := rfl

/-- non-vacuity of `C13_topo_refines`: the same program on the copying model -/
example : (Model.MwTopo.run true [.mw 0 { prio := -1, id := 1 }, .mw 0 { prio := 0, id := 2 }, .mw 0 { prio := 0, id := 3 },
        .group 0, .mw 1 { prio := 1, id := 4 }, .mw 0 { prio := 0, id := 5 }, .route 1, .route 0]).routes
      = [[{ prio := -1, id := 1 }, { prio := 0, id := 2 }, { prio := 0, id := 3 }, { prio := 1, id := 4 }],
         [{ prio := -1, id := 1 }, { prio := 0, id := 2 }, { prio := 0, id := 3 }, { prio := 0, id := 5 }]] := rfl

/-- from the regenerated table to the model: if no place hands a derived object another object's slice itself,
the derivation the code performs is the copying one and every route of every program gets the documented trace. -/
theorem C13_derived_slices_sound (f : Model.MwTopo.Facts) (hwf : f.aliased = []) (ops : List Model.MwTopo.Op) :
    Model.MwTopo.traces f.copies ops = Spec.MwTopo.traces ops := by
  have : f.copies = true := by simp [Model.MwTopo.Facts.copies, hwf]
  rw [this]; exact C13_topo_traces ops

/-- **Obligation on the current source: derived server objects copy slice fields.** No composite literal or
assignment of std/net/http stores another object's slice-typed field (or a re-slice / `append` onto it) into a
slice-typed field; at least one derivation exists (`NewServerClassFromGroup`) and it is a recognised copy. -/
theorem C13_derived_slices_wf :
    Generated.C13.derivedSlices.aliased = [] ∧ Generated.C13.derivedSlices.shapeChanged = [] ∧
    Generated.C13.derivedSlices.derives ≠ [] := by decide

/-- … hence on the real constructors every tree of server objects gives every route the documented trace. -/
theorem C13_derived_slices_refine (ops : List Model.MwTopo.Op) :
    Model.MwTopo.traces Generated.C13.derivedSlices.copies ops = Spec.MwTopo.traces ops :=
  C13_derived_slices_sound _ C13_derived_slices_wf.1 ops

end C13
