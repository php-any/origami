import Proofs.Lemmas.Codec
import Proofs.Lemmas.WireParse
import Proofs.Lemmas.SerSem
import Proofs.Lemmas.SerRT
import Proofs.Lemmas.DepthGraph
import Proofs.Lemmas.InputFacts
import Proofs.Lemmas.CodecTable
import Generated.C14Recursion
import Generated.C14Input
import Generated.C14Wrappers
import Proofs.Lemmas.NumGuard
import Generated.C14Numbers
import Proofs.Lemmas.ReaderOrder
import Generated.C14Readers
/-!
# C14 — encoders are faithful and decoders total

`Model.Codec` / `Model.Wire` mirror what origami's
codecs do (thin wrappers over Go's `encoding/hex`, `encoding/base64`,
`net/url`; `std/protowire/parser.go` over Google's `protowire` primitives),
`Spec.Codec` / `Spec.Wire` are the formats (RFC 4648, RFC 3986, the protobuf
encoding guide). Bytes are naturals `< 256` (`IsBytes`).

Decoder totality: every decoder of the model is a total Lean function (no
`partial`, structural recursion, explicit fuel where the Go code loops on a
shrinking slice); `C14_wire_total` shows the fuel is never the reason for an
answer. A Go panic (index out of range) has no counterpart because the model
has no partial indexing: every access is a pattern match with an explicit
`none`/error arm; the correspondence run checks the real functions never panic.
-/
namespace C14
open Model.Codec Proofs.Codec

/-- **bin2hex is read back by the reference decoder** (`encoding/hex`), for every byte string. -/
theorem C14_hex_roundtrip (bs : Bytes) (h : IsBytes bs) :
    Spec.Codec.hexDecode (bin2hex bs) = some bs := (hex_spec bs h).1

/-- bin2hex emits exactly two lower-case hex digits per byte. -/
theorem C14_hex_lowercase_length (bs : Bytes) (h : IsBytes bs) :
    (bin2hex bs).length = 2 * bs.length ∧ ∀ c ∈ bin2hex bs, Spec.Codec.isLowerHex c = true :=
  ⟨hex_length bs, (hex_spec bs h).2⟩

/-- `md5` / `hash` = `hex ∘ H`: for any digest function `H` producing `n` bytes the result is
`2n` lower-case hex digits that decode to the digest. (Which `H` it is, is checked against
`crypto/*` by the correspondence run only.) -/
theorem C14_digest_hex (H : Bytes → Bytes) (n : Nat) (hH : ∀ s, (H s).length = n ∧ IsBytes (H s))
    (s : Bytes) :
    (digestHex H s).length = 2 * n ∧ (∀ c ∈ digestHex H s, Spec.Codec.isLowerHex c = true) ∧
    Spec.Codec.hexDecode (digestHex H s) = some (H s) := by
  obtain ⟨h1, h2⟩ := hH s
  exact ⟨by rw [digestHex, hex_length, h1], (hex_spec _ h2).symm⟩

example : bin2hex [0, 255, 65] = [48, 48, 102, 102, 52, 49] := by decide
example : ∃ H : Bytes → Bytes, ∀ s, (H s).length = 16 ∧ IsBytes (H s) :=
  ⟨fun _ => List.replicate 16 7, fun _ => ⟨by simp, by intro b hb; simp at hb; omega⟩⟩

/-- **The strict RFC 4648 decoder reads base64_encode's output back** as the same bytes
(canonical padding, no stray bits, no line breaks). -/
theorem C14_base64_reference_reads_back (bs : Bytes) (h : IsBytes bs) :
    Spec.Codec.b64Decode (base64Encode bs) = some bs := by
  unfold base64Encode
  have m (x : Nat) : x % 64 < 64 := Nat.mod_lt _ (by decide)
  -- arms of `b64Encode`: three bytes and the rest; two bytes (`xxx=`); one byte (`xx==`); nothing
  fun_induction b64Encode bs with
  | case1 a b c rest val ih =>
    obtain ⟨ha, h⟩ := isBytes_cons.mp h
    obtain ⟨hb, h⟩ := isBytes_cons.mp h
    obtain ⟨hc, h⟩ := isBytes_cons.mp h
    obtain ⟨e1, e2, e3⟩ := b64_bytes a b c val ha hb hc rfl
    have h3 := b64_char (val % 64) (m _)
    rw [Spec.Codec.b64Decode, if_neg (fun hh => h3.2.2 hh.2.2), if_neg (fun hh => h3.2.2 hh.2)]
    simp only [(b64_char _ (m (val / 262144))).2.1, (b64_char _ (m (val / 4096))).2.1,
      (b64_char _ (m (val / 64))).2.1, h3.2.1, ih h, e1, e2, e3]
  | case2 a b val =>
    obtain ⟨ha, h⟩ := isBytes_cons.mp h
    obtain ⟨hb, h⟩ := isBytes_cons.mp h
    obtain ⟨e1, e2, _⟩ := b64_bytes a b 0 val ha hb (by decide) (Nat.add_zero _).symm
    have h2 := b64_char (val / 64 % 64) (m _)
    rw [Spec.Codec.b64Decode, if_neg (fun hh => h2.2.2 hh.2.1), if_pos ⟨rfl, rfl⟩]
    simp only [(b64_char _ (m (val / 262144))).2.1, (b64_char _ (m (val / 4096))).2.1, h2.2.1, e1, e2]
  | case3 a val =>
    obtain ⟨ha, h⟩ := isBytes_cons.mp h
    obtain ⟨e1, _, _⟩ := b64_bytes a 0 0 val ha (by decide) (by decide) (by show a * 65536 = _; omega)
    rw [Spec.Codec.b64Decode, if_pos ⟨rfl, rfl, rfl⟩]
    simp only [(b64_char _ (m (val / 262144))).2.1, (b64_char _ (m (val / 4096))).2.1, e1]
  | case4 => rfl

/-- **base64_decode inverts base64_encode** on every byte string: the library decoder reads whatever the strict one reads
(`lenient_of_strict`). -/
theorem C14_base64_roundtrip (bs : Bytes) (h : IsBytes bs) :
    base64Decode (base64Encode bs) = some bs :=
  lenient_of_strict _ bs (C14_base64_reference_reads_back bs h)

example : base64Encode [97, 98, 0, 255] = [89, 87, 73, 65, 47, 119, 61, 61] := by decide
example : base64Decode [89, 87, 10, 73, 65, 47, 119, 61, 61] = some [97, 98, 0, 255] := by decide
example : base64Decode [89, 87, 73, 65, 47, 119, 61] = none := by decide

/-- **urldecode inverts urlencode** on every byte string. -/
theorem C14_urlencode_roundtrip (bs : Bytes) (h : IsBytes bs) : urldecode (urlencode bs) = bs := by
  unfold urldecode urlencode; rw [query_roundtrip bs h]; rfl

/-- **rawurldecode inverts rawurlencode** on every byte string. -/
theorem C14_rawurlencode_roundtrip (bs : Bytes) (h : IsBytes bs) :
    rawurldecode (rawurlencode bs) = bs := by
  unfold rawurldecode rawurlencode; rw [raw_roundtrip bs h]; rfl

/-- **rawurlencode is RFC 3986 percent-encoding**: every byte outside ALPHA / DIGIT / `-._~`
becomes `%XX` (after fix C14-rawurlencode; the pinned code left `$&+=:@` unescaped). -/
theorem C14_rawurlencode_is_rfc3986 (bs : Bytes) (h : IsBytes bs) :
    rawurlencode bs = Spec.Codec.pctEncode bs := by
  unfold rawurlencode
  induction bs with
  | nil => rfl
  | cons c rest ih =>
    obtain ⟨hc, hr⟩ := isBytes_cons.mp h
    rw [raw_cons c hc, Spec.Codec.pctEncode, ← unreserved_agree, pct_eq c hc, ih hr]

/-- **urlencode is form encoding**: as above with space ↦ `+`. -/
theorem C14_urlencode_is_form_encoding (bs : Bytes) (h : IsBytes bs) :
    urlencode bs = Spec.Codec.formEncode bs := by
  unfold urlencode
  induction bs with
  | nil => rfl
  | cons c rest ih =>
    obtain ⟨hc, hr⟩ := isBytes_cons.mp h
    simp only [queryEscape, Spec.Codec.formEncode, ← unreserved_agree c, ih hr, pct_eq c hc]
    split
    · rfl
    · split <;> rfl

example : rawurlencode [38, 61, 43, 32] = [37, 50, 54, 37, 51, 68, 37, 50, 66, 37, 50, 48] := by decide
example : urldecode [97, 43, 37, 52, 49] = [97, 32, 65] := by decide
/-- a malformed escape leaves the input unchanged (the wrapper's choice), it is not an error -/
example : urldecode [37, 122, 122] = [37, 122, 122] := by decide

open Model.Wire Spec.Wire Proofs.Wire

theorem max_pos (o : Opts) : 0 < o.max := by
  unfold Opts.max; split <;> omega

/-- varints and tags are read back, whatever follows them -/
theorem C14_wire_varint_roundtrip (v : Nat) (rest : Model.Wire.Bytes) (hv : v < 2 ^ 64) :
    consumeVarint (appendVarint v ++ rest) = some (v, rest) := varint_roundtrip v rest hv

theorem C14_wire_tag_roundtrip (num wt : Nat) (rest : Model.Wire.Bytes) (hn : validNum num) (hw : wt < 8) :
    consumeTag (appendTag num wt ++ rest) = some (num, wt, rest) := tag_roundtrip num wt rest hn hw

/-- **Wire round trip.** For every parse-option set and every field tree that the format can
carry and that agrees with the options (`Valid`: which numbers are messages / packed with which
element type) and stays within the parser's depth budget (`Fits`), parsing the encoding returns
exactly the tree. No bound on depth, width, payload sizes. -/
theorem C14_wire_roundtrip (o : Opts) (t : FT) (hv : Valid o t) (hf : Fits o.max t 0) :
    parse o (encode t) = .ok t := (parse_iff o _ t).mpr ⟨encodes_encode t hv, hf⟩

/-- **Depth limit honoured.** Whatever the input bytes, a successful parse never returns more
than `MaxDepth` levels of nesting (`MaxDepth ≤ 0` meaning 64). -/
theorem C14_wire_depth_honoured (o : Opts) (d : Model.Wire.Bytes) (t : FT) (h : parse o d = .ok t) :
    nest t ≤ o.max := by
  have := fits_nest t 0 ((parse_iff o d t).mp h).2 (Nat.zero_le _)
  omega

/-- **Decoder totality.** On every byte string and every option set the parser answers with a
tree or a format error; the fuel of the model (input length + 1) is never exhausted. -/
theorem C14_wire_total (o : Opts) (d : Model.Wire.Bytes) : parse o d ≠ .error .fuel := (parse_ans o d).ne_fuel

/-- **Every byte accounted for, only well-formed input accepted.** If the parser answers with a
tree, the input is — from its first to its last byte — a sequence of well-formed fields
(`Spec.Wire.Encodes`: tags with a valid number, varints of at most ten bytes, complete fixed
and length-delimited payloads, groups closed by an end-group tag with the same number, packed
payloads that are whole elements) and the tree is exactly what those fields say under the
options. Nothing is dropped, nothing is invented. (After fix C14-endgroup; the pinned code
returned a tree for `08 01 0c 08 02`, which is no such sequence.) -/
theorem C14_wire_accounts_for_all_bytes (o : Opts) (d : Model.Wire.Bytes) (t : FT)
    (h : parse o d = .ok t) : Encodes o t d := ((parse_iff o d t).mp h).1

/-- the canonical encoding is a well-formed input in the sense above (non-vacuity of `Encodes`
beyond the examples: by `C14_wire_roundtrip` and the theorem just stated; directly, and without `hf`:
`Proofs.Wire.encodes_encode`) -/
theorem C14_wire_encode_wellformed (o : Opts) (t : FT) (hv : Valid o t) (hf : Fits o.max t 0) :
    Encodes o t (encode t) := C14_wire_accounts_for_all_bytes o _ t (C14_wire_roundtrip o t hv hf)

/-- the replay of the pinned defect: a stray end-group tag is an error (the pinned code returned
field 1 and dropped the last three bytes) -/
theorem C14_wire_stray_endgroup_rejected : parse {} [8, 1, 12, 8, 2] = .error .endGroup := by rfl

def exOpts : Opts := { msg := [3], packed := [5], elemType := [(5, 0)] }
def exTree : FT :=
  .sub 3 false (.leaf 1 (.varint 150) .nil)
    (.sub 4 true (.leaf 2 (.fixed32 9) .nil) (.leaf 5 (.packed 0 [1, 300]) .nil))
example : Valid exOpts exTree := by
  simp [Valid, exTree, exOpts, ValidLeaf, validNum, encode, leafWt, encVal, appendTag, appendVarint,
    avAux, encElems]
example : Fits exOpts.max exTree 0 := by simp [Fits, exTree, exOpts, Opts.max]
example : parse exOpts (encode exTree) = .ok exTree := by rfl
example : nest exTree = 1 := by rfl
/-- a non-minimal varint (`80 00` = 0) is well-formed input and is accounted for -/
example : parse {} [8, 128, 0] = .ok (.leaf 1 (.varint 0) .nil) := by rfl
/-- the limit bites: two nested messages under `MaxDepth = 2` -/
example : parse { msg := [3], maxDepth := 2 } [26, 2, 26, 0] = .error .maxDepth := by rfl

/-! ## PHP serialize / unserialize -/
open Model.Ser Proofs.Ser Spec.Ser

/-
Statements, after the fixes C14-unserialize, C14-1-serialize-float, C14-3-serialize-keyed-array,
C14-6-unserialize-scalar-keys, C14-7-unserialize-lax-string:
  every value of the model is serialized, and what unserialize reads back is the same PHP value;
  a value is returned only if the reader consumed the (trimmed) input to its last byte.
What is left of the pinned code's laxness is `strings.TrimSpace` (known finding
`unserialize:accepts-malformed:surrounding-whitespace`): the model starts from the trimmed input.
-/

/-- **unserialize inverts serialize**, full strength: for every value — null, booleans, 64-bit
integers, floats (any float text), byte strings of any content, `ArrayValue`s whose slots are
positional, named or a mix (`$a['k'] = v`, sparse integer keys, what `json_decode(…, true)` returns),
`ObjectValue` keyed arrays, empty ones included, nested to any depth — `serialize` answers, and
`unserialize` of the answer is a value that is the same PHP value (`Spec.Ser.sem`: same entries,
same keys, same order). Hypotheses: sizes fit the 64-bit counters (`Sized`) and the value is a
PHP array in the first place, i.e. no array holds two entries under one key (`Distinct`).
(After the fixes: on the pinned code `serialize(1.5)` was `false` and the names of the slots
were replaced by `0..n-1`.) -/
theorem C14_serialize_roundtrip (v : PV) (hs : Sized v) (hd : Distinct v) :
    ∃ bs w, ser v = some bs ∧ unserializeT bs = .value w ∧ sem w = sem v :=
  ⟨serT v, rb v, ser_eq v, unserialize_serT v hs, sem_rb v hs hd⟩

/-- **exact round trip** on the representations `unserialize` itself produces (`CanonV`: lists
with positional slots only, keyed arrays as non-empty `ObjectValue`s with distinct keys, floats
as any float text): the very same Go-level value comes back, not just the same PHP value. -/
theorem C14_serialize_roundtrip_exact (v : PV) (hc : CanonV v) (bs : Model.Ser.Bytes)
    (hs : ser v = some bs) : unserializeT bs = .value v := by
  rw [← Option.some.inj ((ser_eq v).symm.trans hs), unserialize_serT v (canon_rb v hc).1, (canon_rb v hc).2]

/-- **`serialize` answers (never `false`) on every value of the model.** (The pinned code had no
float case.) -/
theorem C14_serialize_defined (v : PV) : ∃ bs, ser v = some bs := ser_total v

/-- pinned witnesses of the two repaired defects: `serialize(1.5)`, and the slot names of
`json_decode('{"x":1,"y":"z"}', true)` -/
theorem C14_serialize_float_witness :
    ser (.float [49, 46, 53]) = some [100, 58, 49, 46, 53, 59] ∧
    unserializeT [100, 58, 49, 46, 53, 59] = .value (.float [49, 46, 53]) := ⟨rfl, rfl⟩

theorem C14_serialize_keyed_slots_witness :
    ser (.arr (.cons [120] (.int 1) (.cons [121] (.str [122]) .nil))) =
      some [97, 58, 50, 58, 123, 115, 58, 49, 58, 34, 120, 34, 59, 105, 58, 49, 59,
            115, 58, 49, 58, 34, 121, 34, 59, 115, 58, 49, 58, 34, 122, 34, 59, 125] := by rfl

theorem legacyStr_not_value (raw : Model.Ser.Bytes) (v : PV) : legacyStr raw ≠ .value v :=
  Proofs.ReaderOrder.legacyStr_ne_value raw v

/-- **unserialize consumes all**: a value is returned only if the recursive-descent reader
consumed the (trimmed) input to its last byte — for every input, `s:` included (after fix
C14-7; the pinned code returned whatever lay between the first and the last double quote). -/
theorem C14_unserialize_consumes_all (raw : Model.Ser.Bytes) (v : PV)
    (h : unserializeT raw = .value v) :
    pValue (2 * raw.length + 1) raw = some (v, []) := by
  obtain ⟨_, hp⟩ := Proofs.ReaderOrder.value_is_parseAll raw v h
  split at hp
  · exact Proofs.ReaderOrder.parseAll_some hp
  · cases hp

/-- **array keys are scalars**: every key the entry loop of `parsePhpArray` returns is an int or
a string (after fix C14-6; the pinned code turned any value into a key with `AsString()`). -/
theorem C14_unserialize_keys_are_scalars (fuel n : Nat) (s r : Model.Ser.Bytes) (es : List (PV × PV))
    (h : pEntries fuel n s = some (es, r)) : ∀ e ∈ es, keyOk e.1 = true :=
  ((reads_exact fuel).2.1 n s es r h).2.keys

/-- **unserialize is total**: the reader of the model is a total function and its fuel
(`2·len + 1`, what `parseAll` supplies) is never the reason for an answer — any larger fuel
gives the same result. -/
theorem C14_unserialize_total (s : Model.Ser.Bytes) (k : Nat) :
    pValue (2 * s.length + 1 + k) s = pValue (2 * s.length + 1) s :=
  Option.ext fun _ => (pValue_iff (by omega)).trans (pValue_iff (Nat.lt_succ_self _)).symm

/-- replays of the repaired lax inputs: a string with a wrong length and an array as a key are
answered `false` -/
theorem C14_unserialize_lax_string_rejected :
    unserializeT [115, 58, 53, 58, 34, 97, 98, 34, 59] = .false := by rfl

theorem C14_unserialize_nonscalar_key_rejected :
    unserializeT [97, 58, 49, 58, 123, 97, 58, 48, 58, 123, 125, 105, 58, 49, 59, 125] = .false := by rfl

example : CanonV (.arr (.cons [] (.str [97, 34, 59]) (.cons [] (.obj (.cons [107] (.int (-9223372036854775808)) .nil)) .nil))) := by
  simp [CanonV, CanonItems, CanonProps, PL.len, maxInt, Proofs.Ser.PL.keys]
example : CanonV (.float [45, 49, 46, 53, 69, 43, 50, 53]) := by
  refine ⟨by rfl, by decide⟩
/-- a mixed `ArrayValue` (`[7, 'k' => 1.5, 6 => []]`) satisfies the hypotheses of the full theorem -/
example : Sized (.arr (.cons [] (.int 7) (.cons [107] (.float [49, 46, 53]) (.cons [54] (.arr .nil) .nil)))) ∧
    Distinct (.arr (.cons [] (.int 7) (.cons [107] (.float [49, 46, 53]) (.cons [54] (.arr .nil) .nil)))) := by
  refine ⟨?_, ?_⟩
  · simp [Sized, SizedL, PL.len, maxInt]
    rfl
  · simp [Distinct, DistinctL, semItems, SL.keys, slotSem, keyOf]
    decide
example : ser (.arr (.cons [] (.str [97]) (.cons [] (.str [98]) .nil))) =
    some [97, 58, 50, 58, 123, 105, 58, 48, 59, 115, 58, 49, 58, 34, 97, 34, 59, 105, 58, 49, 59, 115, 58, 49, 58, 34, 98, 34, 59, 125] := by rfl

/-! ## regenerated facts (tie between the models above and the source)

`extract/c14` regenerates, on every run, five tables from the anchored sources (`Generated.C14Recursion`,
`Generated.C14Input`, `Generated.C14Wrappers`, `Generated.C14Numbers`, `Generated.C14Readers`). Each block below has: what a well-formed table guarantees, proved for
*every* table (unbounded); the obligation that the regenerated table is well-formed / is the table the hand-written model
embodies (`decide`, re-checked on every run, so a source change that invalidates the model breaks the obligation that names
it); a negation witness: a concrete ill-formed table of the shape of a realistic mistake, and what breaks. -/

section Tie
open Model.DepthGraph Proofs.DepthGraph

/-- evaluation by the kernel, and when the regenerated table no longer satisfies the statement, an error that names the
obligation -/
macro "obligation " msg:str : tactic => `(tactic| first | decide +kernel | fail $msg)

/-- **A well-formed depth graph bounds the recursion, for every input.** Whatever group of mutually recursive functions,
whatever limit: if every recursive call hands on `depth + literal`, no cycle of calls keeps the depth unchanged, every cycle
passes a limit test and the group is entered at a literal depth, then no call stack of the group holds more than
`(max limit start + largest increment + 1) · (functions + 1)` frames. -/
theorem C14_depth_graph_bounds_recursion (g : Graph) (hwf : g.WF = true) (lim : Nat) (st : List Frame)
    (hs : Stack g lim st) : st.length ≤ g.bound lim := by
  obtain ⟨f, d, rest, _, hd, _, hlen⟩ := stack_inv g hwf lim st hs
  have : (d + 1) * (g.fns.length + 1) ≤ (max lim g.maxStart + g.maxInc + 1) * (g.fns.length + 1) :=
    Nat.mul_le_mul_right _ (by omega)
  unfold Graph.bound
  omega

/-- the counter counts: under a well-formed graph the innermost depth bounds the stack above it -/
theorem C14_depth_counter_counts (g : Graph) (hwf : g.WF = true) (lim : Nat) (st : List Frame) (hs : Stack g lim st) :
    ∃ f d rest, st = ⟨f, d⟩ :: rest ∧ d ≤ max lim g.maxStart + g.maxInc ∧
      st.length ≤ (d + 1) * (g.fns.length + 1) := by
  obtain ⟨f, d, rest, h1, h2, _, h4⟩ := stack_inv g hwf lim st hs
  exact ⟨f, d, rest, h1, h2, by omega⟩

/-- **Obligation**: every recursive group of the codecs that carries a depth counter (the wire parser only) is
well-formed, and the translator understood every call site, test and entry it met. -/
theorem C14_depth_graphs_wellformed :
    Generated.C14Recursion.graphs.all (·.WF) = true ∧ Generated.C14Recursion.shapeNotes = [] := by obligation "C14_depth_graphs_wellformed: a recursive codec function hands on a depth the discipline does not allow (a call that keeps the depth on a cycle, a literal or unreadable depth argument, a cycle without a limit test, an unreadable test) — see Generated/C14Recursion.lean"

/-- **Obligation**: the depth graph of `std/protowire/parser.go` is the one `Model.Wire` embodies — same entry tests
(`>=`), same increment at each of the four recursive call sites, entered at 0, default limit 64 when `MaxDepth <= 0`. -/
theorem C14_wire_depth_graph_is_model :
    (Generated.C14Recursion.graphs.find? (·.file == "std/protowire/parser.go")).map Graph.shape = some wireGraph.shape := by
  obligation "C14_wire_depth_graph_is_model: the depth graph of std/protowire/parser.go (entry tests, depth argument of the four recursive calls, start depth, default limit) is no longer the one Model.Wire embodies"

/-- recursion without a counter (the serialize reader / writer, the JSON layers, the value converters of the protowire
class): bounded by the size of the input or of the value only; none may appear where there was none -/
def knownUnlimited : List String :=
  ["std/php/json_decode.go", "std/php/serialize.go", "std/php/unserialize.go", "std/protowire/helpers.go",
   "std/protowire/serialize_method.go", "std/serializer/json/json_serializer.go"]

/-- **Obligation**: no codec file gained a recursion without a depth counter (in particular the wire parser did not lose its own) -/
theorem C14_uncounted_recursions_known :
    Generated.C14Recursion.unlimitedFiles.all (knownUnlimited.contains ·) = true := by obligation "C14_uncounted_recursions_known: a codec file has a recursion without a depth counter that it did not have before"

/-- the budget `Spec.Wire.Fits` (hypothesis of `C14_wire_roundtrip`) is what the model's depth graph lets through -/
theorem C14_wire_budget_is_graph (lim : Nat) (t : Model.Wire.FT) (d : Nat) :
    FitsVia wireGraph lim t d ↔ Spec.Wire.Fits lim t d := fitsVia_wire lim t d

/-- **Every well-formed three-function graph honours the limit** on field trees: a tree it lets through from the top has
at most `limit + 1` levels (`limit` when the tests are `>=`, as `C14_wire_depth_honoured` shows for the model's graph). -/
theorem C14_wire_depth_from_graph (g : Graph) (hwf : g.WF = true) (lim : Nat) (t : Model.Wire.FT)
    (h : FitsVia g lim t 0) : Spec.Wire.nest t ≤ lim + 1 := fitsVia_nest g hwf lim t 0 h

/-- the limit the parser works with is the default rule of the graph applied to `MaxDepth` -/
theorem C14_wire_default_limit (o : Model.Wire.Opts) :
    o.max = (Default.mk "ParseRawFields" "le" 0 64).apply o.maxDepth := by
  unfold Model.Wire.Opts.max Default.apply
  by_cases h : o.maxDepth ≤ 0 <;> simp [h]

/-- **Negation witness** (the shape of seeded change `C14-group-depth-not-counted`): with `consumeGroup` handing `depth`
unchanged to `consumeFieldValue` the graph has a cycle that keeps the depth; it is not well-formed, under limit 1 it lets
`n` nested groups through for every `n`, and its call stacks grow without bound. -/
theorem C14_flat_group_cycle_unbounded :
    flatGroupGraph.WF = false ∧ flatGroupGraph.noFlatCycle = false ∧
    (∀ n, FitsVia flatGroupGraph 1 (groups n) 0 ∧ Spec.Wire.nest (groups n) = n) ∧
    (∀ n, ∃ st, Stack flatGroupGraph 1 st ∧ n < st.length) := by
  refine ⟨by decide, by decide, fun n => ⟨flat_fits_all n, nest_groups n⟩, fun n => ?_⟩
  obtain ⟨rest, hs, hn⟩ := flat_stack_grows n
  exact ⟨_, hs, by simp; omega⟩

/-- a parser without an entry test in `consumeGroup` (mutant) is not well-formed either: the group cycle passes no test -/
example : ({ wireGraph with fns := [⟨"parseFields", some .ge, "opts.MaxDepth"⟩, ⟨"consumeFieldValue", none, ""⟩,
    ⟨"consumeGroup", none, ""⟩] } : Graph).cyclesTested = false := by decide
/-- nor one whose test is `==` -/
example : ({ wireGraph with fns := [⟨"parseFields", some .other, "opts.MaxDepth"⟩, ⟨"consumeFieldValue", none, ""⟩,
    ⟨"consumeGroup", some .ge, "opts.MaxDepth"⟩] } : Graph).WF = false := by decide
/-- non-vacuity: the model's graph is well-formed, has stacks, and its bound under the default limit is 264 frames -/
example : wireGraph.WF = true ∧ wireGraph.bound 64 = 264 := by decide
example : Stack wireGraph 2 [⟨1, 1⟩, ⟨2, 0⟩, ⟨1, 0⟩, ⟨0, 0⟩] := by
  have h0 : Stack wireGraph 2 [⟨0, 0⟩] := Stack.entry ⟨"ParseRawFields", 0, .const 0⟩ 0 (by simp [wireGraph]) rfl (by decide)
  have h1 := Stack.call ⟨0, 1, .plus 0, none⟩ 0 0 0 [] h0 (by simp [wireGraph]) rfl rfl (by decide)
  have h2 := Stack.call ⟨1, 2, .plus 0, none⟩ 1 0 0 _ h1 (by simp [wireGraph]) rfl rfl (by decide)
  exact Stack.call ⟨2, 1, .plus 1, none⟩ 2 0 1 _ h2 (by simp [wireGraph]) rfl rfl (by decide)

open Model.InputFacts Proofs.InputFacts

/-- **A tested consume site is total**: with the test `n <= 0` (or `n < 0`) after it, a `Consume*` call followed by
`data[n:]` never slices out of range and always shortens the input, whatever the primitive returns within its contract. -/
theorem C14_consume_guard_total (s : ConsumeSite) (hs : s.ok = true) (n : Int) (len : Nat) (h0 : n ≠ 0) (hl : n ≤ len) :
    consume s.guard n len ≠ .panic ∧ ∀ r, consume s.guard n len = .ok r → r < len := by
  simp only [ConsumeSite.ok, Bool.or_eq_true, decide_eq_true_eq] at hs
  have hr : refuses s.guard n = decide (n < 0) := by
    cases hs with
    | inl h => rw [h]; simp [refuses]; omega
    | inr h => rw [h]; simp [refuses]
  by_cases hn : n < 0
  · rw [consume_refused _ _ _ (by rw [hr]; simp [hn])]
    exact ⟨by simp, by intro r hr; cases hr⟩
  · rw [consume_passed _ _ _ (by rw [hr]; simp [hn]) (by omega) hl]
    refine ⟨by simp, ?_⟩
    intro r hr
    injection hr with hr
    omega

/-- **Obligation**: every `Consume*` call of the wire parser is followed by such a test. -/
theorem C14_wire_consume_sites_guarded :
    Generated.C14Input.consumeSites.all (·.ok) = true ∧ Generated.C14Input.consumeSites ≠ [] := by obligation "C14_wire_consume_sites_guarded: a Consume* call of the wire parser is not followed by a test `n <= 0` before its length is used"

/-- **Negation witness** (seeded change `C14-packed-fixed-trailing-bytes` dropped the test; a mutant wrote `n == 0`):
a malformed element, for which the primitive answers -1, is sliced with a negative bound. -/
theorem C14_consume_unguarded_panics : consume "none" (-1) 4 = .panic ∧ consume "eq0" (-1) 4 = .panic := by decide

/-- a loop that runs while the input is non-empty can only end, other than by `return`, with every byte consumed -/
theorem C14_loop_exhausts_input (rem : Nat) (h : exitsWith "nonempty" rem = true) : rem = 0 := by
  simpa [exitsWith] using h

/-- **Obligation**: the five loops over input bytes run `for len(data) > 0`; the message loop then answers, the group loop
reports the missing end tag (`loopF _ [] = ok`, `loopG _ [] = unexpectedEnd`, the `unpack*` loops of the model). -/
theorem C14_wire_loops_exhaust_input :
    loopsOk Generated.C14Input.loops = true ∧ Generated.C14Input.loops ≠ [] := by obligation "C14_wire_loops_exhaust_input: a loop over the input of the wire parser no longer runs `for len(data) > 0` / ends the way the model does"

/-- negation witness (the same seeded change wrote `for len(data) >= 4`): such a loop may stop with bytes left -/
example : exitsWith "len(data) >= 4" 3 = true := by decide

/-- **Obligation**: an end-group tag is an error in a message's field list and closes a group only when the numbers
match (`loopF`: `endGroup`; `loopG`: `mismatch` / the fields) -/
theorem C14_wire_endgroup_handling :
    Generated.C14Input.endGroups.map (fun e => (e.idx, e.action)) = Model.InputFacts.endGroups := by obligation "C14_wire_endgroup_handling: what a field loop does with an end-group tag changed (message list: error; group: close only when the numbers match)"

/-- **Obligation**: the wire types the parser dispatches on, what each arm consumes, the refusing default arms, the
order in which the length-delimited arm asks the options, and the values of the `Wire*` constants are the model's. -/
theorem C14_wire_dispatch_is_model :
    Generated.C14Input.dispatch.map (fun d => (d.role, d.cases, d.dflt)) =
      [("field", fieldDispatch, "error"), ("packed", packedDispatch, "error")] ∧
    Generated.C14Input.lenOrder = Model.InputFacts.lenOrder ∧
    Generated.C14Input.wireConsts.map (·.2) = [0, 1, 2, 3, 4, 5] := by obligation "C14_wire_dispatch_is_model: the wire types the parser dispatches on, what an arm consumes, a default arm, the order of the packed / message options or a Wire* constant changed"

/-- the model refuses every wire type outside the table … -/
theorem C14_wire_other_types_refused (o : Model.Wire.Opts) (rf : Model.Wire.Bytes → Nat → Except Model.Wire.Err Model.Wire.FT)
    (rg : Model.Wire.Bytes → Nat → Nat → Except Model.Wire.Err (Model.Wire.FT × Model.Wire.Bytes))
    (num wt : Nat) (data : Model.Wire.Bytes) (depth : Nat) (h : wt ∉ fieldDispatch.map (·.1)) :
    Model.Wire.valueWith o rf rg num wt data depth = .error .wireType := by
  simp only [fieldDispatch, List.map, List.mem_cons, List.not_mem_nil, or_false, not_or] at h
  obtain ⟨h0, h1, h2, h3, h4, h5⟩ := h
  unfold valueWith
  simp [h0, h1, h2, h3, h4, h5]

/-- … and every packed element type outside its table -/
theorem C14_wire_other_packed_types_refused (et : Nat) (data : Model.Wire.Bytes) (h : et ∉ packedDispatch.map (·.1)) :
    Model.Wire.unpackPacked et data = .error .packedType := by
  simp only [packedDispatch, List.map, List.mem_cons, List.not_mem_nil, or_false, not_or] at h
  obtain ⟨h0, h1, h5⟩ := h
  unfold unpackPacked
  simp [h0, h1, h5]

/-- **Obligation**: the reader's tag switch, the prefix gate of `Call`, the accepted key types are the model's
(`pValue`, `knownPrefix`, `keyOk`), and every tag the writer emits is one the reader knows, `O:` excepted
(what the last conjunct says about each writer tag: `Proofs.InputFacts.writer_covered`). -/
theorem C14_unserialize_dispatch_is_model :
    Generated.C14Input.tagSwitches.map (fun t => (t.tags, t.dflt)) = [(readerTags, "reject"), (boolTags, "reject")] ∧
    Generated.C14Input.gate = Model.InputFacts.gate ∧
    Generated.C14Input.keyTypes = Model.InputFacts.keyTypes ∧
    writerCovered Generated.C14Input.writerTags readerTags writerOnly = true := by obligation "C14_unserialize_dispatch_is_model: the reader's tag switch, the prefix gate of Call, the accepted key types or the writer's tags changed"

/-- the model refuses every first byte that is not a tag of the table, and its gate is the table's -/
theorem C14_unserialize_other_tags_refused (fuel c : Nat) (rest : Model.Ser.Bytes)
    (h : [c] ∉ readerTags.map bytesOf) : Model.Ser.pValue (fuel + 1) (c :: rest) = none := by
  have hb : readerTags.map bytesOf = [[78], [98], [105], [100], [115], [97]] := by decide
  rw [hb] at h
  simp only [List.mem_cons, List.cons.injEq, and_true, List.not_mem_nil, or_false, not_or] at h
  obtain ⟨h1, h2, h3, h4, h5, h6⟩ := h
  unfold pValue
  simp [h1, h2, h3, h4, h5, h6]

theorem C14_unserialize_gate_is_table (s : Model.Ser.Bytes) :
    Model.Ser.knownPrefix s = (Model.InputFacts.gate.map bytesOf).any (fun p => Model.Ser.startsWith p s) := by
  have hb : gate.map bytesOf = [[78, 59], [98, 58], [105, 58], [100, 58], [115, 58], [97, 58]] := by decide
  rw [hb]
  simp [knownPrefix, List.any, Bool.or_assoc]

/-- **A bounded length cannot wrap**: once a declared length was held against the input length, `begin + n` stays in
int64 and the access after the `end+2 > len` test is in range. -/
theorem C14_bounded_length_is_safe (len b n : Nat) (hlen : len < 4611686018427387903) (hb : b ≤ len) :
    strAccess true len b n ≠ .panic := by
  fun_cases strAccess true len b n
  case case3 hn e he2 hp =>
    -- the panic arm: `n ≤ len`, so neither sum wraps, and the two tests contradict each other
    simp only [Bool.true_and, decide_eq_true_eq] at hn
    have h1 : wrap64 ((b : Int) + n) = b + n := wrap64_id _ (by omega) (by omega)
    have h2 : wrap64 ((b : Int) + n + 2) = b + n + 2 := wrap64_id _ (by omega) (by omega)
    simp only [e, h1, h2] at he2 hp
    omega
  all_goals nofun

/-- **Obligation**: every integer read from the input that is added to a position, sizes an allocation or indexes the
input is first rejected when it exceeds the input length. -/
theorem C14_unserialize_lengths_bounded : Generated.C14Input.lengthReads.all (·.ok) = true := by obligation "C14_unserialize_lengths_bounded: an integer read from the input is added to a position / sizes an allocation without having been held against the input length"

/-- **Negation witness** (seeded change `C14-unserialize-length-overflow` dropped `n > len(s)`): a length near 2^63 wraps
`begin + n` negative, the remaining test passes, `s[end]` panics. -/
theorem C14_unbounded_length_panics : strAccess false 10 5 9223372036854775803 = .panic := by decide

/-- **A covered index is in range** wherever the test in force holds. -/
theorem C14_covered_index_in_range (s : IndexSite) (hc : s.covered = true) (base len h : Nat) (hr : s.room = some h)
    (ht : base + h ≤ len) : base + s.need ≤ len := by
  simp only [IndexSite.covered, hr, decide_eq_true_eq] at hc
  omega

/-- **Obligation**: every index and slice the reader takes of its input is covered by a bounds test in force at that point,
and the translator could read every index expression and every test it met in the two decoders. -/
theorem C14_unserialize_index_sites_covered :
    Generated.C14Input.indexSites.all (·.covered) = true ∧ Generated.C14Input.indexSites ≠ [] ∧
    Generated.C14Input.shapeNotes = [] := by obligation "C14_unserialize_index_sites_covered: an index or slice of the input in std/php/unserialize.go is not covered by a bounds test in force at that point (or the translator could not read one) — see indexSites / shapeNotes in Generated/C14Input.lean"

/-- negation witness: `s[end+1]` under a test that only guarantees `end + 1 <= len` -/
example : (IndexSite.mk "parsePhpValue" "s[end+1]" "end" 2 (some 1)).covered = false ∧
    ∃ base len, base + 1 ≤ len ∧ ¬ (base + 1 < len) := uncovered_out_of_range

/-- **Obligation**: the float writer spells a float through `strconv.FormatFloat(…, -1, 64)` only (the shortest digits that
read back, which is what the lexeme model of `PV.float` trusts) and the three literal spellings. -/
theorem C14_serialize_float_text_producers :
    Generated.C14Input.floatCalls.all (Model.InputFacts.floatCalls.contains ·) = true ∧
    Generated.C14Input.floatLits = Model.InputFacts.floatLits := by obligation "C14_serialize_float_text_producers: the float writer produces text through something else than strconv.FormatFloat(…, -1, 64) and the three literal spellings"

open Model.CodecTable Proofs.CodecTable

/-- **Every accepted pair of rows is a round trip**, for every byte string. -/
theorem C14_wrapper_pairs_roundtrip (enc dec : Wrapper) (hp : pairOK enc dec = true)
    (fe fd : Model.Codec.Bytes → Model.CodecTable.Out) (he : interp enc = some fe) (hd : interp dec = some fd)
    (bs : Model.Codec.Bytes) (hb : Model.Codec.IsBytes bs) :
    ∃ mid, fe bs = .bytes mid ∧ fd mid = .bytes bs := by
  simp only [pairOK, Bool.or_eq_true, Bool.and_eq_true, beq_iff_eq] at hp
  rcases hp with (⟨h1, h2⟩ | ⟨h1, h2⟩) | ⟨h1, h2⟩
  · exact pair_of he hd (h1 ▸ pipe_b64enc) (h2 ▸ pipe_b64dec) bs (C14_base64_roundtrip bs hb)
  · exact pair_of he hd (h1 ▸ pipe_query) (h2 ▸ pipe_unq) bs (query_roundtrip bs hb)
  · exact pair_of he hd (h1 ▸ pipe_raw) (h2 ▸ pipe_unp) bs (raw_roundtrip bs hb)

/-- the rows the model was written from denote the functions the round-trip theorems above are about -/
theorem C14_wrapper_rows_denote_model :
    (find modelRows "base64_encode").bind interp = some (fun s => .bytes (base64Encode s)) ∧
    (find modelRows "base64_decode").bind interp = some (fun s => match base64Decode s with
      | some r => .bytes r
      | none => .false) ∧
    (find modelRows "urlencode").bind interp = some (fun s => .bytes (urlencode s)) ∧
    (find modelRows "urldecode").bind interp = some (fun s => .bytes (urldecode s)) ∧
    (find modelRows "rawurlencode").bind interp = some (fun s => .bytes (rawurlencode s)) ∧
    (find modelRows "rawurldecode").bind interp = some (fun s => .bytes (rawurldecode s)) ∧
    (find modelRows "bin2hex").bind interp = some (fun s => .bytes (bin2hex s)) := by
  have r1 : find modelRows "base64_encode" = some ⟨"base64_encode", ["base64.StdEncoding.EncodeToString(_)"], "none"⟩ := rfl
  have r2 : find modelRows "base64_decode" = some ⟨"base64_decode", ["base64.StdEncoding.DecodeString(_)"], "false"⟩ := rfl
  have r3 : find modelRows "urlencode" = some ⟨"urlencode", ["url.QueryEscape(_)"], "none"⟩ := rfl
  have r4 : find modelRows "urldecode" = some ⟨"urldecode", ["url.QueryUnescape(_)"], "input"⟩ := rfl
  have r5 : find modelRows "rawurlencode" = some ⟨"rawurlencode", ["url.QueryEscape(_)", "strings.ReplaceAll(_,\"+\",\"%20\")"], "none"⟩ := rfl
  have r6 : find modelRows "rawurldecode" = some ⟨"rawurldecode", ["url.PathUnescape(_)"], "input"⟩ := rfl
  have r7 : find modelRows "bin2hex" = some ⟨"bin2hex", ["hex.EncodeToString(_)"], "none"⟩ := rfl
  rw [r1, r2, r3, r4, r5, r6, r7]
  simp only [Option.bind_some]
  exact ⟨interp_enc _ _ pipe_b64enc rfl, interp_dec_false _ _ pipe_b64dec rfl, interp_enc _ _ pipe_query rfl,
    interp_dec_input _ _ pipe_unq rfl, interp_enc _ _ pipe_raw rfl, interp_dec_input _ _ pipe_unp rfl,
    interp_enc _ _ pipe_hex rfl⟩

/-- **Obligation**: the byte codecs call the library functions the model re-models, in that order, and answer a library
error the way the model says (`false` / the input unchanged); the three encoder / decoder pairs are accepted pairs. -/
theorem C14_wrappers_are_model :
    Generated.C14Wrappers.wrappers = modelRows ∧ Generated.C14Wrappers.shapeNotes = [] ∧
    (match find Generated.C14Wrappers.wrappers "base64_encode", find Generated.C14Wrappers.wrappers "base64_decode" with
     | some e, some d => pairOK e d | _, _ => false) = true ∧
    (match find Generated.C14Wrappers.wrappers "urlencode", find Generated.C14Wrappers.wrappers "urldecode" with
     | some e, some d => pairOK e d | _, _ => false) = true ∧
    (match find Generated.C14Wrappers.wrappers "rawurlencode", find Generated.C14Wrappers.wrappers "rawurldecode" with
     | some e, some d => pairOK e d | _, _ => false) = true := by obligation "C14_wrappers_are_model: a byte codec (base64_*, url*, rawurl*, bin2hex, md5) calls other library functions, in another order, or answers a library error differently than Model.Codec says"

/-- **Negation witness** (the pinned `rawurlencode` defect had this shape): an encoder row that leaves `+` for a space
paired with the path decoder is not accepted, and a space does not come back. -/
theorem C14_wrapper_mismatched_pair :
    let enc : Wrapper := ⟨"rawurlencode", ["url.QueryEscape(_)"], "none"⟩
    let dec : Wrapper := ⟨"rawurldecode", ["url.PathUnescape(_)"], "input"⟩
    pairOK enc dec = false ∧
    ∃ fe fd, interp enc = some fe ∧ interp dec = some fd ∧ fe [32] = .bytes [43] ∧ fd [43] = .bytes [43] := by
  refine ⟨by decide, _, _, interp_enc _ _ pipe_query rfl, interp_dec_input _ _ pipe_unp rfl, by decide, by decide⟩

/-- **Obligation**: `hash()` maps the four algorithm names the correspondence run compares with `crypto/*` to their
constructors and writes the digest through `hex.EncodeToString` (`digestHex`). -/
theorem C14_hash_algorithms :
    hashModel.all (fun p => Generated.C14Wrappers.hashAlgos.lookup p.1 == some p.2) = true ∧
    Generated.C14Wrappers.hashOut = ["hex.EncodeToString(_)"] := by obligation "C14_hash_algorithms: hash() maps md5 / sha1 / sha256 / sha512 to another constructor or no longer writes the digest through hex.EncodeToString"

/-- **Obligation**: every piece of JSON text the serializer emits is produced by `encoding/json` (member keys included —
seeded change `C14-json-key-go-quote` quoted keys with `strconv.AppendQuote`), HTML escaping is off, and the two decode
routes reject what `json.Valid` rejects before anything else. -/
theorem C14_json_text_producers :
    Generated.C14Wrappers.jsonProducers.all (fun p => p.2.all (jsonLibs.contains ·)) = true ∧
    Generated.C14Wrappers.jsonProducers ≠ [] ∧
    Generated.C14Wrappers.escapeHTML = ["false"] ∧
    Generated.C14Wrappers.validGates.lookup "UnmarshalValue" = some true ∧
    Generated.C14Wrappers.validGates.lookup "goJsonDecode" = some true := by obligation "C14_json_text_producers: JSON text is produced by something else than encoding/json, HTML escaping is not switched off, or a decode route lost its json.Valid gate"

/-! ### The float → int step of the number decoders (`Model.NumGuard`)

`convertJsonNumber` reads an int64 literal exactly and everything else through float64; the float becomes an int behind a
range guard and an integrality test. `Generated.C14Numbers.floatToInt` lists every such conversion of the decoders with the
guard as written (constants as the float64 they compare as: `math.MaxInt64` is `2^63`). Which float a text denotes is
`strconv`'s — judged by the harness with exact arithmetic (`harness/c14/jsonnum.go`). -/
section Numbers
open Model.NumGuard Proofs.NumGuard

/-- **A well-formed guard never wraps**: for every site whose lower test is `≥ c` with `c ≥ -2^63` (or `> c`, `c ≥ -2^63-1`),
whose upper test is `< c` with `c ≤ 2^63` (or `≤ c`, `c < 2^63`) and which tests integrality, for every float (integral,
fractional, ±Inf, NaN) and whatever the machine answers for a conversion outside int64: an int answer is the float's own
value, and it is an int64. -/
theorem C14_json_number_int_guard_sound (hw : Hw) (s : Site) (h : s.WF = true) (f : Fl) (n : Int)
    (hc : s.convert hw f = .int n) : f = .int n ∧ InRange n := convert_sound hw h hc

/-- **A tight guard loses nothing**: every integral float within int64 becomes that int. -/
theorem C14_json_number_int_guard_complete (hw : Hw) (s : Site) (h : s.Tight = true) (n : Int) (hr : InRange n) :
    s.convert hw (.int n) = .int n := convert_complete hw h hr

/-- **`convertJsonNumber` as written**: the answer is the int `n` iff the text is the int64 literal `n`, or it is not an
int64 literal and the float read from it is the integral float `n` with `-2^63 ≤ n < 2^63` — on every machine. -/
theorem C14_json_number_decode_spec (hw : Hw) (lit : Option Int) (f : Fl) (n : Int) :
    pinned.decode hw lit f = .int n ↔ lit = some n ∨ (lit = none ∧ f = .int n ∧ InRange n) := by
  cases lit with
  | some i => simp [Site.decode]
  | none =>
    simp only [Site.decode, false_or, true_and, reduceCtorEq]
    constructor
    · exact convert_sound hw pinned_wf
    · rintro ⟨rfl, hr⟩
      exact convert_complete hw pinned_tight hr

example : pinned.decode amd64 none (.int 9223372036854775808) = .float (.int 9223372036854775808) := by decide
example : pinned.decode amd64 none (.int (-9223372036854775808)) = .int (-9223372036854775808) := by decide
example : pinned.decode arm64 none (.frac 9007199254740990) = .float (.frac 9007199254740990) := by decide
example : pinned.decode amd64 (some 9007199254740993) (.int 9007199254740992) = .int 9007199254740993 := by decide

/-- the seeded guard `f >= math.MinInt64 && f <= math.MaxInt64 && f == math.Trunc(f)`: `math.MaxInt64` compares as `2^63` -/
def leBoundSite : Site := { lo := .ge (-9223372036854775808), hi := .le 9223372036854775808, integral := .trunc }

/-- **Negation witness** (seeded change `C14-json-number-int-bound`): with `≤ 2^63` as the upper test the guard is not
well-formed, and on *every* machine the float `2^63` is answered by an int that is not `2^63` (on amd64 by `-2^63`: the
sign flips). The round-trip test alone (no range test) is no protection either: on a saturating machine `2^63` passes it
and becomes `2^63 - 1`. -/
theorem C14_json_number_le_bound_wraps :
    leBoundSite.WF = false ∧
    (∀ hw : Hw, ∃ n, leBoundSite.convert hw (.int 9223372036854775808) = .int n ∧ n ≠ 9223372036854775808) ∧
    leBoundSite.convert amd64 (.int 9223372036854775808) = .int (-9223372036854775808) ∧
    ({ lo := .none, hi := .none, integral := .cast } : Site).convert arm64 (.int 9223372036854775808)
      = .int 9223372036854775807 := by
  refine ⟨by decide, ?_, by decide, by decide⟩
  intro hw
  refine ⟨hw.conv 9223372036854775808, ?_, ?_⟩
  · have : ¬ InRange 9223372036854775808 := by decide
    simp [Site.convert, leBoundSite, Lo.holds, Hi.holds, Integral.holds, Fl.ge, Fl.le, toInt, this]
  · have := hw.conv_range 9223372036854775808
    unfold InRange maxIntP1 at this
    omega

/-- conversions without a range guard that are known and why they are harmless: `convertGoValue`'s `case float64` arm is
dead — `goJsonDecode` decodes with `UseNumber`, every number arrives as a `json.Number` -/
def knownUnguarded : List String := ["convertGoValue"]

/-- **Obligation**: every float → int conversion of the decoders sits behind a well-formed guard (so
`C14_json_number_int_guard_sound` applies to it), except the known dead arm; no unreadable bound. -/
theorem C14_json_float_to_int_guards :
    (Generated.C14Numbers.floatToInt.filter (fun s => !s.WF)).all (fun s => knownUnguarded.contains s.fn) = true ∧
    Generated.C14Numbers.shapeNotes = [] := by obligation "C14_json_float_to_int_guards: a decoder converts a float64 to an int behind a guard that lets a value outside int64 through (an upper test `<=` against a constant that compares as 2^63 such as math.MaxInt64, a missing bound, no integrality test) — see Generated/C14Numbers.lean"

/-- **Obligation**: the guard of `convertJsonNumber` is the one `Model.NumGuard.pinned` writes down (`≥ -2^63`, `< 2^63`,
round-trip cast), i.e. `C14_json_number_decode_spec` is about the code. -/
theorem C14_json_number_guard_is_model :
    (Generated.C14Numbers.floatToInt.filter (fun s => s.lo != .none || s.hi != .none)).map (·.shape) = [pinned.shape] := by obligation "C14_json_number_guard_is_model: the range guard of convertJsonNumber (operators, constants as float64, integrality test) is no longer the one Model.NumGuard.pinned embodies"

end Numbers

/-! ### The order of the readers of one input (exact reader vs. compatibility branch)

`unserialize` has two readers of a text that starts with `s:`: the exact recursive-descent reader, and a compatibility
branch that looks between the first and the last double quote for the legacy wrappers `__origami_a:<json>` /
`__origami_o:<json>`. `serialize` writes a string verbatim, so the wrapper grammar is embedded in the value space of the
exact format: the serialization of the *string* `__origami_a:[]` is, byte for byte, a legacy wrapper. Which reader is
asked first decides whether `unserialize ∘ serialize` is the identity. `Model.ReaderOrder.decode` is "readers tried in
order"; the statements below are about every list of readers, every legacy reader, every value. -/
section Readers
open Model.ReaderOrder Proofs.ReaderOrder

/-- **Precedence, generic** (any text type, any answer type, any readers): if the exact reader `r1` reads every encoder
output back (`r1 (enc v) = some (ok v)`), then the decoder that tries `pre`, then `r1`, then `post` inverts the encoder
on every value **iff** the readers placed before `r1` are, on every encoder output, silent or already give the right
answer. In particular (`pre = []`) nothing placed AFTER the exact reader can break the round trip, and a reader placed
BEFORE it breaks it exactly on the values whose encoding it claims. -/
theorem C14_reader_precedence {T R V : Type} (enc : V → T) (ok : V → R) (r1 : T → Option R)
    (pre post : List (T → Option R)) (d : R) (h1 : ∀ v, r1 (enc v) = some (ok v)) :
    (∀ v, decode (pre ++ r1 :: post) d (enc v) = ok v) ↔ ∀ v, decode pre (ok v) (enc v) = ok v := by
  refine forall_congr' fun v => ?_
  rw [decode_append, decode_cons_some _ _ _ _ _ (h1 v)]

example : decode [fun (n : Nat) => if n = 3 then some 0 else none, fun n => some (n + 1)] 9 3 = 0 ∧
    decode [fun (n : Nat) => if n = 3 then some 0 else none, fun n => some (n + 1)] 9 4 = 5 := by decide

/-- **the model of `Call` is its three readers in the pinned order**: empty test, gated exact reader, compatibility
branch — so the round-trip theorems about `unserializeT` are theorems about this order. -/
theorem C14_unserialize_is_ordered_readers (raw : Model.Ser.Bytes) :
    unserializeT raw = decode [emptyR, exactR, legacyR] .false raw := by
  -- arms of `unserializeT`: empty input; the gated exact reader answers; it does not and the input starts with `s:`; or not
  fun_cases unserializeT raw
  · next he => simp [decode, emptyR, he]
  · next he v hv => simp [decode, emptyR, exactR, he, hv]
  · next he hv hs => simp [decode, emptyR, exactR, legacyR, he, hv, hs]
  · next he hv hs => simp [decode, emptyR, exactR, legacyR, he, hv, hs]

/-- **unserialize inverts serialize whatever follows the exact reader**: for every list of reader rows that satisfies
the order obligation `orderOK` (first row = the exact reader behind the model's gate), for EVERY interpretation `sn` of
the other rows (any legacy branch, any JSON reader, final or falling through) and every value of the model, the
decoder built from the rows reads `serialize v` back as the same PHP value. The compatibility branch is not modelled —
it does not need to be: behind the exact reader it is never asked about a serializer output. -/
theorem C14_unserialize_roundtrip_any_later_reader (rs : List ReaderStep) (hok : orderOK rs = true)
    (sn : ReaderStep → Model.Ser.Bytes → Option Model.Ser.Out) (v : PV) (hs : Sized v) (hd : Distinct v) :
    ∃ bs w, ser v = some bs ∧ decode (emptyR :: rs.map (denote sn)) .false bs = .value w ∧ sem w = sem v := by
  obtain ⟨bs, w, hb, hu, hw⟩ := C14_serialize_roundtrip v hs hd
  obtain ⟨rest, hr⟩ := map_denote_of_ok sn rs hok
  exact ⟨bs, w, hb, by rw [hr]; exact exact_first_decides rest bs w hu, hw⟩

example : orderOK pinned = true := by decide

/-- **Obligation**: the reader attempts of `UnserializeFunction.Call`, in source order, are the exact reader first and
only literal-sniffing branches after it; they are the rows the model embodies (`Model.ReaderOrder.pinned`: gate, the
two wrapper literals, the compatibility branch final); no statement of `Call` reads the text outside these attempts. -/
theorem C14_unserialize_reader_order :
    orderOK Generated.C14Readers.readers = true ∧
    Generated.C14Readers.readers = pinned ∧
    Generated.C14Readers.shapeNotes = [] := by obligation "C14_unserialize_reader_order: the order / kind of the reader attempts in UnserializeFunction.Call changed — a literal-sniffing compatibility branch (legacy wrapper, marker, prefix heuristics) now runs before the exact reader, or a reader was added — see Generated/C14Readers.lean; a value whose serialization carries the marker no longer round-trips"

/-- the in-band literals the decoders compare their input with (type tags, float words, the two legacy wrappers, the
JSON words) -/
def knownMarkers : List String := [
  "std/php/unserialize.go: -INF", "std/php/unserialize.go: INF", "std/php/unserialize.go: N;", "std/php/unserialize.go: NAN",
  "std/php/unserialize.go: __origami_a:", "std/php/unserialize.go: __origami_o:", "std/php/unserialize.go: a:",
  "std/php/unserialize.go: b:", "std/php/unserialize.go: d:", "std/php/unserialize.go: i:", "std/php/unserialize.go: s:",
  "std/serializer/json/json_serializer.go: false", "std/serializer/json/json_serializer.go: null",
  "std/serializer/json/json_serializer.go: true"]

/-- **Obligation**: no decoder compares its input with a literal (prefix, magic word, wrapper marker) beyond the known
ones — a new in-band marker is a second grammar inside the value space and needs its own precedence argument. -/
theorem C14_decoder_markers_known :
    Generated.C14Readers.markers.all (fun m => knownMarkers.contains m) = true := by apply Proofs.InputFacts.all_contains_of; obligation "C14_decoder_markers_known: a decoder compares its input with a string literal that is not in the known list (a new in-band marker / sniffing branch) — see Generated/C14Readers.lean"

/-- **Negation witness (the seeded order)**: with the compatibility branch asked before the exact reader, the string
`__origami_a:[]` — serialized as `s:14:"__origami_a:[]";` — is claimed by the wrapper branch, while the pinned order
returns the string; so the sniff-first decoder does not invert `serialize` on strings, and the rows of that order fail
`orderOK`. -/
theorem C14_unserialize_sniff_first_hijacks :
    let s : Model.Ser.Bytes := [95, 95, 111, 114, 105, 103, 97, 109, 105, 95, 97, 58, 91, 93]
    ser (.str s) = some (serStr s) ∧
    unserializeT (serStr s) = .value (.str s) ∧
    decode [emptyR, sniffFirstR, exactR] .false (serStr s) = .legacy ∧
    ¬ (∀ t : Model.Ser.Bytes, decode [emptyR, sniffFirstR, exactR] .false (serStr t) = .value (.str t)) ∧
    orderOK pinned.reverse = false := by
  have claimed : decode [emptyR, sniffFirstR, exactR] .false
      (serStr [95, 95, 111, 114, 105, 103, 97, 109, 105, 95, 97, 58, 91, 93]) = .legacy := rfl
  refine ⟨rfl, rfl, claimed, ?_, by decide⟩
  intro h
  exact Model.Ser.Out.noConfusion (claimed.symm.trans (h _))

end Readers

end Tie

end C14
