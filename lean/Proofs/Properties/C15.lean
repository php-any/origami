import Proofs.Lemmas.Meth
import Proofs.Lemmas.MethStr
import Proofs.Lemmas.MethStore
import Proofs.Lemmas.MethStoreObl
/-!
# C15 — array and string methods behave as documented (Node.js-style)

`Model.Meth` / `Model.MethStr` mirror
`data/value_array*.go`, `data/value_string*.go` and the argument binding of
`node/call_object_method.go` **with the fixes C15-optional-null,
C15-variadic-items, C15-sort-stable, C15-substring-swap applied**;
`Spec.Js` / `Spec.JsStr` are the documented semantics.

Every `C15_<method>_refines` quantifies over all receivers (any length, any
nesting) and all argument lists.  `Binds args i o` says how argument `i` is
read as an optional integer: omitted or `null` → `none`, an integer → `some`;
an argument of another type in an integer position is outside the documented
signature and outside the theorem.  The model answers `Res.ok`, never
`Res.crash`: no call panics on an index, slice bound or `make` length.
-/
namespace C15
open Model.Meth
open Spec.Js (Binds BindsVal IsSortOf documentedMutator)
open Proofs.MethStr (AllAscii)

/-- push(...items): every item is appended in order, the new length is returned. -/
theorem C15_push_refines (xs items : List Val) : push xs items = .ok (Spec.Js.push xs items) := by
  simp [push, rest, Spec.Js.push]

example : push [.int 1, .int 2, .int 3] [.int 4, .int 5]
    = .ok ⟨.int 5, [.int 1, .int 2, .int 3, .int 4, .int 5]⟩ := by rfl

/-- pop(): last element (null on an empty array), receiver loses it. -/
theorem C15_pop_refines (xs : List Val) : pop xs = .ok (Spec.Js.pop xs) := by
  rcases List.eq_nil_or_concat xs with rfl | ⟨ys, a, rfl⟩
  · rfl
  · simp [pop, Spec.Js.pop]

/-- shift(): first element (null on an empty array), receiver loses it. -/
theorem C15_shift_refines (xs : List Val) : shift xs = .ok (Spec.Js.shift xs) := by
  cases xs <;> rfl

/-- unshift(...items): all items in front, in order. -/
theorem C15_unshift_refines (xs items : List Val) : unshift xs items = .ok (Spec.Js.unshift xs items) := by
  simp [unshift, rest, Spec.Js.unshift]

/-- slice(start?, end?): relative indexes, clamped; omitted / null end = to the end. -/
theorem C15_slice_refines (xs args : List Val) (start stop : Option Int)
    (h0 : Binds args 0 start) (h1 : Binds args 1 stop) :
    slice xs args = .ok (Spec.Js.slice xs start stop) := by
  open Proofs.Meth in
  rw [spec_slice_getD]
  unfold slice
  simp only [intArg_of_binds h0, optIntArg_of_binds _ h1]
  have hb := sliceBounds_spec xs.length (start.getD 0) (stop.getD xs.length)
  have hBn := rel_le xs.length (stop.getD xs.length)
  simp only at hb
  generalize sliceBounds (xs.length) (start.getD 0) (stop.getD xs.length) = p at hb ⊢
  generalize Spec.Js.rel xs.length (start.getD 0) = A at hb ⊢
  generalize Spec.Js.rel xs.length (stop.getD xs.length) = B at hb hBn ⊢
  rcases Nat.lt_or_ge A B with hlt | hge
  · obtain ⟨h1, h2⟩ := hb.1 hlt
    rw [h1, h2, if_neg (by omega), Int.toNat_sub, copyRange_eq xs (B - A) A (by omega), range_eq]
  · rw [hb.2 hge, Int.sub_self, if_neg (Int.lt_irrefl 0), range_empty xs A B hge]
    rfl

example : Binds [.int (-2)] 0 (some (-2)) ∧ Binds [.int (-2)] 1 none := by
  simp [Binds]
example : slice [.int 1, .int 2, .int 3, .int 4, .int 5] [.int (-2)]
    = .ok ⟨.list [.int 4, .int 5], [.int 1, .int 2, .int 3, .int 4, .int 5]⟩ := by rfl

/-- splice(start, deleteCount?, ...items): deleted run returned, all items inserted in its place. -/
theorem C15_splice_refines (xs args : List Val) (start deleteCount : Option Int)
    (h0 : Binds args 0 start) (h1 : Binds args 1 deleteCount) :
    splice xs args = .ok (Spec.Js.splice xs start deleteCount (args.drop 2)) := by
  open Proofs.Meth in
  rw [spec_splice_getD]
  unfold splice
  simp only [intArg_of_binds h0, optIntArg_of_binds _ h1, spliceBounds_eq]
  have hAn := rel_le xs.length (start.getD 0)
  generalize Spec.Js.rel xs.length (start.getD 0) = A at hAn ⊢
  have hN := Nat.min_le_right (deleteCount.getD xs.length).toNat (xs.length - A)
  generalize min (deleteCount.getD xs.length).toNat (xs.length - A) = N at hN ⊢
  replace hN : A + N ≤ xs.length := by omega
  have h0A : sliceExpr xs 0 A = some (Spec.Js.range xs 0 A) := sliceExpr_eq xs 0 A (Nat.zero_le _) hAn
  rw [if_neg (by omega), ← Int.natCast_add, sliceExpr_eq xs A (A + N) (Nat.le_add_right _ _) hN, h0A,
    sliceExpr_eq xs (A + N) xs.length hN (Nat.le_refl _)]
  simp only [rest, Spec.Js.range, List.drop_zero, List.take_length]

example : splice [.int 1, .int 2, .int 3, .int 4, .int 5] [.int 1, .int 2, .str "a", .str "b"]
    = .ok ⟨.list [.int 2, .int 3], [.int 1, .str "a", .str "b", .int 4, .int 5]⟩ := by rfl

/-- concat(...items): every item, arrays spread one level; receiver untouched. -/
theorem C15_concat_refines (xs items : List Val) : concat xs items = .ok (Spec.Js.concat xs items) := by
  simp only [concat, rest, Spec.Js.concat, List.drop_zero, Proofs.Meth.spread_eq, List.foldl_append_eq_append,
    List.flatMap_def]

/-- join(separator?): string forms joined; omitted / null separator = ",". -/
theorem C15_join_refines (xs args : List Val) (sep : Option Val) (h : BindsVal args 0 sep) :
    join xs args = .ok (Spec.Js.join xs sep) := by
  obtain ⟨h1, h2⟩ := Proofs.Meth.slot_of_bindsVal h
  rw [join, h2, h1]
  simp only [Spec.Js.join, Proofs.Meth.joinLoop_eq]
  cases sep <;> rfl

example : join [.str "apple", .str "banana"] [] = .ok ⟨.str "apple,banana", [.str "apple", .str "banana"]⟩ := by
  rfl

/-- reverse(): the receiver is reversed in place and the reversed list returned. -/
theorem C15_reverse_refines (xs : List Val) : reverse xs = .ok (Spec.Js.reverse xs) := by
  simp only [reverse, Spec.Js.reverse, List.foldl_flip_cons_eq_append', List.append_nil]

/-- sort(): the receiver becomes, and the call returns, *the* stable ascending
arrangement by string form. -/
theorem C15_sort_refines (xs : List Val) :
    ∃ ys, sort xs = .ok ⟨.list ys, ys⟩ ∧ IsSortOf xs ys :=
  ⟨_, rfl, Proofs.Meth.sort_isSortOf xs⟩

/-- `IsSortOf` determines the result: the spec of `sort` is a function. -/
theorem C15_sort_spec_unique (xs ys zs : List Val) (hy : IsSortOf xs ys) (hz : IsSortOf xs zs) : ys = zs := by
  open Proofs.Meth in
  have hf : ∀ k : String, ys.filter (fun v => asString v == k) = zs.filter (fun v => asString v == k) :=
    fun k => (hy.2 k).trans (hz.2 k).symm
  have hys := hy.1
  have hzs := hz.1
  clear hy hz
  induction ys generalizing zs with
  | nil =>
    cases zs with
    | nil => rfl
    | cons z zs' => have := hf (asString z); simp at this
  | cons y ys' ih =>
    cases zs with
    | nil => have := hf (asString y); simp at this
    | cons z zs' =>
      -- each head occurs in the other list, behind a head that is not greater
      have hkey : asString y = asString z := String.le_antisymm
        (head_le_of_sorted hys (mem_of_filter_eq hf List.mem_cons_self))
        (head_le_of_sorted hzs (mem_of_filter_eq (fun k => (hf k).symm) List.mem_cons_self))
      have hk := hf (asString y)
      simp only [List.filter_cons, beq_self_eq_true, ↓reduceIte] at hk
      rw [if_pos (by simp [hkey])] at hk
      obtain ⟨hhead, htail⟩ := List.cons.inj hk
      subst hhead
      congr 1
      apply ih zs' _ (List.pairwise_cons.mp hys).2 (List.pairwise_cons.mp hzs).2
      intro k
      by_cases hk' : (asString y == k) = true
      · have : asString y = k := by simpa using hk'
        subst this; exact htail
      · have := hf k
        simpa [List.filter_cons, hk'] using this

example : sort [.int 3, .str "1", .int 1, .int 10]
    = .ok ⟨.list [.str "1", .int 1, .int 10, .int 3], [.str "1", .int 1, .int 10, .int 3]⟩ := by rfl

/-- indexOf(searchElement, fromIndex?): first position at or after the relative
start whose string form equals that of the key; −1 if none. -/
theorem C15_indexOf_refines (xs : List Val) (key : Val) (more : List Val) (fromIndex : Option Int)
    (h : Binds (key :: more) 1 fromIndex) :
    indexOf xs (key :: more) = .ok (Spec.Js.indexOf xs key fromIndex) := by
  open Proofs.Meth in
  simp only [indexOf, Spec.Js.indexOf, Spec.Js.firstMatch, drop_zipIdx, Nat.zero_add, show slot (key :: more) 0 = key from rfl]
  rcases fromIndex_cases xs _ fromIndex h with h1 | ⟨h1, h2⟩
  · simp only [h1, scanFrom_eq]
    cases List.find? _ _ <;> rfl
  · simp only [h1, h2]; rfl

theorem C15_includes_refines (xs : List Val) (key : Val) (more : List Val) (fromIndex : Option Int)
    (h : Binds (key :: more) 1 fromIndex) :
    includes xs (key :: more) = .ok (Spec.Js.includes xs key fromIndex) := by
  open Proofs.Meth in
  simp only [includes, Spec.Js.includes, show slot (key :: more) 0 = key from rfl]
  rcases fromIndex_cases xs _ fromIndex h with h1 | ⟨h1, h2⟩
  · simp only [h1, ← scanFrom_isSome _ _ (Spec.Js.rel xs.length (fromIndex.getD 0))]
    cases scanFrom _ _ _ <;> rfl
  · simp only [h1, h2]; rfl

/-- flat(depth?): omitted / null depth = 1; depth ≤ 0 copies. -/
theorem C15_flat_refines (xs args : List Val) (depth : Option Int) (h : Binds args 0 depth) :
    flat xs args = .ok (Spec.Js.flat xs depth) := by
  open Proofs.Meth in
  unfold flat Spec.Js.flat
  simp only [optIntArg_of_binds _ h]
  generalize depth.getD 1 = d
  by_cases hd : d ≤ 0
  · have : d.toNat = 0 := by omega
    simp [hd, this, Spec.Js.flatDepth]
  · simp [hd, flatten_eq]

example : flat [.int 1, .list [.int 2, .list [.int 3]]] []
    = .ok ⟨.list [.int 1, .int 2, .list [.int 3]], [.int 1, .list [.int 2, .list [.int 3]]]⟩ := by rfl

theorem C15_length_refines (xs : List Val) : Model.Meth.length xs = .ok (Spec.Js.length xs) := rfl

/-- forEach(cb): null; one invocation per element in order, with its index and the array. -/
theorem C15_forEach_refines (xs : List Val) :
    forEach xs = (.ok (Spec.Js.forEach xs), Spec.Js.calls xs) := by
  simp [forEach, Spec.Js.forEach, Spec.Js.calls, Proofs.Meth.forEachLoop_eq]

theorem C15_map_refines (xs : List Val) (f : Cb) : map xs f = .ok (Spec.Js.map xs f) := by
  simp [map, Spec.Js.map, Proofs.Meth.mapLoop_eq]

example : map [.int 5, .int 6] (fun e i a => .list [e, .int i, .int a.length])
    = .ok ⟨.list [.list [.int 5, .int 0, .int 2], .list [.int 6, .int 1, .int 2]], [.int 5, .int 6]⟩ := by rfl

theorem C15_filter_refines (xs : List Val) (p : Pred) : filter xs p = .ok (Spec.Js.filter xs p) := by
  simp [filter, Spec.Js.filter, Proofs.Meth.filterLoop_eq]

theorem C15_find_refines (xs : List Val) (p : Pred) : find xs p = .ok (Spec.Js.find xs p) := by
  simp only [find, Spec.Js.find, Proofs.Meth.findLoop_eq]
  cases List.find? (fun q => p q.1 q.2 xs) (xs.zipIdx 0) <;> rfl

theorem C15_findIndex_refines (xs : List Val) (p : Pred) : findIndex xs p = .ok (Spec.Js.findIndex xs p) := by
  simp only [findIndex, Spec.Js.findIndex, Proofs.Meth.findLoop_eq]
  cases List.find? (fun q => p q.1 q.2 xs) (xs.zipIdx 0) <;> rfl

theorem C15_every_refines (xs : List Val) (p : Pred) : every xs p = .ok (Spec.Js.every xs p) := by
  simp [every, Spec.Js.every, Proofs.Meth.everyLoop_eq]

theorem C15_some_refines (xs : List Val) (p : Pred) : someP xs p = .ok (Spec.Js.someP xs p) := by
  simp [someP, Spec.Js.someP, Proofs.Meth.someLoop_eq]

theorem C15_flatMap_refines (xs : List Val) (f : Cb) : flatMap xs f = .ok (Spec.Js.flatMap xs f) := by
  simp [flatMap, Spec.Js.flatMap, Proofs.Meth.flatMapLoop_eq]

/-- reduce(cb, initialValue?): with an initial value fold from index 0; without
(omitted or null) the first element starts the fold at index 1. -/
theorem C15_reduce_refines (xs : List Val) (f : Cb4) (args : List Val) (init : Option Val)
    (h : BindsVal args 0 init) : reduce xs f args = .ok (Spec.Js.reduce xs f init) :=
  Proofs.Meth.reduce_refines xs f args init h

example : reduce [.int 1, .int 2, .int 3] (fun acc cur i _ => .list [acc, cur, .int i]) []
    = .ok ⟨.list [.list [.int 1, .int 2, .int 1], .int 3, .int 2], [.int 1, .int 2, .int 3]⟩ := by rfl

/-- **Mutators are exact.** For every receiver and every argument list of the
documented types, each of the seven methods the document lists as mutating
leaves the receiver exactly as specified (and returns what is specified). -/
theorem C15_mutators_exact (xs args : List Val) (start deleteCount : Option Int)
    (h0 : Binds args 0 start) (h1 : Binds args 1 deleteCount) :
    run xs (.push args) = .ok (Spec.Js.push xs args) ∧
    run xs .pop = .ok (Spec.Js.pop xs) ∧
    run xs .shift = .ok (Spec.Js.shift xs) ∧
    run xs (.unshift args) = .ok (Spec.Js.unshift xs args) ∧
    run xs (.splice args) = .ok (Spec.Js.splice xs start deleteCount (args.drop 2)) ∧
    run xs .reverse = .ok (Spec.Js.reverse xs) ∧
    (∃ ys, run xs .sort = .ok ⟨.list ys, ys⟩ ∧ IsSortOf xs ys) :=
  ⟨C15_push_refines xs args, C15_pop_refines xs, C15_shift_refines xs, C15_unshift_refines xs args,
   C15_splice_refines xs args start deleteCount h0 h1, C15_reverse_refines xs, C15_sort_refines xs⟩

/-- **All other methods are pure.** Whatever the arguments (of any type, any
number) and whatever the callback, a method the document does not list as
mutating returns with the receiver unchanged. -/
theorem C15_nonmutators_pure (xs : List Val) (c : Call) (o : Out)
    (hc : documentedMutator c = false) (h : run xs c = .ok o) : o.recv = xs := by
  -- every branch of a non-mutator ends in `.ok ⟨_, xs⟩` or `.crash`; the six unfolded below branch first
  cases c <;> first | cases hc | (cases h; rfl) | skip
  all_goals
    simp only [run, slice, indexOf, includes, find, findIndex, reduce] at h
    (repeat' (split at h)) <;> first | (cases h; rfl) | contradiction

example : documentedMutator (.slice [.int 1]) = false ∧
    run [.int 1, .int 2] (.slice [.int 1]) = .ok ⟨.list [.int 2], [.int 1, .int 2]⟩ := ⟨rfl, by rfl⟩

/-! ## strings

Units.  docs/strings.md does not say in which unit a string is measured; read
Node.js-style, `length`, `indexOf` and `substring` count characters.  The code
counts UTF-8 bytes.  Full statements (false on the pinned and on the fixed
tree, recorded as known findings C15-str-bytes-*):

    ∀ s,      length s = .int (Spec.JsStr.length s)
    ∀ s p,    indexOf s [.str p] = .int (Spec.JsStr.indexOf s p.toList)
    ∀ s a e,  substring s [.int a, …e] = .bytes (utf8 (Spec.JsStr.substring s a e))

Proved: the `_partial` theorems (they hold whenever the text is ASCII) and the
negation witnesses, which the harness replays on the real code. -/

open Model.Text in
theorem C15_str_length_partial (s : List Char) (h : AllAscii s) :
    Model.MethStr.length s = .int (Spec.JsStr.length s) := by
  simp [Model.MethStr.length, Spec.JsStr.length, Proofs.MethStr.utf8_ascii s h]

theorem C15_str_length_counterexample :
    ¬ ∀ s : List Char, Model.MethStr.length s = .int (Spec.JsStr.length s) := by
  intro h
  exact absurd (h ['h', 'é', 'l', 'l', 'o']) (by decide)

theorem C15_str_indexOf_partial (s : List Char) (p : String) (more : List Val)
    (hs : AllAscii s) (hp : AllAscii p.toList) :
    Model.MethStr.indexOf s (.str p :: more) = .int (Spec.JsStr.indexOf s p.toList) := by
  open Proofs.MethStr in
  have harg : Model.MethStr.argText (slot (.str p :: more) 0) = p.toList := rfl
  unfold Model.MethStr.indexOf Spec.JsStr.indexOf
  rw [harg, utf8_ascii s hs, utf8_ascii _ hp, indexFrom_map_toNat]
  cases Model.Text.indexFrom p.toList s 0 <;> rfl

theorem C15_str_indexOf_counterexample :
    ¬ ∀ (s : List Char) (p : String),
      Model.MethStr.indexOf s [.str p] = .int (Spec.JsStr.indexOf s p.toList) := by
  intro h
  exact absurd (h ['h', 'é', 'l', 'l', 'o'] "l") (by decide)

theorem C15_str_substring_partial (s : List Char) (a : Int) (more : List Val) (stop : Option Int)
    (hs : AllAscii s) (h1 : Binds (.int a :: more) 1 stop) :
    Model.MethStr.substring s (.int a :: more) = .bytes (Model.Text.utf8 (Spec.JsStr.substring s a stop)) := by
  open Proofs.MethStr Model.MethStr Model.Text in
  have h0 : cutArg (slot (.int a :: more) 0) 0 = some a := rfl
  unfold substring
  simp only [h0, cutArg_stop _ stop _ h1, utf8_ascii s hs, List.length_map, cutBounds_eq]
  rw [spec_substring_getD]
  have hA := Nat.min_le_right a.toNat s.length
  have hB := Nat.min_le_right (stop.getD (s.length : Int)).toNat s.length
  generalize min a.toNat s.length = A at hA ⊢
  generalize min (stop.getD (s.length : Int)).toNat s.length = B at hB ⊢
  rw [if_pos (by omega)]
  have hsub : AllAscii (List.drop (min A B) (List.take (max A B) s)) := by
    intro c hc
    exact hs c (List.mem_of_mem_take (List.mem_of_mem_drop hc))
  rw [utf8_ascii _ hsub, Int.toNat_natCast, Int.toNat_sub, List.drop_take, List.map_take, List.map_drop]

theorem C15_str_substring_counterexample :
    ¬ ∀ (s : List Char) (a b : Int),
      Model.MethStr.substring s [.int a, .int b] = .bytes (Model.Text.utf8 (Spec.JsStr.substring s a (some b))) := by
  intro h
  exact absurd (h ['h', 'é', 'l', 'l', 'o'] 1 4) (by decide)

example : AllAscii ['H', 'e', 'l', 'l', 'o'] := by
  intro c hc; simp at hc; rcases hc with rfl | rfl | rfl | rfl | rfl <;> decide
example : Model.MethStr.substring ['H', 'e', 'l', 'l', 'o'] [.int 5, .int 2] = .bytes [108, 108, 111] := by decide

/-- replace(search, replace) with string arguments: every occurrence, left to
right, non-overlapping; an empty search text matches before every character
and at the end. -/
theorem C15_str_replace_refines (s : List Char) (search repl : String) (more : List Val) :
    Model.MethStr.replace s (.str search :: .str repl :: more) = .text (Spec.JsStr.replace s search.toList repl.toList) := by
  rw [Proofs.MethStr.spec_replace_eq]; rfl

-- the kernel decodes a string literal slowly; `simp` writes it out as its characters first
example : Model.MethStr.replace "Hello World".toList [.str "o", .str "0"] = .text "Hell0 W0rld".toList := by
  simp only [String.reduceToList]; rfl

/-- split(separator?): omitted / null → at white space; else the pieces between
consecutive occurrences (empty separator: the characters). -/
theorem C15_str_split_refines (s : List Char) :
    Model.MethStr.split s [] = .texts (Spec.JsStr.split s none) ∧
    (∀ more, Model.MethStr.split s (.null :: more) = .texts (Spec.JsStr.split s none)) ∧
    (∀ (sep : String) more, Model.MethStr.split s (.str sep :: more) = .texts (Spec.JsStr.split s (some sep.toList))) :=
  ⟨rfl, fun _ => rfl, fun sep _ => by rw [Proofs.MethStr.spec_split_eq]; rfl⟩

example : Model.MethStr.split "a,b,,c".toList [.str ","] = .texts ["a".toList, "b".toList, [], "c".toList] := by
  simp only [String.reduceToList]; rfl

theorem C15_str_trim_refines (s : List Char) : Model.MethStr.trim s = .text (Spec.JsStr.trim s) := rfl

theorem C15_str_toUpperCase_refines (s : List Char) :
    Model.MethStr.toUpperCase s = .text (Spec.JsStr.toUpperCase s) := rfl

theorem C15_str_toLowerCase_refines (s : List Char) :
    Model.MethStr.toLowerCase s = .text (Spec.JsStr.toLowerCase s) := rfl

theorem C15_str_startsWith_refines (s : List Char) (p : String) (more : List Val) :
    Model.MethStr.startsWith s (.str p :: more) = .bool (Spec.JsStr.startsWith s p.toList) := rfl

theorem C15_str_endsWith_refines (s : List Char) (p : String) (more : List Val) :
    Model.MethStr.endsWith s (.str p :: more) = .bool (Spec.JsStr.endsWith s p.toList) := rfl


/-! ## the storage the callback methods work on

`Model.MethStore` runs the nine callback-taking methods on explicit storage: the
receiver's slots (which a callback can change through a captured reference), the
snapshot `sourceValues` that is re-wrapped for the callback's array argument at
every invocation, and the result buffer, whose place is a parameter (`OutBuf`).
The callback is script code with effects (`ECb`: it answers a value and the
receiver afterwards).  The theorems: with a result buffer of its own (`fresh`,
what the code does — obligation `C15_storage_layout` on the regenerated facts)
nothing the method writes is visible through the callback's arguments, the
method never writes the receiver, and the storage-level run is the list
recursion of `Model.Meth` (hence, by the theorems above, the documented
behaviour); with the result carved out of the snapshot (`inSnap`, the "filter
in place" idiom) or out of the receiver (`inRecv`) this is false. -/

section Storage
open Model.MethStore (OutBuf Kind ECb Ev St ofCb ofPred ofCb4 runRes trace)
open Proofs.MethStore (Quiet)

/-- **What a callback is given does not depend on anything the method or the callback writes.**
For every method, every receiver and every callback — whatever it does to the receiver through a
reference, whatever it returns — each invocation gets as array argument the receiver's elements as of
the start of the call, and as element the entry of that array at the index it is given. -/
theorem C15_store_callback_sees_source (kind : Kind) (cb : ECb) (xs args : List Val) :
    ∀ ev ∈ trace .fresh kind cb xs args, ev.inv.arr = xs ∧ xs[ev.inv.idx]? = some ev.inv.el := by
  rw [trace, Proofs.MethStore.run_fresh]
  exact Proofs.MethStore.listLoop_args kind cb xs _ _ _ _ rfl

example : (trace .fresh .filter (fun inv recv => (.bool (inv.idx != 0), recv.set 0 (.int 99)))
    [.int 3, .int 5, .int 1] []).map (fun ev => (ev.inv.el, ev.inv.arr, ev.recv))
  = [(.int 3, [.int 3, .int 5, .int 1], [.int 3, .int 5, .int 1]),
     (.int 5, [.int 3, .int 5, .int 1], [.int 99, .int 5, .int 1]),
     (.int 1, [.int 3, .int 5, .int 1], [.int 99, .int 5, .int 1])] := by rfl

/-- **The method itself never writes the receiver**: after a call whose callback leaves the receiver
alone, the receiver is what it was (all nine methods, any arguments). -/
theorem C15_store_receiver_untouched (kind : Kind) (cb : ECb) (hq : Quiet cb) (xs args : List Val)
    (o : Out) (h : runRes .fresh kind cb xs args = .ok o) : o.recv = xs := by
  rw [Proofs.MethStore.runRes_quiet kind cb hq] at h
  cases h
  rfl

/-- **The storage-level run is `Model.Meth`** for callbacks without effects: the result does not depend on
where the working storage is, as long as the result buffer is the method's own. -/
theorem C15_store_refines (xs args : List Val) (f : Cb) (p : Pred) (g : Cb4) :
    runRes .fresh .map (ofCb f) xs args = map xs f ∧
    runRes .fresh .filter (ofPred p) xs args = filter xs p ∧
    runRes .fresh .flatMap (ofCb f) xs args = flatMap xs f ∧
    runRes .fresh .find (ofPred p) xs args = find xs p ∧
    runRes .fresh .findIndex (ofPred p) xs args = findIndex xs p ∧
    runRes .fresh .every (ofPred p) xs args = every xs p ∧
    runRes .fresh .someP (ofPred p) xs args = someP xs p ∧
    runRes .fresh .reduce (ofCb4 g) xs args = reduce xs g args ∧
    runRes .fresh .forEach (ofCb f) xs args = (forEach xs).1 ∧
    (trace .fresh .forEach (ofCb f) xs args).map (fun ev => (⟨ev.inv.el, ev.inv.idx, ev.inv.arr⟩ : CallEv))
      = (forEach xs).2 := by
  open Proofs.MethStore in
  -- storage level = `Spec.Js` (`store_reading₀`) = `Model.Meth` (the `C15_<method>_refines` above)
  have hf : ofCb f = pureCb (fun _ el j arr => f el j arr) := rfl
  have hp : ofPred p = pureCb (fun _ el j arr => .bool (p el j arr)) := rfl
  refine ⟨?_, ?_, ?_, ?_, ?_, ?_, ?_, Proofs.MethStore.reduce_refines g xs args, ?_, ?_⟩
  · rw [hf, store_reading₀ (by decide), C15_map_refines]; rfl
  · rw [hp, store_reading₀ (by decide), C15_filter_refines]; simp only [reading, Spec.Js.filter, truthy_bool, List.nil_append]
  · rw [hf, store_reading₀ (by decide), C15_flatMap_refines]
    simp only [reading, Spec.Js.flatMap, Proofs.Meth.spread_eq, List.nil_append]
  · rw [hp, store_reading₀ (by decide), C15_find_refines]
    simp only [reading, Spec.Js.find, truthy_bool]
    cases List.find? (fun q => p q.1 q.2 xs) xs.zipIdx <;> rfl
  · rw [hp, store_reading₀ (by decide), C15_findIndex_refines]
    simp only [reading, Spec.Js.findIndex, truthy_bool]
    cases List.find? (fun q => p q.1 q.2 xs) xs.zipIdx <;> rfl
  · rw [hp, store_reading₀ (by decide), C15_every_refines]; simp only [reading, Spec.Js.every, truthy_bool]
  · rw [hp, store_reading₀ (by decide), C15_some_refines]; simp only [reading, Spec.Js.someP, truthy_bool]
  · rw [hf, store_reading₀ (by decide)]; rfl
  · rw [trace, run_fresh]
    exact listLoop_forEach _ xs _ _ _ _

/-- a predicate that reads its array argument at an earlier position: "greater than the first element" -/
def gtFirst : Pred := fun e _ a =>
  match e, a.head? with
  | .int x, some (.int y) => decide (x > y)
  | _, _ => false

/-- **Result buffer carved out of the snapshot** (`result := sourceValues[:0]`): once an element has been
rejected, every kept element overwrites an earlier entry of what the next invocation is shown —
`[3,5,1,4]->filter(fn($x,$i,$a) => $x > $a[0])` answers `[5]`, not `[5,4]`. -/
theorem C15_store_inSnap_counterexample :
    runRes .inSnap .filter (ofPred gtFirst) [.int 3, .int 5, .int 1, .int 4] []
      = .ok ⟨.list [.int 5], [.int 3, .int 5, .int 1, .int 4]⟩ ∧
    filter [.int 3, .int 5, .int 1, .int 4] gtFirst
      = .ok ⟨.list [.int 5, .int 4], [.int 3, .int 5, .int 1, .int 4]⟩ ∧
    (trace .inSnap .filter (ofPred gtFirst) [.int 3, .int 5, .int 1, .int 4] []).map (fun ev => ev.inv.arr)
      = [[.int 3, .int 5, .int 1, .int 4], [.int 3, .int 5, .int 1, .int 4],
         [.int 5, .int 5, .int 1, .int 4], [.int 5, .int 5, .int 1, .int 4]] :=
  ⟨by rfl, by rfl, by rfl⟩

/-- **Result buffer carved out of the receiver**: a method documented as non-mutating changes its receiver. -/
theorem C15_store_inRecv_counterexample :
    runRes .inRecv .filter (ofPred gtFirst) [.int 3, .int 5, .int 1, .int 4] []
      = .ok ⟨.list [.int 5, .int 4], [.int 5, .int 4, .int 1, .int 4]⟩ := by rfl

/-- **The code has the layout the theorems are about** (regenerated from `data/value_array*.go` on every
run): every callback method stores only into buffers of its own, runs its loop over the snapshot, hands
that snapshot (re-wrapped) to the callback and invokes it through `data.callArrayCallback`, which creates
a context per invocation, binds the declared parameters only and reads a missing result as null; no type
implements `data.CallableValue` (the other branch of these methods); the callback-free non-mutators store
only into buffers of their own; all 22 method objects are accounted for. -/
theorem C15_storage_layout :
    Proofs.MethStoreObl.StorageOK Generated.C15Storage.methods Generated.C15Storage.helperFreshCtx
      Generated.C15Storage.helperBindsDeclared Generated.C15Storage.helperNilIsNull
      Generated.C15Storage.callableImplementers Generated.C15Storage.shapeChanged = true := by decide +kernel

/-- hence every callback method of the source has the `fresh` layout of `Model.MethStore` -/
theorem C15_storage_callbacks_fresh :
    ∀ m ∈ Generated.C15Storage.methods, Proofs.MethStoreObl.callbackMethods.contains m.name = true →
      Proofs.MethStoreObl.layoutOf m = some .fresh ∧ m.loops.all Proofs.MethStoreObl.loopOK = true :=
  Proofs.MethStoreObl.callback_fresh_of_ok _ _ _ _ _ _ C15_storage_layout

/-- the obligation is not vacuous: `filter` storing into the snapshot (layout `inSnap`) is rejected -/
example : Proofs.MethStoreObl.methodOK
    ⟨"filter", "data/value_array_filter.go", false, [⟨"*FuncValue", ["copy"], ["copy"], "helper"⟩], ["copy"], ["copy"]⟩
    = false := by decide
example : Proofs.MethStoreObl.layoutOf
    ⟨"filter", "data/value_array_filter.go", false, [⟨"*FuncValue", ["copy"], ["copy"], "helper"⟩], ["copy"], ["copy"]⟩
    = some .inSnap := by decide

end Storage

end C15
