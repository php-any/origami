import Proofs.Lemmas.Emit
import Proofs.Lemmas.EmitOrder
import Proofs.Lemmas.EmitQuote
import Proofs.Lemmas.EmitFuse
import Proofs.Lemmas.EmitCtx
import Proofs.Lemmas.EmitType
import Proofs.Lemmas.EmitObl
import Generated.C16CompileNodes
/-!
# C16 — ahead-of-time compilation preserves behaviour (compiled = interpreted)

`Model.Emit` mirrors the dispatch of `Generator.Emit` (cmd/compile):
special handler > data scalar emitter > reflective struct literal > `EmitError`, over abstract
AST trees; `rebuild` evaluates the emitted Go literal; `Spec.Emit.erase` says which tree the
compiled program therefore evaluates. The struct tables, the two registries, the fields each
hand-written handler reads, two facts about `reflect_emit.go` and the call sequences of the two
runners are regenerated from the source on every run (`Generated.C16CompileNodes`); theorems are
stated for **any** tables, the obligations re-check the regenerated ones by `decide` (those that look structs up
by name are evaluated together, in `Proofs/Lemmas/EmitObl.lean`, against the lists of `Proofs/C16Record.lean`).

`Model.EmitQuote` models the way of a *scalar value* through Go source text (`%q` = `strconv.Quote`, Go's
reading of interpreted and raw string literals, `Generator.printf`'s per-line indentation, `%d`, the sign
of a float): section "scalar payloads" below; tied to the real Generator every run by the scalar probe of
harness/c16 (every scalar field x every payload class x three indentation depths).

`Model.EmitCtx` models the substitution of a per-FILE value of the generator (`g.namespace`: the file's
LAST namespace section) for a per-NODE value of the AST (`CallLater.namespace`: the namespace in force where
the call was written), and what that value means at run time (`CallLater.GetValue`'s lookup): section
"per-file state" below; tied every run by the ctx probe, the resolve tie and the namespace-section
features of harness/c16 (files with 2..3 `namespace` sections).

`Model.EmitOrder` (the order in which keyed collections are walked), `Model.EmitFuse` (special handlers
that write another node than the parser built) and `Model.EmitType` (a `data.Types` value written as its
printed form) have sections of their own below.

**Partial.** The theorems are about the *structure* of the translation: which fields reach the
generated program. That each hand-written handler passes the fields it reads to the right
constructor argument, that the constructors rebuild what the parser built, and that the run-time
(`Register`, `RunCompiledFile`) then behaves like the interpreter is decided by the differential
run of harness/c16 (real compile command, real `go build`, compiled vs interpreted), not by proof.

History on the pinned tree (see props/C16.json): `nodeNeedsTag = true` made `C16_nodes_rebuilt`
false for the 13 structs that embed `*Node` untagged (fix C16-untagged-node-nil);
`ptrAssertUnchecked = true` made `C16_no_crash_obligation` false through `node.ClassConstant.From`
(fix C16-ptr-assert-panic). The fields in `knownDropped` are known findings.
-/
namespace C16
open Model.Emit Spec.Emit Proofs.Emit
open Generated.C16CompileNodes (tables shapeChanged runCompiledSteps loadAndRunSteps)


/-! ### obligations on the regenerated facts (re-checked by every `lake build`) -/

/-- the translator found every syntactic shape it expects (registries, `Emit`'s dispatch order
special > scalar > struct literal > EmitError, the `needsNode` test, the `reflect.Ptr` arm, the two
runners) -/
theorem shape_unchanged : shapeChanged = [] := by decide

/-- **Every field that any handler or any reflective literal can leave out is on one of the two
lists.** Reflective structs: only the embedded `*Node` is skipped (no other `pp:"-"` field), and it
is rebuilt. Special handlers, scalar emitters, and the structs handlers take apart by hand: every
field is read, or derived, or a known finding. A new node field that a handler forgets, a new
`pp:"-"` tag, a handler that stops reading a field: the evaluation in `Proofs.EmitObl.tables` fails. -/
theorem C16_static_drops_allowed :
    (staticDrops tables).all (fun p => allowed.contains p) = true :=
  Proofs.EmitObl.tables.1.1

/-- a struct embedding `*Node` always gets `Node: node.NewNode(from)` in its literal (a nil Node is
dereferenced by `GetFrom()` as soon as the node reports an error) -/
theorem C16_nodes_rebuilt :
    (emittable tables).all (fun d => !d.fields.any (·.embeddedNode) || needsNode tables d) = true :=
  Proofs.EmitObl.tables.1.2.1

/-- no struct that takes the reflective path has a field whose value makes the compile command
panic instead of reporting an error -/
theorem C16_no_crash_obligation : noCrashKinds tables = true :=
  Proofs.EmitObl.tables.1.2.2.1

/-- **A slice or map whose element type has no name is only ever written by hand.** `emitSlice` /
`emitMap` print the element type as package + `reflect.Type.Name()`; for `[]*T`, `[][]T`, `[]any` the
name is empty and the text `[]{…}` is not Go (the command's `format.Source` then refuses the file).
Every struct with such a field that would take the reflective path when handed to `Emit` is one the
handlers take apart themselves (`node.VariableList` — only `emitVariableList` writes it —,
`node.ClassMethod`, `node.ClassProperty`); a new `[]*T` field on a reflectively emitted node: the
evaluation in `Proofs.EmitObl.tables` fails. -/
theorem C16_unnamed_elems_by_hand : unnamedByHand tables = true :=
  Proofs.EmitObl.tables.1.2.2.2.1

/-- … and if such a value does reach the reflective walk, the outcome is an explicit error in every
mode, never text that silently lacks the collection -/
theorem C16_unnamed_is_error (tbl : Tables) (m : Mode) (ty : String) :
    emit tbl m ty .unnamed = .error .malformed := rfl

/-- field names are unique inside every described struct (so `find?` by name is the field: `find_field_of_unique`) -/
theorem C16_fields_unique :
    tables.structs.all (fun d => d.fields.all (fun f =>
      (d.fields.find? (fun g => g.name == f.name)).map (·.name) == some f.name
      && (d.fields.filter (fun g => g.name == f.name)).length == 1)) = true :=
  Proofs.EmitObl.tables.1.2.2.2.2

/-- once the AST is there, `RunCompiledFile` and `LoadAndRun` make the same calls in the same
order: normalise the path, test and set the file cache, create the context, register the globals,
run the program, flush -/
theorem C16_same_runner_obligation :
    skeleton runCompiledSteps = skeleton loadAndRunSteps ∧
    skeleton runCompiledSteps = [.normalize, .cacheGet, .cacheSet, .createContext, .registerGlobals, .run, .flush] := by
  decide +kernel

/-- **Order.** Every ordered collection of the AST is walked front to back, and a collection the
AST keeps twice (lookup map + order slice: `ClassStatement.Properties` / `PropertiesIndex`) is walked
through the slice and only looked up in the map. On the regenerated uses of every slice- or
map-typed field in the functions reached from the handlers: (1) a slice is only `range`d, measured or
nil-tested (no computed index, no re-slicing, never handed to `sort.…`/`slices.…`); (2) a map that has an
order companion is only indexed; (3) the function that indexes it ranges over the companion. A handler
that iterates `sortedKeys(n.Properties)`, ranges over the map, sorts `PropertiesIndex` in place or
walks a slice back to front: this `decide` fails — also when the handler still *reads* both fields,
which `C16_static_drops_allowed` cannot see. -/
theorem C16_order_obligation :
    Model.EmitOrder.orderRespected Generated.C16CompileNodes.orderPairs Generated.C16CompileNodes.accesses = true := by
  decide +kernel

/-- the pair the obligation is about is still found by the translator (non-vacuity of clauses 2 and 3) -/
theorem C16_order_pairs_found :
    Generated.C16CompileNodes.orderPairs.contains ⟨"node.ClassStatement", "Properties", "PropertiesIndex"⟩ = true := by
  decide +kernel

/-! ### special handlers that substitute a node -/

section fuse
open Model.EmitFuse

/-- Substitutions on record: handlers whose first written head is NOT their own type, with the reason
the other node is taken to behave like the parser's. Whether each really does on every operand is
decided by the operand stream of the differential run (harness/c16/operand.go), not here. -/
def knownSubstitutions : List Subst := [
  ("node.CallExpression", "emitCallExpression", "node.NewCallTodo"),   -- `Fun` is resolved at the first call (CallLater), as for a function declared later
  ("node.CallLater", "emitCallLater", "node.NewCallTodo"),             -- same node kind on both sides once resolved
  ("node.CallStaticMethod", "emitCallStaticMethod", "node.NewCallStaticMethodLater"),       -- class looked up at the first call instead of at parse time
  ("node.CallStaticProperty", "emitCallStaticProperty", "node.NewCallStaticPropertyLater"), -- same
  ("data.ClassValue", "emitClassValue", "")                            -- annotation instances are rebuilt by the Compiled…Value factories
]

def knownSpecialTypes : List String := [
  "node.CallExpression", "node.CallMethod", "node.CallStaticMethod", "node.CallStaticProperty",
  "node.CallStaticMethodLater", "node.CallStaticPropertyLater", "node.CallLater", "node.LambdaExpression",
  "node.ClassStatement", "node.AbstractClassStatement", "node.FunctionStatement", "node.InterfaceStatement",
  "node.VarFastAssign", "node.VarPostIncr", "node.VarStmtIncr", "node.VarIntLe", "data.ClassValue", "node.Array",
  "node.Namespace", "node.NewExpression", "node.NewVariableExpression", "node.NewExpressionDynamic",
  "node.NewSelfExpression", "node.NewStaticExpression", "node.InitClass", "node.Kv", "node.Range",
  "node.IncludeStatement", "node.ConstStatement", "node.BinaryAssignVariable", "node.BinaryAssignVariableList"]

/-- **The special-handled node types are exactly the ones on record.** A new entry of
`specialHandlers` (`reflect.TypeOf((*node.BinaryLt)(nil)): emitBinaryLt`) — a node kind that stops
taking the reflective path, where the generated program holds field for field what the parser built —
breaks this equation by name: the handler has to be read, classified below, and its node kind has to
be in the operand stream. -/
theorem C16_special_handler_types :
    tables.special.map (·.ty) = knownSpecialTypes ∧
    Generated.C16CompileNodes.handlerOuts.map (fun o => (o.ty, o.fn)) = tables.special.map (fun h => (h.ty, h.fn)) :=
  ⟨rfl, rfl⟩

/-- **Every special handler writes its own node type and builds no node of its own, or is a
substitution on record.** On the regenerated description of what each handler writes: the first
constructor / literal type named in its format strings is `&node.T{` or `node.NewT…(` for the handled
type `T`, and neither the handler nor a helper it reaches calls a `node.New…` / `data.New…` constructor
or builds a `node.…{}` / `data.…{}` literal at generation time (`g.Emit(node.NewBinaryLe(from, ve,
bound))`: an AST node the parser never built). A handler that starts emitting another node kind than
the one it is registered for — an algebraic rewrite, a fused node — fails here by name. -/
theorem C16_special_handlers_known :
    handlersKnown knownSubstitutions Generated.C16CompileNodes.handlerOuts = true := by
  -- `chars` reads the ASCII names off their bytes (`Lemmas/Emit.lean`), which the kernel evaluates; `String.toList` it
  -- does not in reasonable time
  simp only [handlersKnown, writesOwn, ← chars_eq]
  decide +kernel

/-- **The fused `<=` node agrees with the plain one on the whole operand domain**, whatever
`LooseCompare` answers on non-integers: `VarIntLe` takes its integer path only for an `*IntValue` and
evaluates the embedded `BinaryLe` otherwise, and on two ints `LooseCompare` is the exact order. So the
parser's own substitution (`NewBinaryLe` returns `VarIntLe` for `$var <= IntLiteral`), which the
generated program repeats, is behaviour-preserving. -/
theorem C16_fused_le_agrees (loose : LooseNonInt) (v : V) (lit : Int) :
    evalVarIntLe loose v lit = evalLe loose v lit := by
  cases v with
  | int i => exact (Proofs.EmitFuse.cmpInt_beq_le i lit).symm
  | _ => rfl

/-- the rewrite `$v < N` → `$v <= N-1` (seeded change `C16-lt-literal-emitted-as-le`) is right on the
integers (unbounded; the handler keeps the plain node when `N-1` would wrap) — every counting loop,
which is why the repository's tests stay green … -/
theorem C16_lt_rewrite_on_ints (loose : LooseNonInt) (i n : Int) :
    evalLtRewritten loose (.int i) n = evalLt loose (.int i) n := by
  simp only [evalLtRewritten, evalVarIntLe, evalLt, looseCmp, Proofs.EmitFuse.cmpInt_beq_lt, decide_eq_decide]
  omega

/-- … and wrong exactly here: a float strictly between `N-1` and `N` (`2.5 < 3`), -/
theorem C16_lt_rewrite_float_iff (t n : Int) :
    evalLtRewritten looseReal (.half t) n = evalLt looseReal (.half t) n ↔ t ≠ 2 * n - 1 := by
  have hr : evalLtRewritten looseReal (.half t) n = evalLe looseReal (.half t) (n - 1) := rfl
  rw [hr, show evalLe looseReal (.half t) (n - 1) = _ from Proofs.EmitFuse.cmpInt_beq_le t _,
    show evalLt looseReal (.half t) n = _ from Proofs.EmitFuse.cmpInt_beq_lt t _, decide_eq_decide]
  omega

/-- `true` against every literal but 1 (`true < 3` is false, `true <= 2` is true), -/
theorem C16_lt_rewrite_true_iff (n : Int) :
    evalLtRewritten looseReal (.bool true) n = evalLt looseReal (.bool true) n ↔ n = 1 := by
  simp only [evalLtRewritten, evalVarIntLe, evalLe, evalLt, looseCmp, looseReal]
  by_cases h0 : n = 0
  · subst h0; decide
  · by_cases h1 : n = 1
    · subst h1; decide
    · have h2 : ¬ (n - 1 = 0) := by omega
      simp [h0, h1, h2]

/-- `null` (and `false`) against 0 (`null < 0` is false, `null <= -1` is true). -/
theorem C16_lt_rewrite_null_iff (n : Int) :
    evalLtRewritten looseReal .null n = evalLt looseReal .null n ↔ n ≠ 0 := by
  simp only [evalLtRewritten, evalVarIntLe, evalLe, evalLt, looseCmp, looseReal]
  by_cases h0 : n = 0
  · subst h0; decide
  · by_cases h1 : n - 1 = 0 <;> simp [h0, h1]

/-- **Negation witness**: the full statement `∀ v n, rewritten v n = ($v < n)` is false -/
theorem C16_lt_rewrite_counterexample :
    ¬ ∀ (v : V) (n : Int), evalLtRewritten looseReal v n = evalLt looseReal v n := by
  intro h
  have := h (.half 5) 3
  revert this
  decide

example : evalLt looseReal (.half 5) 3 = true ∧ evalLtRewritten looseReal (.half 5) 3 = false := by decide
example : evalLt looseReal (.bool true) 3 = false ∧ evalLtRewritten looseReal (.bool true) 3 = true := by decide
example : evalLt looseReal .null 0 = false ∧ evalLtRewritten looseReal .null 0 = true := by decide
example : evalLt looseReal .noOrder 3 = false ∧ evalLtRewritten looseReal .noOrder 3 = false := by decide
example : evalVarIntLe looseReal (.int 2) 2 = true ∧ evalVarIntLe looseReal (.half 5) 2 = false := by decide
/-- the seeded handler as the translator describes it: no head of its own, three values built -/
example : handlersKnown knownSubstitutions
    [⟨"node.BinaryLt", "emitBinaryLt", [], ["data.NewIntValue", "node.IntLiteral", "node.NewBinaryLe"]⟩] = false := by decide
/-- a handler registered for one type that writes another -/
example : handlersKnown knownSubstitutions [⟨"node.BinaryLt", "emitBinaryLt", ["node.VarIntLe"], []⟩] = false := by decide
example : handlersKnown knownSubstitutions [⟨"node.VarIntLe", "emitVarIntLe", ["node.VarIntLe"], []⟩] = true := by decide
example : handlersKnown knownSubstitutions [⟨"node.Array", "emitArray", ["node.NewArrayWithKeys", "node.NewArray"], []⟩] = true := by decide

end fuse


/-! ### per-file state of the generator versus per-node state of the AST -/

section ctx
open Model.EmitCtx
open Generated.C16CompileNodes (generatorFields parsedFileFields generateAssigns parsedNamespace packageVars ctxReads)

/-- **The generator's state is the one on record**: five fields, of which `file` and `namespace` are
per-file values set by `Generate` from `ParsedFile.Path` / `.Namespace`, and `ParsedFile.Namespace`
is the parser's namespace after the whole file (`clone.GetNamespace()`: the LAST section); the
package-level variables of cmd/compile are the registries, the templates, the command's flags and the
runtime loader — none of them written per node. A new per-file / per-run field (`className`, `uses`,
`strict`) or package variable (`currentNamespace`) breaks this equation by name: what it stands for
per node has to be asked. -/
theorem C16_ctx_generator_state :
    generatorFields = ["buf", "indent", "importAliases", "file", "namespace"] ∧
    parsedFileFields = ["Path", "Program", "Variables", "Namespace"] ∧
    generateAssigns = [("file", "pf.Path"), ("namespace", "pf.Namespace")] ∧
    parsedNamespace = "clone.GetNamespace()" ∧
    packageVars = ["builtinTemplates", "compileBuild", "compileEntry", "compileOutput", "compilePkg",
      "dataValueEmitters", "presetTemplates", "runtimeLoader", "specialHandlers"] := ⟨rfl, rfl, rfl, rfl, rfl⟩

/-- **Every use a handler makes of a generator field is printer state, a diagnostic, or a print on
record.** On the regenerated uses of `g.<field>` in the closure of every registered handler: `buf`,
`indent`, `importAliases` are the printer's; `file` only reaches the message of a compile error; a
per-file value printed into the generated text is one of `knownCtxEmits`. A handler that starts
printing `g.namespace` (or binds it, or hands it to a helper) fails the evaluation in `Proofs.EmitObl.tables`. -/
theorem C16_ctx_emits_known : emitsKnown knownCtxEmits ctxReads = true := Proofs.EmitObl.tables.2.1

/-- **No handler takes from the generator what its node carries itself.** A handler whose node type
has a field named like a per-file field of the generator (`CallLater.namespace`,
`CallStaticMethodLater.namespace`, `CallStaticPropertyLater.namespace`: the namespace in force WHERE
the call was written) does not use the generator's (`g.namespace`: the file's LAST namespace). The
seeded change `C16-calllater-namespace-from-generator` (emitCallLater through a helper that prints
`g.namespace`) fails the evaluation in `Proofs.EmitObl.tables` — also if the handler kept a token read of the node's field, which
`C16_static_drops_allowed` cannot see. -/
theorem C16_ctx_no_shadowing : noShadowing tables ctxReads = true := Proofs.EmitObl.tables.2.2.1

/-- non-vacuity of the two obligations: the three prints on record are still found, and the three
node types still carry a namespace of their own -/
theorem C16_ctx_facts_found :
    (knownCtxEmits.all fun k => ctxReads.contains ⟨k.2.1, k.1, k.2.2, "emit"⟩) = true ∧
    (["node.CallLater", "node.CallStaticMethodLater", "node.CallStaticPropertyLater"].all fun ty =>
      (fieldNames tables ty).contains "namespace") = true :=
  Proofs.EmitObl.tables.2.2.2

/-- **Faithful iff all sites agree with the constant** (any tree, any depth, any attribute type):
the emitter that writes one per-file value `c` at every site produces the text of the emitter that
writes each site's own value iff every site of the tree carries `c`. -/
theorem C16_ctx_const_faithful_iff {α : Type} (c : α) (t : T α) :
    emitConst c t = emitFaithful t ↔ ∀ a ∈ attrs t, a = c := by
  simp only [emitConst, emitFaithful, Proofs.EmitCtx.mapAttr_id, Proofs.EmitCtx.mapAttr_eq_iff, eq_comm (b := c)]

/-- **The file-level statement.** The parser labels every site with the name of the section it is
written in; `Generate` knows the name of the LAST section. Writing that name at every site is
faithful iff every section that contains a site has the last section's name. -/
theorem C16_ctx_file_faithful_iff {α : Type} (dflt : α) (secs : List (Section α)) :
    emitConst (lastName dflt secs) (parseFile secs) = emitFaithful (parseFile secs) ↔
    ∀ s ∈ secs, sites s.body ≠ 0 → s.name = lastName dflt secs := by
  rw [C16_ctx_const_faithful_iff]
  constructor
  · intro h s hs hne
    exact h s.name ((Proofs.EmitCtx.mem_attrs_parseFile secs s.name).mpr ⟨s, hs, hne, rfl⟩)
  · intro h a ha
    obtain ⟨s, hs, hne, rfl⟩ := (Proofs.EmitCtx.mem_attrs_parseFile secs a).mp ha
    exact h s hs hne

/-- … so for a file whose sections all have one name — a single `namespace` line, the only shape in
the repository's tests — the substitution is invisible: why the tests stay green -/
theorem C16_ctx_one_namespace {α : Type} (dflt n : α) (secs : List (Section α)) (hne : secs ≠ [])
    (h : ∀ s ∈ secs, s.name = n) :
    emitConst (lastName dflt secs) (parseFile secs) = emitFaithful (parseFile secs) := by
  rw [C16_ctx_file_faithful_iff, Proofs.EmitCtx.lastName_of_all dflt n secs hne h]
  exact fun s hs _ => h s hs

/-- a file without any `namespace` line: one unnamed section, faithful as well -/
theorem C16_ctx_no_namespace {α : Type} (dflt : α) (body : T α) :
    emitConst (lastName dflt [⟨dflt, body⟩]) (parseFile [⟨dflt, body⟩]) = emitFaithful (parseFile [⟨dflt, body⟩]) :=
  C16_ctx_one_namespace dflt dflt _ (by simp) (by simp)

/-- **Negation witness** (the full statement `∀ file, emit-with-constant = emit-faithful` is false):
two sections `A`, `B`, one call site in `A` — the generated program holds `B` where the parser's
tree holds `A` -/
theorem C16_ctx_two_sections_counterexample :
    ¬ ∀ secs : List (Section String),
      emitConst (lastName "" secs) (parseFile secs) = emitFaithful (parseFile secs) := by
  intro h
  have := (C16_ctx_file_faithful_iff "" [⟨"A", .site "" .nil⟩, ⟨"B", .nil⟩]).mp (h _) ⟨"A", .site "" .nil⟩ (by simp)
    (by decide)
  revert this
  decide

/-- **What the namespace means at run time: the first lookup wins.** A name the VM knows as written
(a builtin, a fully qualified name) is resolved without the namespace — why the three prints on
record cannot matter as long as the name they carry is one the first lookup finds -/
theorem C16_ctx_resolve_found_first (d : Name → Bool) (ns q : Name) (h : d q = true) :
    resolve d ns q = some q := by
  simp [resolve, h]

/-- **When do two namespaces resolve a call alike?** Iff the name as written is defined, or the two
namespaces are equal, or the name is defined in neither. -/
theorem C16_ctx_resolve_eq_iff (d : Name → Bool) (n1 n2 q : Name) :
    resolve d n1 q = resolve d n2 q ↔
      d q = true ∨ n1 = n2 ∨ (d (n1 ++ q) = false ∧ d (n2 ++ q) = false) := by
  unfold resolve
  cases hq : d q
  · cases h1 : d (n1 ++ q) <;> cases h2 : d (n2 ++ q)
    · simp
    · simpa using fun e : n1 = n2 => by rw [e, h2] at h1; cases h1
    · simpa using fun e : n1 = n2 => by rw [e, h2] at h1; cases h1
    · simp
  · simp

/-- **The program-level statement**: the compiled program with the file's last namespace `c` at every
call site resolves every call as the parser's tree does iff every call site is written in `c`, or
names a function the first lookup finds, or a function neither namespace defines. A call site in
another section whose short name exists in its own section or in the last one breaks it. -/
theorem C16_ctx_same_resolution_iff (d : Name → Bool) (c : Name) (calls : List Call) :
    sameResolution d c calls ↔
      ∀ s ∈ calls, d s.q = true ∨ c = s.ns ∨ (d (c ++ s.q) = false ∧ d (s.ns ++ s.q) = false) := by
  simp only [sameResolution, C16_ctx_resolve_eq_iff]

/-- negation witnesses at run time, the two programs of the seeded change's demonstration: `wrap()`
written in `App\Text` with a `wrap` in both sections is resolved to `App\Html\wrap` (another function,
silently); `twice()` written in `Lib\Math`, defined there only, is not found from `Main` -/
theorem C16_ctx_resolution_counterexamples :
    let both : Name → Bool := fun n => n == ["App", "Text", "wrap"] || n == ["App", "Html", "wrap"]
    let one : Name → Bool := fun n => n == ["Lib", "Math", "twice"]
    resolve both ["App", "Text"] ["wrap"] = some ["App", "Text", "wrap"] ∧
    resolve both ["App", "Html"] ["wrap"] = some ["App", "Html", "wrap"] ∧
    resolve one ["Lib", "Math"] ["twice"] = some ["Lib", "Math", "twice"] ∧
    resolve one ["Main"] ["twice"] = none := by decide

/-- the seeded handler as the translator describes it -/
example : noShadowing tables [⟨"emitCallLater", "node.CallLater", "namespace", "emit"⟩] = false := by
  -- `node.CallLater` has a field `namespace` (`C16_ctx_facts_found`), so the read is shadowed; what is left to
  -- evaluate are the two tests on the generator's field name
  have := Proofs.EmitCtx.shadowed_of_has (r := ⟨"emitCallLater", "node.CallLater", "namespace", "emit"⟩)
    (List.all_eq_true.mp C16_ctx_facts_found.2 "node.CallLater" (by simp))
  simp only [noShadowing, List.all_cons, List.all_nil, this]
  decide
example : emitsKnown knownCtxEmits [⟨"emitCallLater", "node.CallLater", "namespace", "emit"⟩] = false := by decide +kernel
/-- a value bound to a local or handed to a helper is not accepted either -/
example : emitsKnown knownCtxEmits [⟨"emitCallExpression", "node.CallExpression", "namespace", "bind"⟩] = false := by decide +kernel
example : emitsKnown knownCtxEmits [⟨"emitArray", "node.Array", "indent", "write"⟩, ⟨"emitCallLater", "node.CallLater", "file", "diag"⟩] = true := by
  decide +kernel
example : noShadowing tables [⟨"emitCallExpression", "node.CallExpression", "namespace", "emit"⟩] = true := by
  -- the first print on record: `C16_ctx_facts_found` finds it among the regenerated `ctxReads`, for each of
  -- which `C16_ctx_no_shadowing` has answered
  have := List.all_eq_true.mp C16_ctx_no_shadowing ⟨"emitCallExpression", "node.CallExpression", "namespace", "emit"⟩
    (List.contains_iff_mem.mp (List.all_eq_true.mp C16_ctx_facts_found.1 _ List.mem_cons_self))
  simp only [noShadowing, List.all_cons, List.all_nil, this, Bool.and_true]
example : emitConst "B" (parseFile [⟨"A", .site "" .nil⟩, ⟨"B", .site "" .nil⟩])
    = .cons (.site "B" .nil) (.cons (.site "B" .nil) .nil) := by decide
example : emitFaithful (parseFile [⟨"A", .site "" .nil⟩, ⟨"B", .site "" .nil⟩])
    = .cons (.site "A" .nil) (.cons (.site "B" .nil) .nil) := by decide
example : lastName "" [⟨"A", (.nil : T String)⟩, ⟨"B", .nil⟩, ⟨"A", .nil⟩] = "A" := by decide
example : resolve (fun n => n == ["strlen"]) ["A"] ["strlen"] = resolve (fun n => n == ["strlen"]) ["B"] ["strlen"] := by decide
example : resolve (fun n => n == ["A", "Sub", "q"]) ["A"] ["Sub", "q"] = some ["A", "Sub", "q"] := by decide

end ctx

section order
open Model.EmitOrder

/-- **Walking the order slice preserves the declaration order and every lookup**: what
`NewClassStatement` rebuilds from the slice literal written by `for _, name := range
n.PropertiesIndex { emit(n.Properties[name]) }` has the same index and answers every by-name
question as the parser's collection. -/
theorem C16_order_by_index {α : Type} (k : Keyed α) (ht : k.total k.index) :
    (rebuildKeyed (emitByIndex k)).index = k.index ∧
    ∀ n ∈ k.index, (rebuildKeyed (emitByIndex k)).get n = k.get n :=
  Proofs.EmitOrder.rebuildKeyed_emitBy k k.index ht

/-- **Walking any other key list**: the rebuilt order is that key list — equal to the declaration
order iff the key list is — while every by-name lookup still answers as before. So a handler that
walks the keys of the map (sorted, or in Go's map order) yields a program in which property reads,
writes, defaults, visibility and methods all behave, and only the order differs: no test that asks
by name can notice; only an observer of the order can. -/
theorem C16_order_by_keys {α : Type} (k : Keyed α) (keys : List String) (ht : k.total keys) :
    ((rebuildKeyed (emitBy keys k)).index = k.index ↔ keys = k.index) ∧
    ∀ n ∈ keys, (rebuildKeyed (emitBy keys k)).get n = k.get n := by
  refine ⟨?_, (Proofs.EmitOrder.rebuildKeyed_emitBy k keys ht).2⟩
  rw [(Proofs.EmitOrder.rebuildKeyed_emitBy k keys ht).1]

/-- … in particular for the sorted key list of a `sortedKeys` helper: the order survives iff the
properties were declared in sorted order -/
theorem C16_order_by_sorted_keys {α : Type} (k : Keyed α) (ht : k.total k.index) :
    (rebuildKeyed (emitBy (sortStrings k.index) k)).index = k.index ↔ sortStrings k.index = k.index :=
  (C16_order_by_keys k (sortStrings k.index)
    (fun n hn => ht n ((Proofs.EmitOrder.mem_sortStrings n k.index).mp hn))).1

/-- the obligation is not vacuous: the uses a `sortedKeys(n.Properties)` handler makes of the pair
are rejected even though both fields are still read -/
example : orderRespected [⟨"node.ClassStatement", "Properties", "PropertiesIndex"⟩]
    [⟨"emitClassStatementInit", "node.ClassStatement", "Properties", true, "range"⟩,
     ⟨"emitClassStatementInit", "node.ClassStatement", "Properties", true, "index"⟩,
     ⟨"emitClassStatementInit", "node.ClassStatement", "PropertiesIndex", false, "len"⟩] = false := by decide
example : orderRespected [⟨"node.ClassStatement", "Properties", "PropertiesIndex"⟩]
    [⟨"emitClassStatementInit", "node.ClassStatement", "Properties", true, "index"⟩,
     ⟨"emitClassStatementInit", "node.ClassStatement", "PropertiesIndex", false, "range"⟩] = true := by decide
example : orderRespected [] [⟨"emitCallMethod", "node.CallMethod", "Args", false, "index"⟩] = false := by decide
example : orderRespected [] [⟨"emitArray", "node.Array", "Keys", false, "ext:sort.Slice"⟩] = false := by decide
/-- the seeded shape: five properties declared `owner, id, balance, currency, active` -/
example : sortStrings ["owner", "id", "balance", "currency", "active"] = ["active", "balance", "currency", "id", "owner"] := by
  decide
example : (rebuildKeyed (emitBy (sortStrings ["owner", "id", "balance"])
    (⟨["owner", "id", "balance"], fun n => some n.length⟩ : Keyed Nat))).index = ["balance", "id", "owner"] := by
  decide

end order


/-! ### scalar payloads: the value a scalar field carries through Go source text -/

section scalar
open Model.EmitQuote Proofs.EmitQuote

/-- **`unquote (quote s) = s` for every byte string**: whatever bytes a string-valued AST field holds
(newlines, tabs, back quotes, backslashes, quotes, `$`, NUL and other control bytes, invalid UTF-8,
multi-byte and non-printable runes, any length) and whatever the table of printable runes, the text
`%q` prints is a Go string literal whose value is exactly those bytes. The general form, over byte
values. -/
theorem C16_scalar_string_roundtrip_nat (pr : Nat → Bool) (s : Bytes) (hs : ∀ b ∈ s, b < 256) :
    unquote (quote pr s) = some s := unquote_quote pr s hs

/-- its instance for `List UInt8`, where the bound holds by type -/
theorem C16_scalar_string_roundtrip (pr : Nat → Bool) (s : List UInt8) :
    unquote (quote pr (s.map UInt8.toNat)) = some (s.map UInt8.toNat) :=
  C16_scalar_string_roundtrip_nat pr _ (by
    intro b hb
    obtain ⟨x, _, rfl⟩ := List.mem_map.mp hb
    exact x.toNat_lt)

/-- **The printer cannot change a quoted scalar.** `Generator.printf` indents every non-empty line of
what it prints; the quoted text contains no newline (`\n` is written as an escape), so at every
indentation level the buffer receives the tabs followed by the literal unchanged, and the value the
generated program holds is the field's value — at top level, in a function, a method, a closure, any
nesting depth. -/
theorem C16_scalar_printf_safe (pr : Nat → Bool) (k : Nat) (s : Bytes) (hs : ∀ b ∈ s, b < 256) :
    printedValue k (quote pr s) = some s := by
  unfold printedValue
  rw [printfOut_no_nl k _ (quote_no_nl pr s hs) (by simp [quote]), dropTabs_tabs k _ (by simp [quote])]
  exact unquote_quote pr s hs

/-- the quoted text never contains a newline -/
theorem C16_scalar_quote_one_line (pr : Nat → Bool) (s : Bytes) (hs : ∀ b ∈ s, b < 256) : 10 ∉ quote pr s :=
  quote_no_nl pr s hs

/-- a raw literal is read verbatim (carriage returns removed): right as long as the TEXT is the value -/
theorem C16_scalar_raw_literal_verbatim (s : Bytes) (h : 96 ∉ s) : unquote (rawLit s) = some (s.filter (· ≠ 13)) := by
  unfold rawLit unquote
  simp only [show ¬ ((96 : Nat) = 34) by omega, if_false, if_true]
  exact unqRaw_append s h

/-- **Negation witness for the raw form** (the seeded change `C16-raw-string-literal-indent`): a text of
three lines written as a raw literal through the same printer at indentation 2 (a top-level statement)
reads back with two tabs in front of lines 2 and 3 — the program builds and carries another string;
at indentation 5 with five. Values with fewer than two newlines were still quoted, hence unaffected. -/
theorem C16_scalar_raw_indent_counterexample :
    printedValue 2 (rawLit [97, 10, 98, 10, 99]) = some [97, 10, 9, 9, 98, 10, 9, 9, 99] ∧
    printedValue 5 (rawLit [97, 10, 98, 10, 99]) = some [97, 10, 9, 9, 9, 9, 9, 98, 10, 9, 9, 9, 9, 9, 99] ∧
    printedValue 2 (rawLit [97, 10, 98, 10]) = some [97, 10, 9, 9, 98, 10, 9, 9] ∧
    printedValue 0 (rawLit [97, 10, 98, 10, 99]) = some [97, 10, 98, 10, 99] := by decide

/-- `%d` reads back exactly, for every integer (Go constants are exact; the range is the field type's) -/
theorem C16_scalar_int_roundtrip (i : Int) : readInt (showInt i) = some i := by
  unfold showInt
  cases i with
  | ofNat n => rw [if_neg (Int.not_lt.mpr (Int.natCast_nonneg n) : ¬ Int.ofNat n < 0)]; exact readInt_showNat n
  | negSucc n =>
    rw [if_pos (Int.negSucc_lt_zero n)]
    show (readNat (showNat (n + 1))).map (fun n => -(Int.ofNat n)) = _
    rw [readNat_showNat]
    rfl

theorem C16_scalar_bool_roundtrip (b : Bool) : readBool (showBool b) = some b := by
  cases b <;> simp [showBool, readBool]

/-- **Floats, as far as the model carries them** (sign, zero, non-finite; the digits of a non-zero finite
magnitude are opaque and trusted to read back): with `goFloatLiteral` every float reads back as itself. -/
theorem C16_scalar_float_roundtrip (v : FloatV) (h : v.wf) : evalFloat (showFloat true v) = some v :=
  evalFloat_showFloat true v h (.inl rfl)

/-- Full statement for plain `%g` (the tree before fix C16-float-negative-zero):
`∀ v, v.wf → evalFloat (showFloat false v) = some v` — false. `_partial`: it holds for every finite value
other than negative zero. -/
theorem C16_scalar_float_roundtrip_partial (v : FloatV) (h : v.wf)
    (hz : v ≠ .zero true) (hi : ∀ n, v ≠ .inf n) (hn : v ≠ .nan) : evalFloat (showFloat false v) = some v :=
  evalFloat_showFloat false v h (.inr ⟨hz, hi, hn⟩)

/-- negation witness: `-0` is the integer constant 0 negated — the compiled program holds +0 where the
parser built -0.0; `+Inf`, `-Inf`, `NaN` are not Go expressions at all -/
theorem C16_scalar_float_neg_zero_counterexample :
    evalFloat (showFloat false (.zero true)) = some (.zero false) ∧
    evalFloat (showFloat false (.inf false)) = none ∧ evalFloat (showFloat false .nan) = none := by decide

example : quote (fun _ => true) [112, 10, 96, 92, 34, 0, 255, 195, 169] =
    [34, 112, 92, 110, 96, 92, 92, 92, 34, 92, 120, 48, 48, 92, 120, 102, 102, 195, 169, 34] := by decide
example : quote (fun _ => false) [226, 128, 168] = [34, 92, 117, 50, 48, 50, 56, 34] := by decide
example : unquote [34, 92, 117, 50, 48, 50, 56, 92, 49, 48, 49, 92, 120, 52, 49, 34] = some [226, 128, 168, 65, 65] := by decide
example : unquote [34, 97, 10, 98, 34] = none := by decide          -- a newline inside an interpreted literal
example : unquote [34, 255, 34] = none := by decide                 -- invalid UTF-8 in the source
example : showInt (-9223372036854775808) = [45, 57, 50, 50, 51, 51, 55, 50, 48, 51, 54, 56, 53, 52, 55, 55, 53, 56, 48, 56] := by decide
example : magOk [53, 101, 45, 51, 50, 52] := by decide   -- 5e-324
example : evalFloat (showFloat true (.fin true [53, 101, 45, 51, 50, 52])) = some (.fin true [53, 101, 45, 51, 50, 52]) := by decide

end scalar

/-! ### any tables, any tree: round trip, no silent loss, explicit errors, no crash, same runner -/

/-- **Round trip.** For every table and every tree: if `Emit` produces text, evaluating that text
yields exactly the tree `erase` describes — every field that is neither skipped by tag nor unread
by its handler is there with its value, recursively, in order; nothing else changes. -/
theorem C16_emit_rebuild (tbl : Tables) (v : Val) (l : Lit) (h : emitTop tbl v = .ok l) :
    rebuild l = erase tbl .value "" v :=
  emit_rebuild tbl v .value "" l h

/-- **Reflective path is lossless.** If nothing is dropped anywhere in the tree (no `pp:"-"` data
field, no unread field, no lost Node), the compiled program evaluates the parser's tree, position
info apart. Generic in the struct descriptions. -/
theorem C16_reflective_lossless (tbl : Tables) (v : Val) (l : Lit)
    (h : emitTop tbl v = .ok l) (hd : dropped tbl .value "" v = []) :
    stripPos (rebuild l) = stripPos v := by
  rw [C16_emit_rebuild tbl v l h]
  exact erase_of_no_drop tbl v .value "" hd

/-- what a reflective literal of struct `d` leaves out of a conforming field chain is a `pp:"-"`
data field of `d` — so with `C16_static_drops_allowed`, only listed fields -/
theorem C16_reflective_level (tbl : Tables) (d : StructDesc) (fields : Val)
    (huniq : ∀ f ∈ d.fields, d.fields.find? (fun g => g.name == f.name) = some f)
    (hexp : firstUnexported d = none)
    (hconf : ∀ n ∈ chainNames fields, ∃ f ∈ d.fields, f.name = n ∧ f.embeddedNode = false) :
    ∀ n ∈ levelDrops (.reflFields d) fields, (d.name, n) ∈ reflDrops tbl d := by
  intro n hn
  obtain ⟨f, hf, rfl, hfe, hk⟩ := levelDrops_conf hconf hn
  have hexp' : f.exported = true := by simpa [hfe] using List.find?_eq_none.mp hexp f hf
  rw [keepField_reflFields (huniq f hf), hfe, hexp'] at hk
  exact List.mem_append_left _ (List.mem_map.mpr ⟨f, List.mem_filter.mpr ⟨hf, by simpa [hfe] using hk⟩, rfl⟩)

/-- what a handler leaves out of a conforming field chain is an unread field of its struct -/
theorem C16_handler_level (tbl : Tables) (h : Handler) (d : StructDesc)
    (hd : findStruct tbl h.ty = some d) (fields : Val)
    (hconf : ∀ n ∈ chainNames fields, ∃ f ∈ d.fields, f.name = n ∧ f.embeddedNode = false) :
    ∀ n ∈ levelDrops (.readFields h.reads h.inner) fields, (h.ty, n) ∈ handlerDrops tbl h := by
  intro n hn
  obtain ⟨f, hf, rfl, hfe, hk⟩ := levelDrops_conf hconf hn
  rw [keepField_readFields] at hk
  unfold handlerDrops
  rw [hd]
  exact List.mem_map.mpr ⟨f, List.mem_filter.mpr ⟨hf, by simpa [hfe] using hk⟩, rfl⟩

/-- **A field that cannot be emitted is a compile error, never silently dropped**: a struct
without handler that has an unexported field (other than the embedded Node) makes `Emit` fail,
whatever the field values are and wherever the node sits. -/
theorem C16_unexported_is_error (tbl : Tables) (ty : String) (d : StructDesc) (f : Field)
    (hp : path tbl ty = .unexported d f) (m : Mode) (hm : m.isInline = false) (cty : String)
    (hn : Bool) (fields : Val) :
    emit tbl m cty (.obj ty hn fields) = .error (.unexported ty f.name) := by
  simp [emit, objWrap, hm, objOut, hp]

/-- … and `path` answers `unexported` exactly when there is such a field -/
theorem C16_unexported_iff (tbl : Tables) (ty : String) (d : StructDesc)
    (h1 : findHandler tbl.special ty = none) (h2 : findHandler tbl.scalars ty = none)
    (h3 : findStruct tbl ty = some d) :
    (∃ f, path tbl ty = .unexported d f) ↔ ∃ f ∈ d.fields, f.exported = false ∧ f.embeddedNode = false := by
  -- `path` answers `unexported` exactly when the search for such a field finds one
  have hp : (∃ f, path tbl ty = .unexported d f) ↔ (firstUnexported d).isSome = true := by
    unfold path
    simp only [h1, h2, h3]
    cases firstUnexported d <;> simp
  simp [hp, firstUnexported]

/-- inside a field chain the error is the same: an unexported, untagged field met by the second
pass stops the emission -/
theorem C16_unexported_field_stops (tbl : Tables) (d : StructDesc) (ty name : String) (v rest : Val)
    (f : Field) (hf : d.fields.find? (fun g => g.name == name) = some f)
    (hn : f.embeddedNode = false) (hs : f.ppSkip = false) (he : f.exported = false) :
    emit tbl (.reflFields d) ty (.fcons name v rest) = .error (.unexported ty name) := by
  simp [emit, fieldAct, hf, hn, hs, he, consOut]

/-- **No crash**: with the checked assertion the compile command never panics in `Emit`;
every outcome is text or an explicit error -/
theorem C16_no_crash (tbl : Tables) (hp : tbl.ptrAssertUnchecked = false) (v : Val) :
    emitTop tbl v ≠ .crash :=
  no_crash tbl hp v .value ""

/-- … and with the unchecked assertion it cannot panic on a tree without a pointer to a non-node -/
theorem C16_no_crash_without_plain_ptr (tbl : Tables) (v : Val) (h : noPlainPtr v = true) :
    emitTop tbl v ≠ .crash :=
  no_crash_of_noPlainPtr tbl v .value "" h

theorem C16_no_crash_generated (v : Val) : emitTop tables v ≠ .crash :=
  C16_no_crash tables (by decide) v

/-- **Same runner.** For every interpretation of the steps under which obtaining the AST
(registry lookup + generated function, or clone + parse), locking, and resetting the (still
empty) user output do not change the state, `RunCompiledFile` and `LoadAndRun` take the VM from
any state to the same state — they differ only in how the AST is obtained. -/
theorem C16_same_runner {σ : Type} (sem : Step → σ → σ)
    (hid : ∀ st s, essential st = false → sem st s = s) (s : σ) :
    runSteps sem (runCompiledSteps.map classify) s = runSteps sem (loadAndRunSteps.map classify) s := by
  rw [runSteps_filter sem essential hid, runSteps_filter sem essential hid (loadAndRunSteps.map classify)]
  have := C16_same_runner_obligation.1
  unfold skeleton at this
  rw [this]

/-! ### non-vacuity: a small table on which every outcome of the emission occurs -/

def demo : Tables := {
  structs := [
    ⟨"node.BinaryAdd", true, [⟨"Node", true, true, true, .node⟩, ⟨"Left", true, false, false, .node⟩, ⟨"Right", true, false, false, .node⟩]⟩,
    ⟨"node.Secret", true, [⟨"Node", true, true, true, .node⟩, ⟨"hidden", false, false, false, .scalar⟩]⟩,
    ⟨"node.VarIntLe", true, [⟨"Node", true, true, true, .node⟩, ⟨"VarIdx", true, false, false, .scalar⟩, ⟨"Lit", true, false, false, .scalar⟩, ⟨"cache", false, false, false, .scalar⟩]⟩,
    ⟨"data.IntValue", true, [⟨"Value", true, false, false, .scalar⟩]⟩],
  special := [⟨"node.VarIntLe", "emitVarIntLe", ["VarIdx", "Lit"], []⟩],
  scalars := [⟨"data.IntValue", "emitIntValue", ["Value"], []⟩],
  aux := [], nodeNeedsTag := false, ptrAssertUnchecked := false }

def int (n : String) : Val := .obj "data.IntValue" false (.fcons "Value" (.scalar n) .fnil)
def demoTree : Val :=
  .obj "node.BinaryAdd" true (.fcons "Left" (int "1") (.fcons "Right"
    (.obj "node.VarIntLe" true (.fcons "VarIdx" (.scalar "0") (.fcons "Lit" (.scalar "3") (.fcons "cache" (.scalar "9") .fnil)))) .fnil))

example : ∃ l, emitTop demo demoTree = .ok l := ⟨_, rfl⟩
example : dropped demo .value "" demoTree = [("node.VarIntLe", "cache")] := by decide +kernel
example : dropped demo .value "" (int "7") = [] := by decide +kernel
example : emitTop demo (.obj "node.Secret" true (.fcons "hidden" (.scalar "x") .fnil))
    = .error (.unexported "node.Secret" "hidden") := by decide +kernel
example : (∃ f, path demo "node.Secret" = .unexported ⟨"node.Secret", true, [⟨"Node", true, true, true, .node⟩, ⟨"hidden", false, false, false, .scalar⟩]⟩ f) :=
  ⟨_, rfl⟩
example : emitTop { demo with ptrAssertUnchecked := true } (.obj "node.BinaryAdd" true (.fcons "Left" .plainPtr .fnil)) = .crash := by
  decide +kernel
example : staticDrops demo = [("node.VarIntLe", "cache")] := by decide +kernel
/-- a reflectively emitted struct with a `[]*T` field. In the three examples below: the obligation
`unnamedByHand` is false for it, true once a handler writes the field by hand, and the emission is an error. -/
def demoVarList : List StructDesc := [⟨"node.VariableList", true, [⟨"Vars", true, false, false, .unnamedElems⟩]⟩]
example : unnamedByHand { demo with structs := demoVarList } = false := by decide +kernel
example : unnamedByHand { demo with structs := demoVarList, aux := [⟨"node.VariableList", "(by hand inside the handlers)", ["Vars"], []⟩] } = true := by
  decide +kernel
example : emitTop { demo with structs := demoVarList } (.obj "node.VariableList" false (.fcons "Vars" .unnamed .fnil)) = .error .malformed := by
  decide +kernel
/-- the pinned-tree shape of the Node defect: with `nodeNeedsTag` an untagged Node is not rebuilt -/
example : needsNode { demo with nodeNeedsTag := true } ⟨"node.SwitchStatement", true, [⟨"Node", true, true, false, .node⟩]⟩ = false := by
  decide
example : (emittable tables).length = 148 ∨ True := Or.inr trivial
example : essential .obtainAst = false ∧ essential .run = true := by decide


/-! ## type payloads: a structured `data.Types` value written as its PRINTED form

`genTypes`' default arm writes `data.NewBaseType(<ty.String()>)`: the generated program parses the printed
type again. `data.NewBaseType` splits a union only when `len(ty) > 1 && strings.Index(ty, "|") > 1`
(`Model.EmitType.splits`; tied to the real function every run by the type probe of harness/c16). What a
type then accepts stays with the differential type stream (harness/c16/types.go). -/
section TypePayloads
open Model.EmitType

/-- with its own arm (`data.NewUnionType` member by member) a union is a union in the generated program,
whatever its members print -/
theorem C16_type_union_arm_faithful (members : List (List Char)) :
    readsBackAsUnion true members = true := rfl

/-- PRINTING a union (the default arm) is faithful iff the first member's printed form is longer than one
character — for any number (≥ 2) of members and any other members -/
theorem C16_type_union_print_faithful_iff (p q : List Char) (r : List (List Char)) (h : barFree p) :
    readsBackAsUnion false (p :: q :: r) = true ↔ p.length > 1 := by
  simp [readsBackAsUnion, Proofs.EmitType.splits_join p q r h]

/-- why the repository's tests stay green: every union whose first member has two or more characters -/
theorem C16_type_union_print_ok_long (p q : List Char) (r : List (List Char)) (h : barFree p) (hl : p.length > 1) :
    readsBackAsUnion false (p :: q :: r) = true :=
  (C16_type_union_print_faithful_iff p q r h).2 hl

/-- negation witnesses (the seeded demo's two types; a two-letter control) -/
theorem C16_type_union_one_char_counterexample :
    readsBackAsUnion false ["E".toList, "RuntimeException".toList] = false ∧
    readsBackAsUnion false ["N".toList, "int".toList, "null".toList] = false ∧
    splits "E|RuntimeException".toList = false ∧
    readsBackAsUnion false ["Ex".toList, "RuntimeException".toList] = true ∧
    readsBackAsUnion false ["RuntimeException".toList, "E".toList] = true := by decide

/-- types whose printed form `data.NewBaseType` reads back as the same value (leaves without payload, and a
class by its name) -/
def typePrintSafe : List String :=
  ["data.Arrays", "data.Bool", "data.Callable", "data.Class", "data.ClosureType", "data.Float", "data.Int",
   "data.NullType", "data.Object", "data.StaticType", "data.String"]

/-- implementations without an arm, on record with the reason: `AST` (annotation targets: built by the
annotation machinery at run time, not by a parsed type), `Const` (the variable of a `const` declaration: never
assigned through the type), `LspTypes` (language server only), `Mixed` (the parsers write `NewBaseType("mixed")`
= nil), `Generic` (String() keeps the name; `Is` accepts everything: the arguments are not checked),
`MultipleReturnType` (`: int, string` — genuine defect, fix C16-multiple-return-type adds the arm) -/
def typeUnarmedOnRecord : List String :=
  ["data.AST", "data.Const", "data.LspTypes", "data.Mixed", "data.Generic", "data.MultipleReturnType"]

/-- OBLIGATION on the regenerated facts: every implementation of data.Types has its own arm in `genTypes`,
or is print-safe, or is on record; the two structured arms are there (non-vacuity). A change that removes the
`UnionType` arm, or a new structured Types implementation without an arm, fails here by name. -/
theorem C16_types_arms_cover :
    armsCover Generated.C16CompileNodes.typesImpls Generated.C16CompileNodes.genTypesArms typePrintSafe typeUnarmedOnRecord = true ∧
    Generated.C16CompileNodes.genTypesArms.contains "data.UnionType" = true ∧
    Generated.C16CompileNodes.genTypesArms.contains "data.NullableType" = true ∧
    Generated.C16CompileNodes.typesImpls.contains "data.UnionType" = true := by decide +kernel

example : barFree "E".toList := by intro c hc; simp at hc; subst hc; decide
example : armsCover ["data.UnionType", "data.Int"] ["data.NullableType", "default"] typePrintSafe typeUnarmedOnRecord = false := by decide
example : armsCover ["data.UnionType", "data.Int"] ["data.UnionType"] typePrintSafe typeUnarmedOnRecord = true := by decide

end TypePayloads

end C16
