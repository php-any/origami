import Proofs.Lemmas.ConvGen
import Proofs.Lemmas.ConvReg
import Proofs.Lemmas.ConvBuf
import Generated.C17GoKinds
/-!
# C17 — values cross the Go boundary unchanged in both directions

`Model.Conv` mirrors `ReflectFunction.Call` / `ReflectMethod.Call`
(`convertToGoValue` → `reflect.Value.Call` → `convertToScriptValue`) and the generic converter
`utils.Convert[S]` / `utils.ConvertFromIndex[S]`; `Spec.Conv.denote` / `reflectBack` say which Go
value a script value *is*. The kind switches of the Go source are regenerated on every run into
`Generated.C17GoKinds`; every theorem is stated for **any** tables satisfying the decidable
predicates `tableExact` / `outTableExact` / `genExact`, and the obligations below re-check those
predicates on the regenerated tables by `decide`. All statements are for every Go type (predeclared
or defined, e.g. `type ID int64`), every arity, every argument list, every float-primitive
implementation `pr`. A theorem named `…_now` is the generic one at the tables of `Generated.C17GoKinds`, with the
obligations discharged; `nowCfg` is the configuration made of those tables.

Negation witnesses for the tables of a tree without the two patches: without
`fixes/C17-reflect-convert-param-type.patch` the arms have `convert := false`, `tableExact` fails and a
call with an `int64` or defined-type parameter panics (`C17_pinned_counterexample`); without
`fixes/C17-generic-int-range.patch` the sized-integer clauses have `form := .cast`, `genExact` fails
and `Convert[int8](300) = 44` (`C17_pinned_generic_counterexample`).
-/
namespace C17
open Model.Conv Spec.Conv Proofs.Conv Proofs.ConvReg
open Generated.C17GoKinds (table tableMethod outTable outTableMethod gen shapeChanged memos callPathWrites)

/-- every arm of `ReflectFunction.convertToGoValue` hands over a value of exactly the requested
type (accessor result unchanged, `.Convert(goType)`), only for kinds that hold every such value,
and every supported kind has an arm -/
theorem table_exact : tableExact table = true := by decide +kernel

/-- the same for `ReflectMethod.convertToGoValue` (struct methods) -/
theorem tableMethod_exact : tableExact tableMethod = true := by decide +kernel

/-- every arm of `ReflectFunction.convertToScriptValue` reads the Go value with the accessor of its
kind and wraps it in the script constructor of the same class; every supported kind has an arm -/
theorem outTable_exact : outTableExact outTable = true := by decide +kernel

theorem outTableMethod_exact : outTableExact outTableMethod = true := by decide +kernel

/-- every clause of `utils.convertFrom{Int,String,Float,Bool}Value` asserts back the type it was
selected for with an expression of that static type, and every sized integer type is served by the
range-checked `narrowInt` -/
theorem gen_exact : genExact gen = true := by decide +kernel

/-- the translator found every syntactic shape it expects -/
theorem shape_unchanged : shapeChanged = [] := by decide

/-- every table of `runtime/reflect_*.go` that is written while calls are served (package-level
variables of package runtime, map / slice / sync.Map fields of the wrapper structs) is keyed by what
its entries depend on: (Go type, method) — or the Go type alone for data of a registered type. A
table keyed by the bare method name, a single slot, or something the translator cannot classify
fails here. -/
theorem memos_sound : memosSound memos = true := by decide

/-- **In, exact.** A script value that denotes a Go value at a supported parameter type is handed
to `reflect.Value.Call` as exactly that value: same data, dynamic type = the declared parameter type. -/
theorem C17_in_exact (pr : Prim) (tin : List InArm) (h : tableExact tin = true)
    (t : GoType) (hk : supported.contains t.kind = true) (v : SVal) (g : GoVal)
    (hd : denote t v = some g) : toGo pr tin t v = .ok g :=
  toGo_exact pr h t hk v g hd

/-- **In, exact, whole call.** For every signature over the supported kinds (any arity, any defined
types) and arguments that denote at the parameter types, the Go function is called, with exactly
the denoted values. -/
theorem C17_call_in_exact (pr : Prim) (tin : List InArm) (tout : List OutArm) (h : tableExact tin = true)
    (sig : Sig) (body : List GoVal → List GoVal) (args : List SVal) (gs : List GoVal)
    (hs : ∀ t ∈ sig.params, supported.contains t.kind = true)
    (hd : denoteAll sig.params args = some gs) :
    (call pr tin tout sig body args).received = some gs := by
  rw [call_exact pr tout h sig body args gs hs hd]

/-- **Out, exact.** A Go value of a supported kind (of any defined type of that kind) arrives in the
script as exactly that value. -/
theorem C17_out_exact (pr : Prim) (tout : List OutArm) (h : outTableExact tout = true)
    (g : GoVal) (hg : g.wt = true) (hk : supported.contains g.ty.kind = true) :
    ∃ v, reflectBack g = some v ∧ toScript pr tout g = .ok v :=
  ⟨_, reflectBack_scriptOf hg hk, toScript_exact pr h g hg hk⟩

/-- **Out, exact, whole call.** When the call goes through, the script receives exactly the first
value the Go function returned. -/
theorem C17_call_out_exact (pr : Prim) (tin : List InArm) (tout : List OutArm)
    (hin : tableExact tin = true) (hout : outTableExact tout = true)
    (sig : Sig) (body : List GoVal → List GoVal) (args : List SVal) (gs : List GoVal)
    (hs : ∀ t ∈ sig.params, supported.contains t.kind = true)
    (hd : denoteAll sig.params args = some gs)
    (r : GoVal) (rest : List GoVal) (hb : body gs = r :: rest)
    (hr : r.wt = true) (hk : supported.contains r.ty.kind = true) :
    ∃ v, reflectBack r = some v ∧ (call pr tin tout sig body args).result = .ok (some v) := by
  obtain ⟨v, hv, hts⟩ := C17_out_exact pr tout hout r hr hk
  refine ⟨v, hv, ?_⟩
  rw [call_exact pr tout hin sig body args gs hs hd]
  simp only [hb, hts]
  rfl

/-- **Round trip script → Go → script**: handing a value to Go at a supported type and handing it
straight back gives the value the script started with. -/
theorem C17_roundtrip (pr : Prim) (tin : List InArm) (tout : List OutArm)
    (hin : tableExact tin = true) (hout : outTableExact tout = true)
    (t : GoType) (hk : supported.contains t.kind = true) (v : SVal) (g : GoVal)
    (hd : denote t v = some g) :
    (toGo pr tin t v).bind (toScript pr tout) = .ok v := by
  rw [C17_in_exact pr tin hin t hk v g hd]
  obtain ⟨rfl, hwt, rfl⟩ := of_denote hk hd
  exact toScript_exact pr hout g hwt hk

/-- **Round trip Go → script → Go**: a Go value of a supported kind returned to the script and
passed back to a parameter of its own type is the same Go value. -/
theorem C17_roundtrip_go (pr : Prim) (tin : List InArm) (tout : List OutArm)
    (hin : tableExact tin = true) (hout : outTableExact tout = true)
    (g : GoVal) (hg : g.wt = true) (hk : supported.contains g.ty.kind = true) :
    (toScript pr tout g).bind (toGo pr tin g.ty) = .ok g := by
  rw [toScript_exact pr hout g hg hk]
  exact toGo_scriptOf pr hin g hg hk

/-- **No panic.** For every signature — any arity, parameter and result types of any kind
(supported, sized, defined, slices, interfaces …) — every argument list (too short, too long, any
script values) and every Go function that returns well-typed values of its result types, the call
does not panic: it yields a script value, no value, or a catchable error. -/
theorem C17_no_panic (pr : Prim) (tin : List InArm) (tout : List OutArm)
    (hin : tableExact tin = true) (hout : outTableExact tout = true)
    (sig : Sig) (body : List GoVal → List GoVal) (hb : bodyRespects sig body) (args : List SVal) :
    (call pr tin tout sig body args).result.isPanic = false := by
  rcases call_wf pr (Bool.and_eq_true_iff.mp hin).1 tout sig body args with ⟨gs, _, _, _, hc⟩ | ⟨e, _, hc⟩ <;>
    rw [hc]
  · cases hbody : body gs with
    | nil => rfl
    | cons r rest =>
      have hr : r.wt = true := (hb gs).2 r (by rw [hbody]; exact List.mem_cons_self)
      obtain ⟨v, hv⟩ := toScript_ok pr (Bool.and_eq_true_iff.mp hout).1 r hr
      simp only [hv]
      rfl
  · rfl

/-- **Unsupported is catchable.** If some parameter has a kind outside the supported set, every call
is answered by a catchable script error and the Go function is not invoked. -/
theorem C17_unsupported_is_catchable (pr : Prim) (tin : List InArm) (tout : List OutArm)
    (hin : tableExact tin = true) (sig : Sig) (body : List GoVal → List GoVal) (args : List SVal)
    (hu : ∃ t ∈ sig.params, supported.contains t.kind = false) :
    (∃ e, (call pr tin tout sig body args).result = .throw e) ∧
    (call pr tin tout sig body args).received = none := by
  obtain ⟨t, ht, hu⟩ := hu
  rcases call_wf pr (Bool.and_eq_true_iff.mp hin).1 tout sig body args with ⟨_, _, _, hsup, _⟩ | ⟨e, _, hc⟩
  · rw [hsup t ht] at hu
    cases hu
  · rw [hc]
    exact ⟨⟨e, rfl⟩, rfl⟩

/-- **Whatever cannot be converted is catchable.** For any signature and arguments the Go function is
either called with values of exactly its parameter types, or not called at all and the script gets a
catchable error. -/
theorem C17_called_or_catchable (pr : Prim) (tin : List InArm) (tout : List OutArm)
    (hin : tableExact tin = true) (sig : Sig) (body : List GoVal → List GoVal) (args : List SVal) :
    (∃ gs, (call pr tin tout sig body args).received = some gs ∧ gs.map (·.ty) = sig.params) ∨
    ((call pr tin tout sig body args).received = none ∧
      ∃ e, (call pr tin tout sig body args).result = .throw e) := by
  rcases call_wf pr (Bool.and_eq_true_iff.mp hin).1 tout sig body args with ⟨gs, _, h2, _, hc⟩ | ⟨e, _, hc⟩ <;>
    rw [hc]
  · exact .inl ⟨gs, rfl, map_ty_of_assignable h2⟩
  · exact .inr ⟨rfl, e, rfl⟩

/-- **Struct methods.** A method call reaches the same conversion as a function call whenever it
supplies at least as many arguments as the method has parameters; with fewer it is refused with a
catchable error and the method does not run. So every theorem above about `call` holds for methods. -/
theorem C17_method_path (pr : Prim) (tin : List InArm) (tout : List OutArm) (sig : Sig)
    (body : List GoVal → List GoVal) (args : List SVal) :
    (sig.params.length ≤ args.length →
      callVia .method pr tin tout sig body args = call pr tin tout sig body args) ∧
    (args.length < sig.params.length →
      (callVia .method pr tin tout sig body args).received = none ∧
      (callVia .method pr tin tout sig body args).result = .throw .missingArgument) ∧
    callVia .fn pr tin tout sig body args = call pr tin tout sig body args := by
  refine ⟨fun h => if_neg fun hc => Nat.not_lt.mpr h (of_decide_eq_true hc), fun h => ?_, rfl⟩
  have e : callVia .method pr tin tout sig body args = ⟨none, .throw .missingArgument⟩ :=
    if_pos (decide_eq_true h)
  rw [e]
  exact ⟨rfl, rfl⟩


/-- **History independence.** After ANY history of registrations and calls (any other struct types
and functions registered before or after, with methods of the same name and other signatures; any
earlier calls, of this callee or others, succeeding or refused) a call of a registered callee is
answered by `Cfg.own`: a function of the callee's own signature and code and of the arguments only. -/
theorem C17_history_independent (cfg : Cfg) (U : Universe) (reg : List Nat) (h : List Op)
    (c : Callee) (env : Nat) (args : List SVal) (hr : (regAfter reg h).contains c.owner = true) :
    (runPlain cfg U reg (h ++ [.call c env args])).getLast? = some (some (cfg.own (U c) env args)) := by
  rw [runPlain_append]
  have hm : c.owner ∈ regAfter reg h := by simpa using hr
  simp [runPlain, hm]

/-- the same, as an equation between two worlds: different Go universes that agree on this callee,
different earlier registrations, different earlier calls — same answer -/
theorem C17_outcome_depends_on_callee_only (cfg : Cfg) (U U' : Universe) (reg reg' : List Nat)
    (h h' : List Op) (c : Callee) (env : Nat) (args : List SVal) (hU : U c = U' c)
    (hr : (regAfter reg h).contains c.owner = true) (hr' : (regAfter reg' h').contains c.owner = true) :
    (runPlain cfg U reg (h ++ [.call c env args])).getLast?
      = (runPlain cfg U' reg' (h' ++ [.call c env args])).getLast? := by
  rw [C17_history_independent cfg U reg h c env args hr,
      C17_history_independent cfg U' reg' h' c env args hr', hU]

/-- `Cfg.own` never panics (the single-call theorems lifted to both wrapper families) -/
theorem C17_own_no_panic (cfg : Cfg)
    (hin : tableExact cfg.tin = true) (hout : outTableExact cfg.tout = true)
    (hinM : tableExact cfg.tinM = true) (houtM : outTableExact cfg.toutM = true)
    (e : Entry) (env : Nat) (hb : bodyRespects e.sig (e.body env)) (args : List SVal) :
    (cfg.own e env args).result.isPanic = false := by
  unfold Cfg.own
  cases e.path with
  | fn => exact C17_no_panic cfg.pr _ _ hin hout e.sig _ hb args
  | method =>
    simp only [callVia]
    split
    · rfl
    · exact C17_no_panic cfg.pr _ _ hinM houtM e.sig _ hb args

/-- **No call of any history crashes the interpreter**: whatever was registered and called before. -/
theorem C17_registry_no_panic (cfg : Cfg)
    (hin : tableExact cfg.tin = true) (hout : outTableExact cfg.tout = true)
    (hinM : tableExact cfg.tinM = true) (houtM : outTableExact cfg.toutM = true)
    (U : Universe) (hb : ∀ c env, bodyRespects (U c).sig ((U c).body env))
    (ops : List Op) (reg : List Nat) :
    ∀ tr, some tr ∈ runPlain cfg U reg ops → tr.result.isPanic = false := by
  intro tr h
  fun_induction runPlain cfg U reg ops with
  | case1 => cases h
  | case2 reg o ops ih =>
    rcases List.mem_cons.mp h with h | h
    · cases h
    · exact ih h
  | case3 reg c env args ops ih =>
    rcases List.mem_cons.mp h with h | h
    · split at h <;> cases h
      exact C17_own_no_panic cfg hin hout hinM houtM (U c) env (hb c env) args
    · exact ih h

/-- **In, exact, after any history**: arguments that denote at the callee's own parameter types reach
the Go code as exactly the denoted values — whatever other callees of the same name exist. -/
theorem C17_registry_in_exact (cfg : Cfg)
    (hin : tableExact cfg.tin = true) (hinM : tableExact cfg.tinM = true)
    (U : Universe) (reg : List Nat) (h : List Op) (c : Callee) (env : Nat) (args : List SVal)
    (gs : List GoVal) (hr : (regAfter reg h).contains c.owner = true)
    (hs : ∀ t ∈ (U c).sig.params, supported.contains t.kind = true)
    (hd : denoteAll (U c).sig.params args = some gs) :
    ∃ tr, (runPlain cfg U reg (h ++ [.call c env args])).getLast? = some (some tr) ∧ tr.received = some gs := by
  refine ⟨_, C17_history_independent cfg U reg h c env args hr, ?_⟩
  have hl := denoteAll_length hd
  unfold Cfg.own
  cases (U c).path with
  | fn => exact C17_call_in_exact cfg.pr _ _ hin _ _ args gs hs hd
  | method =>
    rw [(C17_method_path cfg.pr _ _ _ _ args).1 (by omega)]
    exact C17_call_in_exact cfg.pr _ _ hinM _ _ args gs hs hd

/-- **A memo whose key determines its datum is invisible.** Put a table in front of the parameter
list (`GetParams` answered from a table that outlives the call): if the table is keyed by
(Go type, method) — or by the Go type alone while the Go type alone determines the list — every
call of every history is answered exactly as without the table. -/
theorem C17_sound_memo_transparent (cfg : Cfg) (U : Universe) (m : MemoFact) (hs : m.sound = true)
    (hU : m.datum = .perOwner → ∀ c c' : Callee, c.owner = c'.owner → (U c).sig.params = (U c').sig.params)
    (reg : List Nat) (ops : List Op) :
    runMemo cfg U m.keyBy.key reg [] ops = runPlain cfg U reg ops := by
  apply runMemo_eq_runPlain cfg U _ _ ops reg [] (fun _ _ h => nomatch h)
  intro c c' hk
  rcases sound_key hs hk with rfl | ⟨hd, ho⟩
  · rfl
  · exact hU hd c c' ho

/-- the regenerated memo tables (obligation `memos_sound`) are invisible -/
theorem C17_memos_transparent_now (cfg : Cfg) (U : Universe) (m : MemoFact) (hm : m ∈ memos)
    (hU : m.datum = .perOwner → ∀ c c' : Callee, c.owner = c'.owner → (U c).sig.params = (U c').sig.params)
    (reg : List Nat) (ops : List Op) :
    runMemo cfg U m.keyBy.key reg [] ops = runPlain cfg U reg ops :=
  C17_sound_memo_transparent cfg U m (List.all_eq_true.mp memos_sound m hm) hU reg ops

/-- **Generic converter, exact.** `utils.Convert[T]` / `utils.ConvertFromIndex[T]` for a predeclared
`T` give exactly the Go value the script value denotes — in particular every sized integer type
when the value is representable. -/
theorem C17_generic_exact (pr : Prim) (g : GenTables) (h : genExact g = true)
    (t : GoType) (ht : t.name = 0) (v : SVal) (gv : GoVal) (hd : denote t v = some gv) :
    convertValue pr g t v = .ok gv ∧ convertFromIndex pr g t v = .ok gv := by
  have h1 : convertValue pr g t v = .ok gv := by
    obtain ⟨k, nm⟩ := t
    cases ht
    cases v with
    | null => cases hd
    | int n =>
      obtain ⟨hfit, ⟨⟩⟩ := Option.ite_none_right_eq_some.mp hd
      by_cases hk : k = .int
      · subst hk
        rfl
      · rw [convertValue_sized pr h (mem_sized (isInt_of_fits hfit) hk), if_pos hfit]
    | _ =>
      -- the requested type is the value's own: the direct assertion `any(v).(S)` succeeds
      obtain ⟨hk, ⟨⟩⟩ := Option.ite_none_right_eq_some.mp hd
      have hk : k = _ := hk
      subst hk
      rfl
  exact ⟨h1, by rw [convertFromIndex, h1]⟩

/-- **Generic converter, unrepresentable integers are errors** (never a wrapped value). -/
theorem C17_generic_unrepresentable_is_catchable (pr : Prim) (g : GenTables) (h : genExact g = true)
    (k : Kind) (hk : k ∈ sizedInts) (n : Int) (hfit : k.fits n = false) :
    convertValue pr g ⟨k, 0⟩ (.int n) = .throw .outOfRange ∧
    ∃ e, convertFromIndex pr g ⟨k, 0⟩ (.int n) = .throw e := by
  have h1 : convertValue pr g ⟨k, 0⟩ (.int n) = .throw .outOfRange := by
    rw [convertValue_sized pr h hk, hfit]
    rfl
  refine ⟨h1, .unsupportedType, ?_⟩
  rw [convertFromIndex, h1]
  exact typeAlias_predeclared pr k _

/-- **Generic converter, no panic**: for every requested type and every scalar script value. -/
theorem C17_generic_no_panic (pr : Prim) (g : GenTables) (h : genExact g = true) (t : GoType) (v : SVal) :
    (convertValue pr g t v).isPanic = false ∧ (convertFromIndex pr g t v).isPanic = false := by
  simp only [genExact, Bool.and_eq_true] at h
  exact ⟨convertValue_no_panic pr h.1 t v, convertFromIndex_no_panic pr h.1 t v⟩

/-- `C17_no_panic` at the regenerated tables of both call paths (obligations `table_exact` … `outTableMethod_exact`) -/
theorem C17_no_panic_now (pr : Prim) (sig : Sig) (body : List GoVal → List GoVal)
    (hb : bodyRespects sig body) (args : List SVal) :
    (call pr table outTable sig body args).result.isPanic = false ∧
    (call pr tableMethod outTableMethod sig body args).result.isPanic = false :=
  ⟨C17_no_panic pr _ _ table_exact outTable_exact sig body hb args,
   C17_no_panic pr _ _ tableMethod_exact outTableMethod_exact sig body hb args⟩

/-! ### tables of a tree without the two patches (negation witnesses; the harness replays them
on such a tree as `panic:callArgType` / `gen:wrap`) -/

def pinnedTable : List InArm :=
  [ { kinds := [.string], acc := .asString, produced := .string, convert := false },
    { kinds := [.int, .int64], acc := .asInt, produced := .int, convert := false },
    { kinds := [.float64], acc := .asFloat, produced := .float64, convert := false },
    { kinds := [.bool], acc := .asBool, produced := .bool, convert := false } ]

def nullPrim : Prim := { ofInt := fun _ => 0, trunc := fun _ => 0, gt0 := fun _ => false, ne0 := fun _ => false,
                         to32 := id, parse := fun _ => none }

/-- without `.Convert(goType)`, `func(x int64) int64` called with `5` panics in `reflect.Value.Call` -/
theorem C17_pinned_counterexample :
    ¬ (∀ (sig : Sig) (body : List GoVal → List GoVal) (_ : bodyRespects sig body) (args : List SVal),
        (call nullPrim pinnedTable outTable sig body args).result.isPanic = false) := by
  intro h
  have := h ⟨[⟨.int64, 0⟩], [⟨.int64, 0⟩]⟩ (fun _ => [⟨⟨.int64, 0⟩, .int 0⟩])
    (by intro gs; exact ⟨rfl, by intro r hr; simp at hr; subst hr; decide⟩) [.int 5]
  revert this
  decide

def pinnedGenFromInt : List GenArm :=
  gen.fromInt.map fun a => if a.form == .narrow then { a with form := .cast } else a

/-- with plain casts `Convert[int8](300)` is `44`, not an error -/
theorem C17_pinned_generic_counterexample :
    convertValue nullPrim { gen with fromInt := pinnedGenFromInt } ⟨.int8, 0⟩ (.int 300)
      = .ok ⟨⟨.int8, 0⟩, .int 44⟩ := by decide +kernel


/-! ### a parameter-list memo keyed by the bare method name (negation witness, replayed by the
harness as `hist:*` on a tree that has one) -/

def nowCfg (pr : Prim) : Cfg := ⟨pr, table, outTable, tableMethod, outTableMethod⟩

/-- `Inventory.Put(string) string` (owner 1) and `Ledger.Put(string, int64, float64) int64` (owner 2) -/
def demoU : Universe := fun c =>
  if c.owner == 1 then ⟨.method, ⟨[⟨.string, 0⟩], [⟨.string, 0⟩]⟩, fun _ gs => gs.take 1⟩
  else ⟨.method, ⟨[⟨.string, 0⟩, ⟨.int64, 0⟩, ⟨.float64, 0⟩], [⟨.int64, 0⟩]⟩, fun _ gs => (gs.drop 1).take 1⟩

def demoHist : List Op :=
  [.register 1, .register 2, .call ⟨1, 7⟩ 0 [.str (.lit [98])],
   .call ⟨2, 7⟩ 0 [.str (.lit [97]), .int 9223372036854775807, .float 0x8000000000000000]]

/-- keyed by the method name, the second `Put` walks the first one's one-element list and
`reflect.Value.Call` panics; without the memo both calls go through -/
theorem C17_name_keyed_memo_counterexample :
    ¬ (∀ (U : Universe) (reg : List Nat) (ops : List Op),
        runMemo (nowCfg nullPrim) U KeyBy.meth.key reg [] ops = runPlain (nowCfg nullPrim) U reg ops) := by
  intro h
  have := congrArg (List.map (fun t : Option Trace => t.map (fun tr => tr.result.isPanic))) (h demoU [] demoHist)
  revert this
  decide +kernel

/-! ### several calls of one callee in flight at once (`Model.ConvBuf`)

`spawn`ed closures, HTTP handlers and re-entrant conversions put several calls of ONE registered
callee between their first `convertToGoValue` and their `reflect.Value.Call` at the same time. The
argument list is filled slot by slot; a schedule is any list of caller ids. -/

open Model.ConvBuf in
/-- **one argument list per call in flight** (`bufOf` injective — the code as it is: `args := make(…)`
inside `Call`): under EVERY interleaving of ANY number of callers, nested or concurrent, of any arity,
whatever a caller's Go code receives is exactly what that caller passed, position by position -/
theorem C17_private_buffers_exact {α : Type} (bufOf : Nat → Nat) (hinj : ∀ a b, bufOf a = bufOf b → a = b)
    (args : Nat → List α) (n : Nat) (sched : List Nat) (c : Nat) (r : List (Option α))
    (h : (run bufOf args n sched).recv c = some r) : r = passed args n c :=
  (Proofs.ConvBuf.inv_runFrom bufOf hinj args n sched St.init (Proofs.ConvBuf.inv_init bufOf args n)).2 c r h

open Model.ConvBuf in
/-- **negation witness: an argument list kept per registration** (`rf.args`, `rm.args`, a package-level
scratch slice: `bufOf = fun _ => 0`). Two callers of a two-parameter callee, caller `c` passes
`(c+1, c+1)`; schedule: 0 writes slot 0, 1 writes slot 0, 0 writes slot 1, 0 invokes — caller 0's Go code
receives `(2, 1)`: the first value is one the calling script never passed. The harness replays this
schedule (and every other interleaving) on the real wrappers with gated argument values. -/
theorem C17_shared_buffer_counterexample :
    ¬ (∀ (args : Nat → List Nat) (n : Nat) (sched : List Nat) (c : Nat) (r : List (Option Nat)),
        (run (fun _ => 0) args n sched).recv c = some r → r = passed args n c) := by
  intro h
  have := h (fun c => [c + 1, c + 1]) 2 [0, 1, 0, 0] 0 [some 2, some 1] (by decide)
  revert this
  decide

open Model.ConvBuf in
/-- the same list is invisible to every stream that makes its calls one after the other from one
goroutine: a re-entrant schedule is needed as well (0 writes slot 0, then — inside the conversion of its
second argument — a complete call 1, then 0 goes on) -/
theorem C17_shared_buffer_reentrant_counterexample :
    (run (fun _ => 0) (fun c => [c + 1, c + 1]) 2 [0, 1, 1, 1, 0, 0]).recv 0 = some [some 2, some 1] ∧
    (run (fun _ => 0) (fun c => [c + 1, c + 1]) 2 (sequential 2 [0, 1])).recv 0 = some [some 1, some 1] ∧
    (run (fun _ => 0) (fun c => [c + 1, c + 1]) 2 (sequential 2 [0, 1])).recv 1 = some [some 2, some 2] := by
  decide +kernel

/-- call-path writes that have been looked at and found to be the call's own (none on the pinned tree) -/
def knownCallPathWrites : List String := []

/-- the call-path writes of the source that nobody has looked at -/
def unexplainedCallPathWrites : List String :=
  callPathWrites.filter (fun w => !knownCallPathWrites.contains w)

/-- **obligation `callPathWrites ⊆ Known`**: while a call is served, no function of
`runtime/reflect_*.go` writes a receiver field or a package-level variable — directly, through an
aliasing local (`args := rm.args; args[i] = …`), by `append` / `copy` into one, or by a non-reader
method call on one. Regenerated on every run (`extract/c17/callpath.go`). -/
theorem callPath_private : unexplainedCallPathWrites = [] := by decide

open Model.ConvBuf in
/-- with the regenerated call-path facts, every caller's Go code receives exactly what it
passed under every interleaving -/
theorem C17_concurrent_exact_now {α : Type} (args : Nat → List α) (n : Nat) (sched : List Nat) (c : Nat)
    (r : List (Option α)) (h : (run (bufPolicy unexplainedCallPathWrites) args n sched).recv c = some r) :
    r = passed args n c := by
  have hp : bufPolicy unexplainedCallPathWrites = id := by
    unfold bufPolicy; rw [callPath_private]; rfl
  rw [hp] at h
  exact C17_private_buffers_exact id (fun _ _ e => e) args n sched c r h

-- a three-parameter signature with a defined int64 type, a string and a float64; all hypotheses of
-- `C17_call_in_exact` / `C17_call_out_exact` hold and the call yields the returned value
example : (call nullPrim table outTable ⟨[⟨.int64, 7⟩, ⟨.string, 0⟩, ⟨.float64, 0⟩], [⟨.int64, 7⟩]⟩
      (fun gs => gs.take 1) [.int (-9223372036854775808), .str (.lit [0xff, 0]), .float 0x8000000000000000]).received
    = some [⟨⟨.int64, 7⟩, .int (-9223372036854775808)⟩, ⟨⟨.string, 0⟩, .str (.lit [0xff, 0])⟩,
            ⟨⟨.float64, 0⟩, .flt 0x8000000000000000⟩] := by decide +kernel

example : (call nullPrim table outTable ⟨[⟨.int64, 7⟩], [⟨.int64, 7⟩]⟩ (fun gs => gs.take 1)
      [.int 9223372036854775807]).result = .ok (some (.int 9223372036854775807)) := by decide +kernel

example : denoteAll [⟨.int64, 7⟩, ⟨.bool, 0⟩] [.int 3, .bool true]
    = some [⟨⟨.int64, 7⟩, .int 3⟩, ⟨⟨.bool, 0⟩, .bool true⟩] := by decide +kernel

-- `bodyRespects` is satisfiable by a non-constant body
example : bodyRespects ⟨[⟨.int, 0⟩], [⟨.int, 0⟩]⟩ (fun gs => [⟨⟨.int, 0⟩, .int (if gs.isEmpty then 0 else 1)⟩]) := by
  intro gs
  refine ⟨rfl, fun r hr => ?_⟩
  cases List.mem_singleton.mp hr
  cases gs <;> rfl

-- an unsupported parameter kind: catchable, Go function not called
example : (call nullPrim table outTable ⟨[⟨.int, 0⟩, ⟨.int8, 0⟩], []⟩ (fun _ => []) [.int 1, .int 2]).result
    = .throw .unsupportedType := by decide +kernel

-- the generic converter at a sized type, representable / not representable
example : convertValue nullPrim gen ⟨.uint16, 0⟩ (.int 65535) = .ok ⟨⟨.uint16, 0⟩, .int 65535⟩ := by decide +kernel
example : convertValue nullPrim gen ⟨.uint16, 0⟩ (.int 65536) = .throw .outOfRange := by decide +kernel
example : convertValue nullPrim gen ⟨.uint64, 0⟩ (.int (-1)) = .throw .outOfRange := by decide +kernel
example : convertFromIndex nullPrim gen GoType.duration (.int 1500) = .ok ⟨GoType.duration, .int 1500⟩ := by decide +kernel


-- a history: two struct types whose `Put` differ in arity, called in both orders; every answer is the
-- callee's own and nothing panics
example : (runPlain (nowCfg nullPrim) demoU [] (demoHist ++ [.call ⟨1, 7⟩ 1 [.str (.lit [99])]])).map
      (fun t => t.map (fun tr => tr.result))
    = [none, none, some (.ok (some (.str (.lit [98])))), some (.ok (some (.int 9223372036854775807))),
       some (.ok (some (.str (.lit [99]))))] := by decide +kernel

-- the hypotheses of `C17_history_independent` / `C17_registry_in_exact` are satisfiable
example : (regAfter [] demoHist).contains (Callee.mk 2 7).owner = true := by decide
example : denoteAll (demoU ⟨2, 7⟩).sig.params [.str (.lit [97]), .int 5, .float 0]
    = some [⟨⟨.string, 0⟩, .str (.lit [97])⟩, ⟨⟨.int64, 0⟩, .int 5⟩, ⟨⟨.float64, 0⟩, .flt 0⟩] := by decide +kernel

-- a sound memo (keyed by callee) on the same history answers like the plain code; the name-keyed one panics
example : (runMemo (nowCfg nullPrim) demoU KeyBy.callee.key [] [] demoHist).map (fun t => t.map (fun tr => tr.result.isPanic))
    = [none, none, some false, some false] := by decide +kernel
example : (runMemo (nowCfg nullPrim) demoU KeyBy.meth.key [] [] demoHist).map (fun t => t.map (fun tr => tr.result.isPanic))
    = [none, none, some false, some true] := by decide +kernel
example : memosSound [⟨"reflectMethodParams.Store(rm.name, …)", .meth, .perCallee⟩] = false := by decide
example : memosSound [⟨"ctorParams.Store(rc.instanceType, …)", .owner, .perOwner⟩] = true := by decide

-- three callers of a three-parameter callee with private lists, fully interleaved: each receives its own
example : (Model.ConvBuf.run id (fun c => [10 * c, 10 * c + 1, 10 * c + 2]) 3 [0, 1, 2, 2, 1, 0, 0, 1, 2, 2, 0, 1]).recv 1
    = some [some 10, some 11, some 12] := by decide +kernel
example : Model.ConvBuf.passed (fun c => [10 * c, 10 * c + 1, 10 * c + 2]) 3 1 = [some 10, some 11, some 12] := by decide
-- the facts of the seeded tree C17-shared-args-buffer fail the obligation
example : (["runtime/reflect_register.go (*ReflectFunction).Call: args[i] = … [args = rf.args]"].filter
    (fun w => !knownCallPathWrites.contains w)) ≠ [] := by decide

end C17
