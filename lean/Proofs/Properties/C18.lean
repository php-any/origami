import Proofs.Lemmas.LexShebang
import Proofs.Lemmas.LexVectors
import Model.LexCfg
import Spec.ErrLoc
import Generated.C18ErrLoc
import Proofs.Lemmas.Frag
import Generated.C18Frag
/-!
# C18 — token spans: in bounds, ordered and disjoint, line = number of newlines
before the span, token text = source text

`Model.Lex` mirrors `lexer/*.go`; the configuration
`genCfg` is regenerated from the source on every run (`Generated.C01Lexer`).
The theorems are generic in the configuration under the decidable
well-formedness predicates `WF`/`WF2`, which are discharged for `genCfg` here
(`gen_wf`, `gen_wf2`): a change of the token table that breaks them breaks the build.
C01 imports this file for these two.

Error-location clause (section `ErrLoc`): `Model.ErrLoc` — the location of an error while the throw
control unwinds through the constructs that stamp it (`checkThrowControlFrom`, `fillThrowFrom`);
the guard flag of every write to an existing error's location is regenerated from the source
(`Generated.C18.fromWrites`) and must be `true` (`gen_from_writes_guarded`).

Fragment-line clause (section `Frag`): `Model.Frag` — the line `fragmentLineCol` gives a position
inside an interpolated string, counted over runes, is the line of the byte-level law above.
-/
namespace C18
open Model.Lex Proofs.Lex

/-- the translator found every syntactic shape it expects -/
theorem gen_shape : Generated.C01.shapeChanged = [] := by decide

theorem gen_wf : WF genCfg :=
  have h : ∀ d ∈ genCfg.defs, d.1 ≠ [] ∧ (∀ b ∈ d.1, b < 256) ∧ (d.1 = [10] ∨ 10 ∉ d.1) := by decide +kernel
  ⟨by decide, fun d hd => (h d hd).1, fun d hd => (h d hd).2.1, fun d hd => (h d hd).2.2⟩

theorem gen_wf2 : WF2 genCfg := by
  refine ⟨by decide +kernel, by decide, by decide, by decide⟩

/-- **Raw spans.** For every byte string and both modes the main tokenizer
loop returns (it never indexes out of range) and every token's span is
non-empty and inside the source, spans are ordered and disjoint, and the
recorded line is the number of `\n` bytes before the span. -/
theorem C18_raw_spans {cfg : Cfg} (wf : WF cfg) (inp : Input) (mode : Mode) :
    ∃ ts, tokenizeRaw cfg inp mode = .ok ts ∧
      (∀ t ∈ ts, t.start < t.stop ∧ t.stop ≤ inp.size ∧ t.line = nlCount inp 0 t.start) ∧
      ts.Pairwise (fun a b => a.stop ≤ b.start) :=
  let ⟨ts, h, ok⟩ := tokenizeRaw_ok wf inp mode
  ⟨ts, h, fun t ht => ⟨(ok.toks t ht).nonempty, (ok.toks t ht).bound, (ok.toks t ht).line⟩, ok.ordered⟩

/-- **Token text = source text** for every raw token except UNKNOWN tokens
(whose text is the re-encoded offending byte): identifiers, keywords,
operators, numbers, strings, comments and HTML parts carry exactly
`input[start:end]`. -/
theorem C18_raw_literal {cfg : Cfg} (wf : WF cfg) (inp : Input) (mode : Mode) (ts : List Tok)
    (h : tokenizeRaw cfg inp mode = .ok ts) :
    ∀ t ∈ ts, t.lit = slice inp t.start t.stop ∨ t.ty = cfg.tUNKNOWN :=
  fun t ht => ((rawOK_of_eq wf h).toks t ht).lit_src

/-- **Final spans.** After the three passes of `Process` (comments dropped,
`$`+name and `\`+identifier merged, newline → `;`, identifier → variable) every
top-level token still has a non-empty span inside the source, spans are ordered
and disjoint, and the line is the number of newlines before the span — for every
byte string and both modes.

No hypothesis on the input: an HTML part of a template is not identifier-like
(`validIdent_not_html`), so pass 1 never merges one into a `\` chain (before the repair of
`isValidIdentifierToken` in /repo the HTML text `abc` of `<?php \ ?>abc<?php \x` was merged
into the identifier `\abc\x`, across the `?>`). -/
theorem C18_final_spans {cfg : Cfg} (wf : WF cfg) (wf2 : WF2 cfg) (inp : Input) (mode : Mode)
    (raw : List Tok) (h : tokenizeRaw cfg inp mode = .ok raw) :
    (∀ t ∈ process cfg raw, t.start < t.stop ∧ t.stop ≤ inp.size ∧ t.line = nlCount inp 0 t.start) ∧
    (process cfg raw).Pairwise (fun a b => a.stop ≤ b.start) :=
  have fin := process_ok wf2 inp raw (rawOK_of_eq wf h)
  ⟨fun t ht => ⟨(fin.toks t ht).nonempty, (fin.toks t ht).bound, (fin.toks t ht).line⟩, fin.ordered⟩

/-- **Tokenize-level statement, every input.** For the regenerated configuration, what
`lexer.Tokenize` / `TokenizeTemplate` answer — including the shebang dispatch, where the rest
of the file is tokenized and `ShiftTokens` moves the tokens back — obeys the span and line laws
relative to the whole source. -/
theorem C18_tokenize_spans (inp : Input) (mode : Mode) (ts : List Tok)
    (h : (tokenize genCfg inp mode).1 = .tokens ts) :
    (∀ t ∈ ts, t.start < t.stop ∧ t.stop ≤ inp.size ∧ t.line = nlCount inp 0 t.start) ∧
    ts.Pairwise (fun a b => a.stop ≤ b.start) := by
  rcases tokenize_spec gen_wf gen_wf2 inp mode with e | ⟨ts', e, fin⟩
  · rw [e] at h; cases h
  · rw [e] at h; cases h
    exact ⟨fun t ht => ⟨(fin.toks t ht).nonempty, (fin.toks t ht).bound, (fin.toks t ht).line⟩, fin.ordered⟩

/-- a shebang source: the token `x` of `#!a\nx` is reported at offset 4 on line 1 (before the
repair of `Tokenize` it was reported at offset 0 on line 0, relative to the text after the first line) -/
theorem C18_shebang_positions :
    (tokenize genCfg #[35, 33, 97, 10, 120] .script).2 = 0 ∧
    ((tokenize genCfg #[35, 33, 97, 10, 120] .script).1.toks.map (fun t => (t.start, t.line))) = [(4, 1)] := by
  decide +kernel

/-- `\ App` is merged into one identifier whose text `\App` is not the source text `\ App` -/
theorem C18_ns_merge_gap_witness :
    ((tokenize genCfg #[92, 32, 65, 112, 112] .script).1.toks.map (fun t => (t.start, t.stop, t.lit)))
      = [(0, 5, [92, 65, 112, 112])] :=
  let ⟨nsMerge, _, _, _⟩ := gen_vectors
  nsMerge

section ErrLoc
open Model.ErrLoc

/-- the translator could read the sources it scans for location writes -/
theorem gen_errloc_shape : Generated.C18.shapeChanged = [] := by decide

/-- **Obligation on the source.** Every assignment to the location of an existing error
(`<x>.Error.From = …` anywhere in the non-test Go source) is made under `if <x>.Error.From == nil`:
it fills a missing location, it never replaces one. -/
theorem gen_from_writes_guarded : ∀ w ∈ Generated.C18.fromWrites, w.guarded = true := by decide

/-- **Model = Spec**, every path whose stamps are all guarded and every start: the reported location is
the one the error was raised with, and an error raised without one gets the position of the innermost
enclosing construct that has one (and keeps it from there on). -/
theorem C18_error_location_reported (path : List Stamp) (hg : ∀ s ∈ path, s.guarded = true)
    (raised : Option Loc) :
    unwind path raised = Spec.ErrLoc.reported raised (path.map (·.own)) := by
  induction path generalizing raised with
  | nil => cases raised <;> simp [unwind, Spec.ErrLoc.reported]
  | cons s rest ih =>
    have hs : s.guarded = true := hg s (List.mem_cons_self ..)
    have hrest := fun t ht => hg t (List.mem_cons_of_mem _ ht)
    rw [unwind, ih hrest]
    -- a guarded stamp keeps a location that is set and fills one that is missing
    cases raised <;> cases ho : s.own <;> simp [stamp, hs, ho, Spec.ErrLoc.reported]

/-- **A location is never overwritten once set** — the theorem above for an error raised with a
location: whatever constructs the error passes on its way out (any number, any positions of their
own), if each of them writes only under the nil test, the error arrives with the location it was
raised with. -/
theorem C18_error_location_kept (path : List Stamp) (hg : ∀ s ∈ path, s.guarded = true) (l : Loc) :
    unwind path (some l) = some l :=
  C18_error_location_reported path hg (some l)

/-- **The nil test is necessary**: ONE construct on the path that writes without it (and has a
position of its own) decides the outcome — whatever location the error had, wherever on the path
the construct sits, the error arrives with that construct's position. This is the class of change
the nested planted-fault stream of the harness looks for on the real interpreter. -/
theorem C18_unguarded_write_clobbers (pre post : List Stamp) (hpost : ∀ s ∈ post, s.guarded = true)
    (f : Loc) (cur : Option Loc) :
    unwind (pre ++ ⟨false, some f⟩ :: post) cur = some f := by
  induction pre generalizing cur with
  | nil =>
    have : stamp ⟨false, some f⟩ cur = some f := by simp [stamp]
    simp only [List.nil_append, unwind, this]
    exact C18_error_location_kept post hpost f
  | cons s rest ih => simpa [unwind] using ih (stamp s cur)

/-- the invariant for the writers the source has: a path every step of which uses one of
the regenerated writers keeps the location -/
theorem C18_generated_writers_keep_location (path : List Stamp)
    (hw : ∀ s ∈ path, ∃ w ∈ Generated.C18.fromWrites, s.guarded = w.guarded) (l : Loc) :
    unwind path (some l) = some l :=
  C18_error_location_kept path (fun s hs => by
    obtain ⟨w, hwm, e⟩ := hw s hs
    rw [e]; exact gen_from_writes_guarded w hwm) l

/-- non-vacuity: a throw on line 9 inside an `if` (line 7) inside a `for` body statement (line 5)
keeps line 9 through two guarded stamps; without a location it gets line 7; and the same path
with the `for` stamp unguarded reports line 5 -/
example :
    unwind [⟨true, some ⟨1, 7, 2⟩⟩, ⟨true, some ⟨1, 5, 0⟩⟩] (some ⟨1, 9, 4⟩) = some ⟨1, 9, 4⟩ ∧
    unwind [⟨true, none⟩, ⟨true, some ⟨1, 7, 2⟩⟩, ⟨true, some ⟨1, 5, 0⟩⟩] none = some ⟨1, 7, 2⟩ ∧
    unwind [⟨true, some ⟨1, 7, 2⟩⟩, ⟨false, some ⟨1, 5, 0⟩⟩] (some ⟨1, 9, 4⟩) = some ⟨1, 5, 0⟩ ∧
    (∃ w ∈ Generated.C18.fromWrites, w.fn = "checkThrowControlFrom") := by decide

end ErrLoc

section Frag
open Model.Frag

/-- **Obligation on the source** (units): `fragmentLineCol` takes the RUNE slice, its body is the
loop that counts the `'\n'` runes among the first `k`, every call site in
`processStringInterpolation` passes `runes`, and `runes` is `[]rune(content)`. -/
theorem gen_frag_units :
    Generated.C18Frag.shapeChanged = [] ∧
    Generated.C18Frag.paramTypes = ["Token", "[]rune", "int", "int"] ∧
    Generated.C18Frag.countsNewlineRunes = true ∧
    Generated.C18Frag.callArgs ≠ [] ∧ (∀ a ∈ Generated.C18Frag.callArgs, a.1 = "runes") ∧
    Generated.C18Frag.runesDefs = ["[]rune(content)"] := by decide

/-- **Fragment line.** For every content (any runes, multi-byte or not, any number of line ends),
every rune index `k` and every line of the string token: the line `fragmentLineCol` computes from
the rune index is the line, by the byte-level law of this property (`line0` + number of `\n` bytes
before the position), of the byte at which the `k`-th rune starts in the source text
`string(runes)`. -/
theorem C18_fragment_line (runes : List Nat) (k line : Nat) :
    fragLine runes k line = Spec.Frag.lineAt (encode runes) (Spec.Frag.byteOffset runes k) line := by
  -- the first `byteOffset runes k` bytes of the text are the encoding of its first `k` runes
  have e : encode runes = encode (runes.take k) ++ encode (runes.drop k) := by
    rw [← Proofs.Frag.encode_append, List.take_append_drop]
  rw [Proofs.Frag.fragLine_eq, Spec.Frag.lineAt, Spec.Frag.byteOffset, e, List.take_left' rfl,
    Proofs.Frag.count_nl_encode]

/-- **The units matter** (negation witness, replayed on the real lexer by the harness): the same
index used as a byte offset into the content loses the line end after multi-byte text —
`中\n$` , fragment at rune 2: one line end precedes it, the byte-indexed count sees none. -/
theorem C18_fragment_line_byte_indexed_counterexample :
    ¬ ∀ (runes : List Nat) (k line : Nat),
      fragLineByteIndexed (encode runes) k line = Spec.Frag.lineAt (encode runes) (Spec.Frag.byteOffset runes k) line := by
  intro h
  have := h [0x4E2D, 10, 36] 2 0
  revert this
  decide

/-- non-vacuity: `标题\n{$o}` — the fragment at rune 3 starts at byte 7, on line 1 of a string that
starts on line 0 -/
example : fragLine [0x6807, 0x9898, 10, 123, 36, 111, 125] 3 0 = 1 ∧
    Spec.Frag.byteOffset [0x6807, 0x9898, 10, 123, 36, 111, 125] 3 = 7 := by decide

end Frag

/-- `$a=1;\n//c\r\n$b` : the hypotheses of the theorems above are met by a concrete, non-trivial input,
and the token after the CRLF-terminated comment is on line 2 -/
example : ∃ raw, tokenizeRaw genCfg #[36, 97, 61, 49, 59, 10, 47, 47, 99, 13, 10, 36, 98] .script = .ok raw ∧
    raw.length = 10 ∧ (raw.map (·.line)).getLast? = some 2 :=
  let ⟨_, crlfComment, _, _⟩ := gen_vectors
  ⟨_, crlfComment, rfl, rfl⟩

end C18
