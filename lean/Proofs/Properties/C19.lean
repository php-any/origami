import Proofs.Lemmas.Gen
import Proofs.Lemmas.GenFacts
import Generated.C19Generics
/-!
# C19 — a generic instantiation enforces its own type arguments, whatever came before

`Model.Gen.step` mirrors `ClassGeneric.Clone/GetProperty`,
`NewClassGenerated.resolveClass` and the typed property store as the code is
now (lookup returns a substituted *copy* of the declaration — fix
`C19-generic-property-copy`); `Model.Gen.stepShared` mirrors the code before
that fix (lookup overwrote the type on the declaration shared by every
instantiation).  `Spec.Gen` is the statement a user relies on: acceptance is a
function of how *this* object was created.

All theorems quantify over every list of generic class declarations without a
repeated type-parameter name (`WF`), every history of instantiations (with
type arguments, raw, through a constructor that stores its argument), typed
writes, reads and method calls with a parameter declared `T`, of any length.

A `new` can be executed through an AST node that is executed many times
(`instAt site …`: a factory function, a loop body, a method, a closure); the
node keeps what it resolved (`NewExpression.class`) and the model carries that
(`State.cache`, `resolveAt`).  `SiteWF h` says only that `h` is the run of a
program: a node has one text, i.e. two operations through the same node name
the same class and the same written type arguments.  The specification does not
know about nodes at all, so every theorem below covers objects created by the
first, second, … n-th execution of one node as well as by different nodes.
-/
namespace C19
open Model.Gen Spec.Gen Proofs.Gen

/-- **Refinement.** Every outcome of every history — which `new` succeeds,
crashes or is aborted by its constructor, which write is accepted or rejected —
is what the per-object specification prescribes. -/
theorem C19_refines (decls : List Class) (hwf : WF decls) (h : List Op) (hs : SiteWF h) :
    (Model.Gen.run decls h).2 = Spec.Gen.run decls h :=
  (run_sim hwf h hs).1

/-- **Instance-local.** After *any* history, whether object `i` accepts value `v`
in member `p` is decided by the class text and by the type arguments `i` itself
was created with — nothing else (`created` lists the creation records; it is
computed from each `new` alone). -/
theorem C19_instance_local (decls : List Class) (hwf : WF decls) (h : List Op) (hs : SiteWF h)
    (i p : Nat) (v : Val) :
    Model.Gen.writeOut (Model.Gen.run decls h).1 i p v =
      match (created decls h)[i]? with
      | none => Out.noInst
      | some r => if accepts decls r p v then Out.accepted else Out.rejected := by
  rw [writeOut_eq (run_sim hwf h hs).2]
  rfl

/-- The same for a method parameter declared with a type parameter: after any history,
`$x_i->take(v)` is decided by the creation record of object `i` alone. -/
theorem C19_call_instance_local (decls : List Class) (hwf : WF decls) (h : List Op) (hs : SiteWF h)
    (i name : Nat) (v : Val) :
    Model.Gen.callOut (Model.Gen.run decls h).1 i name v =
      Spec.Gen.outOf decls (created decls h) (.call i name v) :=
  callOut_eq (run_sim hwf h hs).2 i name v

/-- **Order / company / node irrelevant.** Two objects created with the same class and
the same type arguments — in two arbitrary, unrelated histories (or in one: `h₁ = h₂`), at
arbitrary positions, by different `new` nodes or by the first and the n-th execution of the
same node — accept exactly the same values in every member and in every `T` parameter. In
particular what was instantiated earlier, later, or how often does not matter. -/
theorem C19_order_irrelevant (decls : List Class) (hwf : WF decls) (h₁ h₂ : List Op)
    (hs₁ : SiteWF h₁) (hs₂ : SiteWF h₂) (i₁ i₂ : Nat)
    (r : Creation) (e₁ : (created decls h₁)[i₁]? = some r) (e₂ : (created decls h₂)[i₂]? = some r)
    (p name : Nat) (v : Val) :
    Model.Gen.writeOut (Model.Gen.run decls h₁).1 i₁ p v =
        Model.Gen.writeOut (Model.Gen.run decls h₂).1 i₂ p v ∧
      Model.Gen.callOut (Model.Gen.run decls h₁).1 i₁ name v =
        Model.Gen.callOut (Model.Gen.run decls h₂).1 i₂ name v := by
  rw [C19_instance_local decls hwf h₁ hs₁, C19_instance_local decls hwf h₂ hs₂,
    C19_call_instance_local decls hwf h₁ hs₁, C19_call_instance_local decls hwf h₂ hs₂]
  simp only [outOf, e₁, e₂, and_self]

/-- **Same node, executed again.** The objects made by two executions of one `new C<args>()`
node — anywhere in a history, whatever ran in between, however often the node ran before —
answer every write identically (the instance of `C19_order_irrelevant` the per-node cache of
`resolveClass` has to satisfy). -/
theorem C19_same_site_twins (decls : List Class) (hwf : WF decls) (h₁ h₂ h₃ : List Op) (site c : Nat)
    (args : List Ty) (hok : arityOk decls c args = true)
    (hs : SiteWF (h₁ ++ Op.instAt site c args :: h₂ ++ Op.instAt site c args :: h₃)) (p : Nat) (v : Val) :
    let h := h₁ ++ Op.instAt site c args :: h₂ ++ Op.instAt site c args :: h₃
    Model.Gen.writeOut (Model.Gen.run decls h).1 (created decls h₁).length p v =
      Model.Gen.writeOut (Model.Gen.run decls h).1
        ((created decls h₁).length + 1 + (created decls h₂).length) p v := by
  have ho : creates decls (.instAt site c args) = some ⟨c, some args⟩ := if_pos hok
  refine (C19_order_irrelevant decls hwf _ _ hs hs _ _ ⟨c, some args⟩ ?_ ?_ p 0 v).1
  · rw [List.append_assoc]
    exact created_at ho h₁ _
  · have := created_at ho (h₁ ++ Op.instAt site c args :: h₂) h₃
    rwa [created_mid ho h₁ h₂, List.length_append, List.length_cons, Nat.add_comm _ 1, ← Nat.add_assoc] at this

/-- **"Instantiating `Box<int>` never changes what `Box<string>` accepts."**
The object made by `new C<args>()` in the middle of an arbitrary history
(`pre` before it, `post` after it) answers every write exactly as it does in
the history that consists of that `new` alone. -/
theorem C19_alone (decls : List Class) (hwf : WF decls) (pre post : List Op) (o : Op) (c : Nat)
    (args : List Ty) (ho : creates decls o = some ⟨c, some args⟩) (hs : SiteWF (pre ++ o :: post))
    (p : Nat) (v : Val) :
    Model.Gen.writeOut (Model.Gen.run decls (pre ++ o :: post)).1
        (created decls pre).length p v =
      Model.Gen.writeOut (Model.Gen.run decls [Op.inst c args]).1 0 p v := by
  refine (C19_order_irrelevant decls hwf _ _ hs (List.pairwise_singleton ..) _ _ ⟨c, some args⟩
    (created_at ho pre post) ?_ p 0 v).1
  exact created_at (o := .inst c args) (if_pos (creates_arity ho)) [] []

/-- **Own argument, and only that.** For a member declared with the k-th type
parameter, an object created with arguments `args` accepts `v` iff `args[k]`
accepts `v` — after any history. -/
theorem C19_accepts_exactly_own (decls : List Class) (hwf : WF decls) (h : List Op) (hs : SiteWF h)
    (i p : Nat) (v : Val)
    (c : Nat) (args : List Ty) (cl : Class) (name k : Nat) (t : Ty)
    (hi : (created decls h)[i]? = some ⟨c, some args⟩) (hc : decls[c]? = some cl)
    (hp : cl.props[p]? = some (.generic name)) (hmem : name ∈ cl.params)
    (hk : cl.params.idxOf name = k) (ht : args[k]? = some t) :
    Model.Gen.writeOut (Model.Gen.run decls h).1 i p v = Out.accepted ↔ t.accepts v = true := by
  rw [C19_instance_local decls hwf h hs, hi]
  simp only [accepts, hc, hp, argOf, hmem, if_true, hk, ht]
  cases t.accepts v <;> simp

/-- **The shared declarations are never written.** -/
theorem C19_decls_never_mutated (decls : List Class) (hwf : WF decls) (h : List Op) (hs : SiteWF h) :
    (Model.Gen.run decls h).1.classes = decls :=
  (run_sim hwf h hs).2.classes

/-! ### The code before the fix: negation witness

`Box<T> { T v }`, two instantiations, each followed by a write: `new Box<int>; ->v = 1; new Box<string>; ->v = "s"`. -/

def box : Class := ⟨[0], [.generic 0]⟩
def witness : List Op :=
  [.inst 0 [.int], .write 0 0 .int, .inst 0 [.string], .write 1 0 .string]

/-- On the pre-fix model the first lookup wins: the `Box<string>` object of `witness` rejects a string. -/
theorem C19_pinned_counterexample :
    ¬ (∀ (decls : List Class) (h : List Op), WF decls → SiteWF h →
        (Model.Gen.runShared decls h).2 = Spec.Gen.run decls h) := by
  intro hall
  have := hall [box] witness (by decide) (by decide)
  revert this
  decide +kernel

/-- The outcomes of `witness` under both models, as the harness replays them. -/
theorem C19_witness_outcomes :
    (Model.Gen.runShared [box] witness).2 = [.created 0, .accepted, .created 1, .rejected] ∧
    (Model.Gen.run [box] witness).2 = [.created 0, .accepted, .created 1, .accepted] := by
  decide +kernel

/-! ### The node cache is really in the model

`SiteWF` cannot be dropped: a "history" that uses one node with two texts is not the run of any
program, and on it the model — which, like `resolveClass`, returns what the node stored on its
first execution — departs from the specification.  (So an implementation whose node stores
anything else than what it returns, e.g. the registered un-instantiated class, breaks
`C19_refines` / `C19_same_site_twins` on a well-formed history: the second object of the node
would answer as a raw object.) -/
theorem C19_node_cache_is_modelled :
    ¬ (∀ (decls : List Class) (h : List Op), WF decls →
        (Model.Gen.run decls h).2 = Spec.Gen.run decls h) := by
  intro hall
  have := hall [box] [.instAt 0 0 [.int], .instAt 0 0 [.string], .write 1 0 .string] (by decide)
  revert this
  decide +kernel

def pair : Class := ⟨[0, 1], [.generic 0, .generic 1, .conc .int, .untyped]⟩
def decls₀ : List Class := [box, pair]

example : WF decls₀ := by decide
/- a history with every un-sited kind of operation but `call` (those: `histS`), an arity crash and a constructor abort -/
def hist₀ : List Op :=
  [.inst 0 [.int], .instRaw 0, .inst 1 [.string, .cls 0], .inst 1 [.int], .instCtor 0 [.array] 0 .int,
   .instCtor 0 [.array] 0 .array, .write 0 0 .string, .write 2 1 (.obj 0), .write 2 1 (.obj 1), .read 1 0,
   .write 1 0 .null, .write 9 0 .int]
example : (Model.Gen.run decls₀ hist₀).2 =
    [.created 0, .created 1, .created 2, .crash, .rejected, .created 3, .rejected, .accepted, .rejected,
     .readOk, .accepted, .noInst] := by decide +kernel
example : created decls₀ hist₀ = [⟨0, some [.int]⟩, ⟨0, none⟩, ⟨1, some [.string, .cls 0]⟩, ⟨0, some [.array]⟩] := by
  decide +kernel
/- `C19_order_irrelevant` with two different histories, same creation record at different indexes -/
example : (created decls₀ hist₀)[3]? = some ⟨0, some [.array]⟩ ∧
    (created decls₀ [.inst 0 [.array]])[0]? = some ⟨0, some [.array]⟩ := by decide +kernel
/- `C19_alone` / `C19_accepts_exactly_own` hypotheses are satisfiable -/
example : arityOk decls₀ 1 [.string, .cls 0] = true := by decide
example : (created decls₀ hist₀)[2]? = some ⟨1, some [.string, .cls 0]⟩ ∧ decls₀[1]? = some pair ∧
    pair.props[1]? = some (.generic 1) ∧ 1 ∈ pair.params ∧ pair.params.idxOf 1 = 1 ∧
    [Ty.string, .cls 0][1]? = some (.cls 0) := by decide

/- nodes executed repeatedly: node 7 = `new Box<int>()` three times (a factory / loop body), node 8 =
`new Box<string>()`, node 9 = `new Box()`, node 5 = `new Box<array>($x)` whose constructor stores `$x`,
interleaved with un-sited instantiations, writes and `T`-parameter calls -/
def histS : List Op :=
  [.instAt 7 0 [.int], .write 0 0 .string, .instAt 8 0 [.string], .instAt 7 0 [.int], .write 2 0 .string,
   .write 1 0 .string, .instRawAt 9 0, .inst 0 [.array], .instAt 7 0 [.int], .write 4 0 .array,
   .write 5 0 .int, .write 5 0 .string, .instCtorAt 5 0 [.array] 0 .int, .instCtorAt 5 0 [.array] 0 .array,
   .instRawAt 9 0, .write 7 0 .int, .call 5 0 .string, .call 5 0 .int, .call 1 0 .null, .call 3 0 .int,
   .call 5 1 .int]
example : SiteWF histS := by decide +kernel
example : (Model.Gen.run decls₀ histS).2 =
    [.created 0, .rejected, .created 1, .created 2, .rejected, .accepted, .created 3, .created 4, .created 5,
     .accepted, .accepted, .rejected, .rejected, .created 6, .created 7, .accepted, .rejected, .accepted,
     .accepted, .accepted, .noMember] := by decide +kernel
example : (Model.Gen.run decls₀ histS).2 = Spec.Gen.run decls₀ histS := by decide +kernel
/- the early return of `resolveClass` is taken: the nodes hold something after the run -/
example : (((Model.Gen.run decls₀ histS).1.cache 7).isSome, ((Model.Gen.run decls₀ histS).1.cache 5).isSome,
    ((Model.Gen.run decls₀ histS).1.cache 6).isSome) = (true, true, false) := by decide +kernel
/- `C19_same_site_twins`: h₁ = [], h₂ = 2 operations creating one object, objects 0 and 2 -/
example : arityOk decls₀ 0 [.int] = true ∧
    histS = [] ++ Op.instAt 7 0 [.int] :: [.write 0 0 .string, .instAt 8 0 [.string]] ++
      Op.instAt 7 0 [.int] :: histS.drop 4 := by decide +kernel
/- `C19_alone` with `o` the third execution of node 7 -/
example : creates decls₀ (Op.instAt 7 0 [.int]) = some ⟨0, some [.int]⟩ := by decide

/-! ## Regenerated facts (tie)

`extract/c19` regenerates `Generated/C19Generics.lean` (namespace `Generated.C19`) from the source on every run: what `ClassGeneric.Clone` does with
each field and what it returns, every write of a `ClassGeneric` method, every read of the type-argument map,
every write to a field of an AST node of the instantiation / typed-store / call path and the discipline of
the functions that keep such state, every type check of that path, the way a written type argument reaches
`data.NewBaseType`, the switch of `NewBaseType`, the name comparisons of `data.Class.Is`, the shape of the
argument-binding loops of the generic call path.

For each group: a generic theorem (for EVERY table: a well-formed table selects the piece of `Model.Gen` the
property theorems above are about), the obligation on the regenerated table (evaluation), a negation witness
(a realistic ill-formed table on which the guarantee fails). -/
section Tie
open Model.GenFacts Proofs.GenFacts

/-- the translator found every syntactic shape it relies on -/
theorem C19_gen_shape : Generated.C19.shapeChanged = [] := by decide +kernel

/-- For every field table and every list of `Clone` returns that satisfy `CloneWF`: after any
sequence of instantiations and lookups, whatever tables the class objects memoise in, every lookup is
`Model.Gen.getProperty` with the class object's own type-argument map (what `Model.Gen.writeOut` uses), and
every request `Clone(args)` gets an instantiation with exactly `args`, whatever key a memo might use. -/
theorem C19_clone_discipline_generic (fs : List Field) (rets : List Ret) (hwf : CloneWF fs rets = true)
    (c : Class) (ops : List TOp) {K : Type} [DecidableEq K] (key : List Ty → K) (reqs : List (List Ty)) :
    trunOf fs c ops = tspec c [GMap.empty] ops ∧ cloneRunOf rets key reqs = reqs := by
  unfold CloneWF at hwf
  simp only [Bool.and_eq_true, Bool.not_eq_true'] at hwf
  -- of the four conjuncts only `hs : sharedAux fs = false` and `hm : cloneMemo rets = false` are needed
  obtain ⟨⟨⟨_, hs⟩, _⟩, hm⟩ := hwf
  exact ⟨by rw [trunOf, hs]; exact trun_sim _ ops (tinv_init c), by simp [cloneRunOf, hm]⟩

/-- a memoised `Clone` is harmless when its key separates argument lists (a key that does not:
`C19_clone_sorted_key_witness`) -/
theorem C19_clone_memo_generic (rets : List Ret) {K : Type} [DecidableEq K] (key : List Ty → K)
    (hinj : ∀ a b, key a = key b → a = b) (reqs : List (List Ty)) : cloneRunOf rets key reqs = reqs := by
  unfold cloneRunOf
  split
  · exact cloneRun_of_injective_key key hinj reqs [] (by simp)
  · rfl

/-- `Clone` as it is in the source: a fresh object, the map from the parameter, nothing
written after construction is taken over from the receiver, the map is written nowhere else. -/
theorem C19_clone_obligation :
    CloneWF Generated.C19.classFields Generated.C19.cloneReturns = true ∧ Generated.C19.tyargWrites = [] := by
  decide +kernel

/-- the table of seed `C19-clone-shallow-copy-typed-table`: a lazily filled `typed` table, `inst := *c` -/
def shallowFields : List Field :=
  [⟨"ClassStatement", "*ClassStatement", .decl, .receiver, false⟩, ⟨"Generic", "[]data.Types", .params, .receiver, false⟩,
   ⟨"GenericMap", "map[string]data.Types", .tyargs, .param, false⟩,
   ⟨"typed", "map[string]data.Property", .aux, .receiver, true⟩]

/-- With that table a raw `new Box()` touches member 0, then `Box<int>` is resolved:
its lookup answers "unchecked" where its own map says `int`. -/
theorem C19_clone_shallow_copy_witness :
    CloneWF shallowFields [.fresh] = false ∧
    trunOf shallowFields box [.lookup 0 0, .clone (GMap.empty.set 0 .int), .lookup 1 0] =
      [some (some none), none, some (some none)] ∧
    tspec box [GMap.empty] [.lookup 0 0, .clone (GMap.empty.set 0 .int), .lookup 1 0] =
      [some (some none), none, some (some (some .int))] := by decide +kernel

/-- Seed `C19-clone-memo-sorted-key`: a memo keyed by the sorted argument names hands
`Pair<string,int>` the instantiation made for `Pair<int,string>`. -/
theorem C19_clone_sorted_key_witness :
    CloneWF Generated.C19.classFields [.stored, .fresh] = false ∧
    cloneRunOf [.stored, .fresh] sortedKey [[.int, .string], [.string, .int]] = [[.int, .string], [.int, .string]] := by
  decide +kernel

/-- Every read of the type-argument map sees the map of the class object the
operation is about. -/
theorem C19_lookups_generic (l : Lookup) (h : l.ok = true) (own kept : GMap) : l.map own kept = own := by
  unfold Lookup.ok at h
  simp only [Bool.and_eq_true] at h
  simp [Lookup.map, h.1]

theorem C19_lookups_obligation :
    Generated.C19.lookups.all Lookup.ok = true ∧ Generated.C19.lookups.isEmpty = false := by decide

/-- A node whose text denotes `spec` (≠ the registered class `raw`) hands out `spec` on every
one of its executions iff its resolver is well-formed. -/
theorem C19_node_cache_generic {α : Type} (r : Resolver) (raw spec : α) (hne : raw ≠ spec) :
    (∀ n, ∀ x ∈ nodeRuns r raw spec n none, x = spec) ↔ r.ok = true := by
  constructor
  · intro h
    cases hr : r.ok with
    | true => rfl
    | false =>
      have := h 2 raw (by rw [nodeRuns_bad r hr]; simp)
      exact absurd this hne
  · intro hr n
    exact nodeRuns_ok r hr raw spec n none (fun _ => Or.inl rfl)

/-- Well-formed node facts: the only node state is the one `Model.Gen.State.cache` models, and
every function that keeps it hands out the node's own class on every execution. -/
theorem C19_nodes_generic (ws : List NodeWrite) (rs : List Resolver) (pk : List String)
    (h : NodesWF ws rs pk = true) :
    (∀ w ∈ ws, (w.node, w.field) ∈ modelledNodeState) ∧
    (∀ r ∈ rs, ∀ (raw spec : Inst) (n : Nat), ∀ x ∈ nodeRuns r raw spec n none, x = spec) := by
  simp only [NodesWF, Bool.and_eq_true, List.all_eq_true, List.contains_iff_mem] at h
  obtain ⟨⟨hw, hr⟩, _⟩ := h
  exact ⟨fun w hw' => (hw w hw').1, fun r hr' raw spec n =>
    nodeRuns_ok r (hr r hr').2 raw spec n none (fun _ => Or.inl rfl)⟩

/-- the discipline "read back, store what is returned" selects `Model.Gen.resolveAt` literally -/
theorem C19_resolver_is_model (r : Resolver) (h1 : r.cacheRead = true) (h2 : r.stored = .returned) :
    resolveAtR r = resolveAt := by
  funext s site c args
  unfold resolveAtR resolveAt
  simp only [h1, h2, if_true]
  cases s.cache site with
  | some o => rfl
  | none => cases build s.classes c args <;> rfl

theorem C19_nodes_obligation :
    NodesWF Generated.C19.nodeWrites Generated.C19.resolvers Generated.C19.pkgStateWrites = true := by decide +kernel

/-- the resolver of seed `C19-generic-new-cache-raw-class`: the node keeps what a callee stored -/
def rawResolver : Resolver := ⟨"NewExpression", "class", "NewClassGenerated.resolveClass", true, .other, true⟩

/-- Under that resolver the second object of one `new Box<int>()` node accepts a
string; the specification (and the first object) reject it. -/
theorem C19_raw_class_cached_witness :
    rawResolver.ok = false ∧
    (let s1 := (instAtR rawResolver (init [box]) 1 0 [.int]).1
     let s2 := (instAtR rawResolver s1 1 0 [.int]).1
     (Model.Gen.writeOut s2 0 0 .string, Model.Gen.writeOut s2 1 0 .string)) = (Out.rejected, Out.accepted) ∧
    Spec.Gen.run [box] [.instAt 1 0 [.int], .instAt 1 0 [.int], .write 0 0 .string, .write 1 0 .string] =
      [.created 0, .created 1, .rejected, .rejected] := by decide +kernel

/-- A well-formed site rejects exactly when the effective type under the receiver object's own
instantiation refuses the value (`Model.Gen.writeOut`; for a parameter `null` passes: `callOut`), whatever
the executing node may have kept. -/
theorem C19_sites_generic (s : Site) (hok : s.ok = true) (own kept : Option Ty) (extra : Bool) (v : Val) :
    s.rejected own kept extra v =
      match s.kind with
      | .prop => !(check own v)
      | .param => (v != .null && !(check own v)) := by
  simp only [Site.ok, Bool.and_eq_true, List.contains_iff_mem] at hok
  -- `hrej : s.rejects`, `hsrc`: the type comes from the receiver object, `hnot : .notIs ∈ s.conj`,
  -- `hk`: the clause of `s.kind`; `.typeNotNil ∈ s.conj` is not needed (`hty` below)
  obtain ⟨⟨⟨⟨hrej, hsrc⟩, hnot⟩, _⟩, hk⟩ := hok
  simp only [Site.rejected, hrej, hsrc, if_true, Bool.true_and]
  -- a type that refuses something is not nil, so `typeNotNil` follows from `notIs`
  have hty : (!(check own v)) = true → Conj.holds own v extra .typeNotNil = true := by
    cases own <;> simp [Conj.holds, check]
  -- the site has `notIs` (a `param` site also `notNull`), and every conjunct it has is one of its kind's
  rw [Bool.eq_iff_iff, List.all_eq_true]
  cases hkind : s.kind with
  | prop =>
    rw [hkind] at hk
    simp only [List.all_eq_true, Bool.or_eq_true, beq_iff_eq] at hk
    refine ⟨fun h => h _ hnot, fun h c hc => ?_⟩
    rcases hk c hc with rfl | rfl
    · exact hty h
    · exact h
  | param =>
    rw [hkind] at hk
    simp only [Bool.and_eq_true, List.all_eq_true, Bool.or_eq_true, beq_iff_eq, List.contains_iff_mem] at hk ⊢
    refine ⟨fun h => ⟨h _ hk.1, h _ hnot⟩, fun h c hc => ?_⟩
    rcases hk.2 c hc with (rfl | rfl) | rfl
    · exact hty h.2
    · exact h.2
    · exact h.1

theorem C19_sites_obligation :
    Generated.C19.objectLookup.ok = true ∧ Generated.C19.sites.all Site.ok = true ∧
    Generated.C19.sites.any (·.kind == .prop) = true ∧ Generated.C19.sites.any (·.kind == .param) = true := by
  decide +kernel

/-- Seed `C19-property-write-site-cache`: a site that takes the declaration from the
node answers by what the node kept — `Box<string>` member ← int passes when the site last saw `Box<int>`. -/
theorem C19_site_cache_witness :
    let s : Site := ⟨"call_object_property.go", "CallObjectProperty.SetValue", .prop, .nodeState, [.typeNotNil, .notIs], true⟩
    s.ok = false ∧ s.rejected (some .string) (some .int) false .int = false ∧ check (some .string) .int = false := by
  decide

/-- A binding loop that tests the result of every iteration refuses the call exactly when SOME
argument — at whatever position, whatever follows it — is refused by its own `param` site (`C19_sites_generic`:
non-null and not accepted by the receiver object's own type argument); and when the call is not refused every
parameter reached is bound.  So the body of a constructor / method of a generic instantiation only ever runs with
all its `T`-typed parameters holding values of the instantiation's own type arguments. -/
theorem C19_bind_loops_generic (l : BindLoop) (hok : l.ok = true) (args : List Arg) :
    ((bindRun l.shape args).1 = true ↔ ∃ a ∈ args, argRefused a = true) ∧
    ((bindRun l.shape args).1 = false → (bindRun l.shape args).2 = args.map (fun _ => true)) := by
  have hs : l.shape = .eachChecked := by
    unfold BindLoop.ok at hok
    exact eq_of_beq hok
  rw [hs]
  refine ⟨?_, bindEach_bound args⟩
  show (bindEach args).1 = true ↔ _
  rw [bindEach_refused, List.any_eq_true]

/-- One position of a call is one `param` site: a well-formed site (`C19_sites_obligation`) refuses the
value at that position exactly when `argRefused` says so for the parameter's effective type under the receiver's own
instantiation, whatever the executing node kept. -/
theorem C19_bind_position_is_site (s : Site) (hok : s.ok = true) (hk : s.kind = .param)
    (own kept : Option Ty) (extra : Bool) (v : Val) :
    s.rejected own kept extra v = argRefused (own, v) := by
  rw [C19_sites_generic s hok, hk]
  rfl

/-- The loop that keeps the results in one variable tested after the loop answers by the LAST
argument alone (an empty call is accepted). -/
theorem C19_bind_loop_last_only (args : List Arg) :
    (bindRun .lastOnly args).1 = (match args.getLast? with | none => false | some a => argRefused a) :=
  bindLastGo_eq false args

/-- Of the shapes the translator distinguishes, testing every iteration is the only one
under which a call is refused iff some argument is. -/
theorem C19_bind_loop_shape_iff (sh : LoopShape) :
    (∀ args, (bindRun sh args).1 = args.any argRefused) ↔ sh = .eachChecked := by
  constructor
  · intro h
    have := h forgotten
    cases sh
    · rfl
    all_goals (revert this; decide)
  · rintro rfl args
    exact bindEach_refused args

/-- Obligation on the regenerated table: every binding loop of the generic path (the constructor of
`new C<…>(…)` in `new.go`, the method call in `call_object_method.go`) tests each iteration's result. -/
theorem C19_bind_loops_obligation : BindLoopsWF Generated.C19.bindLoops = true := by decide +kernel

/-- Seed `C19-generic-ctor-bind-last-wins`: `new Pair<int,string>("x", "s")` through the
single-variable loop is accepted and the body runs with the refused parameter unbound; the loop of the unchanged
code refuses it before anything else is bound. -/
theorem C19_ctor_bind_last_wins_witness :
    bindRun .lastOnly [(some .int, .string), (some .string, .string)] = (false, [false, true]) ∧
    bindRun .eachChecked [(some .int, .string), (some .string, .string)] = (true, []) ∧
    bindRun .lastOnly [(some .int, .int), (some .string, .int)] = (true, [true, false]) := by decide

/-- Names compared through `q` (`q = id`: `==`; `q = lower-case`: `EqualFold`): normalising the
written argument with `f` leaves acceptance as written iff `f` keeps every name in its comparison class. -/
theorem C19_type_argument_commutes_iff {N Q : Type} (q : N → Q) (f : N → N) :
    (∀ a d, q (f a) = q d ↔ q a = q d) ↔ ∀ a, q (f a) = q a :=
  ⟨fun h a => (h a a).2 rfl, fun h a d => by rw [h a]⟩

/-- Argument normalised with `f`, class name of the value with `g`: acceptance is equality of
the written names iff `f` and `g` agree and are injective. -/
theorem C19_type_argument_injective_iff {N : Type} (f g : N → N) :
    (∀ a d, f a = g d ↔ a = d) ↔ ((∀ a, f a = g a) ∧ ∀ x y, g x = g y → x = y) := by
  constructor
  · intro h
    have hfg : ∀ a, f a = g a := fun a => (h a a).2 rfl
    exact ⟨hfg, fun x y e => (h x y).1 (by rw [hfg, e])⟩
  · intro ⟨hfg, hinj⟩ a d
    rw [hfg]
    exact ⟨hinj a d, fun e => by rw [e]⟩

/-- Well-formed name facts: whatever the wrappers mean, the specialised type for a written class
name accepts exactly the objects whose class name is that name (`Ty.accepts (.cls n) (.obj m) = (n == m)`),
and the loop of `resolveClass` is `Model.Gen.buildMap`. -/
theorem C19_names_generic (arg parse : List NameStep) (cmps : List NameCmp) (loop : BuildLoop) (dflt : Bool)
    (h : NamesWF arg parse cmps loop dflt = true) {N : Type} [DecidableEq N] (sem : NameStep → N → N) (a d : N)
    (args : List Ty) (ps : List Nat) :
    acceptsName (fun n => n) (applyChain sem (parse ++ arg)) a d = (a == d) ∧
    buildMapIx (fun k => k) args ps 0 GMap.empty = buildMap ps args GMap.empty := by
  simp only [NamesWF, Bool.and_eq_true, List.isEmpty_iff] at h
  -- `ha : arg = []`, `hp : parse = []`. The conjuncts on `cmps`, `loop`, `dflt` are not used: they are why the
  -- statement has the identity for the comparison's `q` and for the index map of `buildMapIx`
  obtain ⟨⟨⟨⟨⟨⟨⟨⟨⟨ha, hp⟩, _⟩, _⟩, _⟩, _⟩, _⟩, _⟩, _⟩, _⟩ := h
  subst ha; subst hp
  exact ⟨rfl, by simpa using buildMapIx_id args ps 0 GMap.empty⟩

theorem C19_names_obligation :
    NamesWF Generated.C19.argChain Generated.C19.parseChain Generated.C19.nameCmps Generated.C19.buildLoop
      Generated.C19.baseDefaultIsClassOfArg = true := by decide +kernel

/-- `data.NewBaseType` maps the scalar names of the model to the types `Ty.accepts` mirrors. -/
theorem C19_base_types_obligation :
    Generated.C19.baseTypes.lookup "int" = some "Int{}" ∧ Generated.C19.baseTypes.lookup "string" = some "String{}" ∧
    Generated.C19.baseTypes.lookup "array" = some "Arrays{}" := by decide +kernel

/-- Seed `C19-type-argument-lowercased`: `strings.ToLower` on the argument while
`Class.Is` compares with `==` — `Box<Item>` refuses an `Item`; the same wrapper would be consistent with a
case-folding comparison. -/
theorem C19_lowercased_argument_witness :
    NamesWF [.lower] [] Generated.C19.nameCmps Generated.C19.buildLoop true = false ∧
    acceptsName (fun n : Name => n) (applyChain charSem [.lower]) ['I', 't', 'e', 'm'] ['I', 't', 'e', 'm'] = false ∧
    acceptsName (fun n : Name => n) (applyChain charSem []) ['I', 't', 'e', 'm'] ['I', 't', 'e', 'm'] = true ∧
    acceptsName lowerName (applyChain charSem [.lower]) ['I', 't', 'e', 'm'] ['I', 't', 'e', 'm'] = true := by
  decide +kernel

/-- … in the form of `C19_type_argument_commutes_iff`: lower-casing does not commute with `==`. -/
theorem C19_lowercasing_breaks_identity : ¬ ∀ a d : Name, (lowerName a = d ↔ a = d) := by
  intro h
  have := (C19_type_argument_commutes_iff (fun n : Name => n) lowerName).1 h ['I']
  revert this
  decide

/-- Arguments read in reverse (`n.T[len-1-i]`) give `Pair<int,string>` the map of
`Pair<string,int>`. -/
theorem C19_reversed_arguments_witness :
    ((buildMapIx (fun k => 1 - k) [.int, .string] [0, 1] 0 GMap.empty).map (fun m => (m.get 0, m.get 1)),
     (buildMap [0, 1] [.int, .string] GMap.empty).map (fun m => (m.get 0, m.get 1))) =
      (some (some .string, some .int), some (some .int, some .string)) := by decide

example : trunOf Generated.C19.classFields box [.lookup 0 0, .clone (GMap.empty.set 0 .int), .lookup 1 0] =
    [some (some none), none, some (some (some .int))] := by decide +kernel
example : cloneRunOf Generated.C19.cloneReturns sortedKey [[.int, .string], [.string, .int]] =
    [[.int, .string], [.string, .int]] := by decide
example : Generated.C19.resolvers.all Resolver.ok = true := by decide
example : nodeRuns rawResolver (0 : Nat) 1 3 none = [1, 0, 0] := by decide
example : Generated.C19.sites.isEmpty = false ∧ Generated.C19.nameCmps.isEmpty = false := by decide
example : Generated.C19.bindLoops.isEmpty = false ∧
    Generated.C19.bindLoops.all (fun l => (bindRun l.shape forgotten).1) = true := by decide

end Tie

end C19
