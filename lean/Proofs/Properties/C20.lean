import Proofs.Lemmas.OMap
import Proofs.Lemmas.Pattern
import Proofs.Lemmas.Run
import Proofs.Lemmas.SortTie
import Proofs.Lemmas.Reduce
import Proofs.Lemmas.Stack
import Proofs.Lemmas.Shared
import Proofs.Lemmas.SitesObl
import Generated.C20Stacks
/-!
# C20 — sequential programs are deterministic and leave nothing behind for the next VM

* `Model.OMap` — `data.OrderedMap` as coded (slice + two Go maps, with its bounds guards);
  `Spec.OMap` — the insertion-ordered association list a script relies on.
* Order-independence patterns — generic theorems over *any permutation* of the entries of a Go
  map (the adversary is the runtime's map iterator), and the negative ones; `Model.SortKeys` — a
  stable sort over a slice collected in map order; `Model.Reduce` — the first-of-ties loop of `max` / `min`.
* `Model.Run` — a run as an interaction tree over the process-wide cells; reset-before-read.
* `Model.Stack` — the length of a process-wide slice with a sentinel under guarded pushes and pops.
* `Model.Shared` — the error object a raise hands out (position filled once, frames appended) under
  per-raise and process-wide allocation.
* `Generated.C20MapRanges` / `C20Sorts` / `C20PkgState` / `C20Resets` / `C20Stacks` / `C20Shared` —
  regenerated from the source on every run; `C20Sites` — the hand-written (trusted) classification.
  The obligations on them are finite facts proved by evaluation: those on the site tables together in
  `Proofs/Lemmas/SitesObl.lean`, the entry path by `rfl`, the stacks here.

Partial: which pattern a loop is an instance of, and which discipline a cell follows, is decided
by hand (`Proofs/C20Sites.lean`). The repetition / history search of the harness judges the real
interpreter independently of all of this.
-/
namespace C20

section Store
open Model.OMap Proofs.OMap

/-- **Insertion order.** For every history of `Set` / `Delete` calls — any length, any keys, any
values — what `Range` hands to its callback, in call order, is exactly the insertion-ordered
association list of the live keys: a key assigned while live keeps its place and gets the new
value, a new key goes to the end, a deleted key disappears and the others keep their relative
order. -/
theorem C20_omap_insertion_order {κ ν : Type} [DecidableEq κ] (ops : List (Op κ ν)) :
    range (run ops) = Spec.OMap.run (ops.map toSpec) :=
  (run_refines ops).range_eq

/-- **Representation invariant.** After every history the two Go maps encode one duplicate-free
key list as long as the slice: `nameMap i = ks[i]?`, `indexMap k = some i ↔ ks[i]? = some k`. -/
theorem C20_omap_invariant {κ ν : Type} [DecidableEq κ] (ops : List (Op κ ν)) :
    ∃ ks : List κ, Rep (run ops) ks :=
  ⟨_, (run_refines ops).rep⟩

/-- **The bounds guards are dead code.** In every reachable state an index stored in `indexMap`
is inside the slice (`idx >= 0 && idx < len(om.data)` never fails) and every position of the slice
has a name (`key, exists := om.nameMap[i]` never misses): no entry is ever skipped silently. -/
theorem C20_omap_guards_dead {κ ν : Type} [DecidableEq κ] (ops : List (Op κ ν)) :
    (∀ k idx, (run ops).indexMap k = some idx → idx < (run ops).data.length) ∧
    (∀ i, i < (run ops).data.length → ((run ops).nameMap i).isSome) := by
  have h := (run_refines ops).rep
  refine ⟨fun k idx hi => h.index_lt hi, fun i hi => ?_⟩
  rw [h.name i, List.getElem?_eq_getElem (by rw [h.len]; exact hi)]
  rfl

/-- **Every observation** of the store is the observation of the association list: `Get`,
`GetByIndex` (any Go `int`, negative included), `Len`, and `Range` with a callback that stops
(everything up to and including the first pair at which it returns false). -/
theorem C20_omap_observations {κ ν : Type} [DecidableEq κ] (ops : List (Op κ ν)) :
    let s := Spec.OMap.run (ops.map toSpec)
    (∀ k, get (run ops) k = Spec.OMap.get s k) ∧
    (∀ i : Int, getByIndex (run ops) i = Spec.OMap.getByIndex s i) ∧
    len (run ops) = Spec.OMap.len s ∧
    (∀ stop, rangeUntil (run ops) stop = visited stop s) :=
  have h := run_refines ops
  ⟨h.get_eq, h.getByIndex_eq, h.len_eq, fun stop => congrArg (visited stop) h.range_eq⟩

/-- **Keys are unique** in the enumeration. -/
theorem C20_order_keys_nodup {κ ν : Type} [DecidableEq κ] (ops : List (Spec.OMap.Op κ ν)) :
    (Spec.OMap.keys (Spec.OMap.run ops)).Nodup := by
  unfold Spec.OMap.run
  refine List.foldlRecOn (motive := fun s => (Spec.OMap.keys s).Nodup) ops _ List.nodup_nil fun s h op _ => ?_
  cases op with
  | set k v =>
    by_cases hk : k ∈ Spec.OMap.keys s
    · rw [Spec.OMap.step, keys_set_of_mem hk]; exact h
    · rw [Spec.OMap.step, keys_set_of_not_mem hk]; exact nodup_concat h hk
  | delete k =>
    rw [Spec.OMap.step, keys_delete]
    exact List.filter_sublist.nodup h

/-- **What "insertion order" means, step by step**: assigning a live key leaves the key order
alone, assigning a new key appends it, deleting removes that key and nothing else moves. -/
theorem C20_order_steps {κ ν : Type} [DecidableEq κ] (s : Spec.OMap.St κ ν) (k : κ) (v : ν) :
    (k ∈ Spec.OMap.keys s → Spec.OMap.keys (Spec.OMap.set s k v) = Spec.OMap.keys s) ∧
    (k ∉ Spec.OMap.keys s → Spec.OMap.keys (Spec.OMap.set s k v) = Spec.OMap.keys s ++ [k]) ∧
    Spec.OMap.keys (Spec.OMap.delete s k) = (Spec.OMap.keys s).filter (fun k' => k' ≠ k) :=
  ⟨fun h => keys_set_of_mem h v, fun h => keys_set_of_not_mem h v, keys_delete s k⟩

example : range (run [Op.set "a" 1, .set "b" 2, .set "c" 3, .delete "a", .set "a" 4, .set "b" 5])
    = [("b", 5), ("c", 3), ("a", 4)] := by decide +kernel

example : getByIndex (run [Op.set "a" 1, .set "b" 2, .delete "a"]) 0 = some ("b", 2) ∧
    getByIndex (run [Op.set "a" 1, .set "b" 2, .delete "a"]) (-1) = none := by decide +kernel

end Store

section Patterns
open Model.OMap (GoMap GoMap.empty GoMap.put)
open Proofs.Pattern Model.SortKeys Proofs.SortTie

/-! Below `l₁ ~ l₂` (`List.Perm`) are two orders in which `for k, v := range m` may visit the same entries. -/

/-- **fold.** A loop that folds the entries into an accumulator gives the same result for every
order, provided the steps commute on the entries (sum, count, the minimum or maximum of a totally
ordered key, set a flag, insert into a set …). A loop that keeps the winning *entry* is first-of-ties, not
a fold: `Pattern_first_of_ties_perm_iff`. -/
theorem Pattern_fold_perm {α β : Type} (f : β → α → β) (b : β) {l₁ l₂ : List α} (hp : l₁.Perm l₂)
    (hc : ∀ x ∈ l₁, ∀ y ∈ l₁, ∀ s, f (f s x) y = f (f s y) x) : l₁.foldl f b = l₂.foldl f b :=
  foldl_perm f hp b hc

/-- **keyed write.** Writing every entry into another map under its own key (`dst[k] = v`): the
entries of a Go map have distinct keys, so the resulting map is the same for every order. -/
theorem Pattern_keyed_write_perm {κ ν : Type} [DecidableEq κ] (dst : GoMap κ ν) {l₁ l₂ : List (κ × ν)}
    (hp : l₁.Perm l₂) (hk : (l₁.map (·.1)).Nodup) :
    l₁.foldl (fun m p => m.put p.1 p.2) dst = l₂.foldl (fun m p => m.put p.1 p.2) dst := by
  apply foldl_perm _ hp
  intro x hx y hy s
  by_cases e : x = y
  · subst e; rfl
  · have hne : x.1 ≠ y.1 := fun h => e (inj_of_nodup_map (·.1) hk hx hy h)
    funext k'
    simp only [GoMap.put]
    by_cases h1 : k' = y.1
    · rw [if_pos h1, if_neg (h1 ▸ hne.symm), if_pos h1]
    · rw [if_neg h1, if_neg h1]

/-- **collect then sort.** Whatever sorting algorithm is used (Go's `sort.Slice` is not stable):
two sorted arrangements of the same entries are the same list when the order has no ties on them
— the sort key is total, as a map's own keys always are. -/
theorem Pattern_sort_perm {α : Type} {le : α → α → Prop} {l₁ l₂ r₁ r₂ : List α}
    (hanti : ∀ a b, a ∈ l₁ → b ∈ l₁ → le a b → le b a → a = b) (hp : l₁.Perm l₂)
    (h₁ : r₁.Perm l₁) (s₁ : r₁.Pairwise le) (h₂ : r₂.Perm l₂) (s₂ : r₂.Pairwise le) : r₁ = r₂ :=
  sorted_perm_unique hanti hp h₁ s₁ h₂ s₂

/-- the same with a concrete sort (`List.mergeSort`): collecting in any order and sorting gives
one list (`Proofs.SortTie.sortSlice_perm_of_no_tie` is this for a Go comparator `less`) -/
theorem Pattern_sort_perm_mergeSort {α : Type} (le : α → α → Bool)
    (htrans : ∀ a b c, le a b = true → le b c = true → le a c = true)
    (htotal : ∀ a b, (le a b || le b a) = true) {l₁ l₂ : List α}
    (hanti : ∀ a b, a ∈ l₁ → b ∈ l₁ → le a b = true → le b a = true → a = b) (hp : l₁.Perm l₂) :
    l₁.mergeSort le = l₂.mergeSort le :=
  sorted_perm_unique (le := fun a b => le a b = true) hanti hp
    (List.mergeSort_perm l₁ le) (List.pairwise_mergeSort htrans htotal l₁)
    (List.mergeSort_perm l₂ le) (List.pairwise_mergeSort htrans htotal l₂)

/-- **unique match.** A loop that returns at the first entry satisfying `p` returns the same entry
for every order when at most one entry satisfies `p`. -/
theorem Pattern_unique_perm {α : Type} (p : α → Bool) {l₁ l₂ : List α} (hp : l₁.Perm l₂)
    (hu : ∀ a ∈ l₁, ∀ b ∈ l₁, p a = true → p b = true → a = b) : l₁.find? p = l₂.find? p := by
  cases h₂ : l₂.find? p with
  | none => exact List.find?_eq_none.2 fun x hx => List.find?_eq_none.1 h₂ x (hp.mem_iff.1 hx)
  | some b =>
    have hb := hp.mem_iff.2 (List.mem_of_find?_eq_some h₂)
    cases h₁ : l₁.find? p with
    | none => exact absurd (List.find?_some h₂) (List.find?_eq_none.1 h₁ b hb)
    | some a => rw [hu a (List.mem_of_find?_eq_some h₁) b hb (List.find?_some h₁) (List.find?_some h₂)]

/-- **all / any with early exit.** "return false at the first entry that fails, else true" and its
dual do not depend on the order. -/
theorem Pattern_all_perm {α : Type} (p : α → Bool) {l₁ l₂ : List α} (hp : l₁.Perm l₂) :
    l₁.all p = l₂.all p := hp.all_eq

theorem Pattern_any_perm {α : Type} (p : α → Bool) {l₁ l₂ : List α} (hp : l₁.Perm l₂) :
    l₁.any p = l₂.any p := hp.any_eq

/-- **NEGATIVE — first match.** With two different matching entries the loop has two possible
results: there are two orders of the same entries on which "return the first match" differs.
(`findClassCaseInsensitive` before fixes/C20-class-map-order: two classes whose names differ only by
case.) -/
theorem Pattern_first_match_depends {α : Type} [DecidableEq α] (p : α → Bool) {l : List α} {a b : α}
    (ha : a ∈ l) (hb : b ∈ l) (hab : a ≠ b) (pa : p a = true) (pb : p b = true) :
    ∃ l₁ l₂ : List α, l₁.Perm l ∧ l₂.Perm l ∧ l₁.find? p ≠ l₂.find? p := by
  refine depends_of_heads ha hb ?_
  rw [List.find?_cons_of_pos (h := pa), List.find?_cons_of_pos (h := pb)]
  exact fun h => hab (Option.some.inj h)

/-- **NEGATIVE — collect / insert / concatenate in iteration order.** With two different entries
there are two orders that give different lists. (Object construction from `c.Properties`,
`array_values`, `json_decode(…, true)` … before the fixes.) -/
theorem Pattern_collect_depends {α : Type} [DecidableEq α] {l : List α} {a b : α}
    (ha : a ∈ l) (hb : b ∈ l) (hab : a ≠ b) :
    ∃ l₁ l₂ : List α, l₁.Perm l ∧ l₂.Perm l ∧ l₁ ≠ l₂ :=
  depends_of_heads (F := id) ha hb fun h => hab (List.cons.inj h).1

example : [("b", 2), ("a", 1), ("c", 3)].foldl (fun (m : GoMap String Nat) p => m.put p.1 p.2) GoMap.empty "a" = some 1 := by
  decide

/-- two classes `(name folded to lower case, declared name)`: the first match of "folds to foo2"
depends on the order -/
example : [("foo2", "FOO2"), ("foo2", "fOo2"), ("bar", "Bar")].find? (fun c => c.1 == "foo2") ≠
    [("foo2", "fOo2"), ("foo2", "FOO2"), ("bar", "Bar")].find? (fun c => c.1 == "foo2") := by decide +kernel

/-- the hypotheses of `Pattern_sort_perm` are satisfiable: two collection orders, one sorted result -/
example : ([1, 2, 3] : List Nat) = [1, 2, 3] :=
  Pattern_sort_perm (le := (· ≤ ·)) (l₁ := [3, 1, 2]) (l₂ := [2, 3, 1])
    (by intro a b _ _ h1 h2; omega) (by decide) (by decide) (by decide) (by decide) (by decide)

example : ([3, 1, 2] : List Nat).find? (fun x => x == 1) = [2, 3, 1].find? (fun x => x == 1) :=
  Pattern_unique_perm _ (by decide) (by decide)

/-! Collect in map order, then sort: `Pattern_sort_perm` above needs "the order has no ties on the
collected entries" as a hypothesis. The theorems below say exactly when it holds, in terms of what can be
read off the comparator, and that it is *necessary*: with a tie the result depends on the collection order. `C20_sorts_over_map_order_tie_free` checks the
comparator of every such sort of the tree on every run. -/

/-- **The comparator orders the elements themselves** (`keys[i] < keys[j]`, `sort.Strings(keys)`): for
a strict total order every collection order gives the same sorted slice — no hypothesis on the
collected elements at all. -/
theorem Pattern_sort_whole_perm {α : Type} {lt : α → α → Bool} (h : StrictTotal lt) {l₁ l₂ : List α}
    (hp : l₁.Perm l₂) : sortSlice lt l₁ = sortSlice lt l₂ := by
  apply sortSlice_perm_of_no_tie (byKey_strictWeak h id) hp
  intro a _ b _ t
  exact (byKey_tie_iff h id a b).1 t

/-- **NEGATIVE — a tie shows the collection order.** Whenever the comparator cannot tell two
*different* collected elements apart there are two collection orders of the same elements that give
different sorted slices: the sort is stable on them (Go's `sort.Slice` is insertion sort below 12
elements), so the tied pair stays in map order. -/
theorem Pattern_sort_tie_depends {α : Type} [DecidableEq α] {less : α → α → Bool} (h : StrictWeak less)
    {l : List α} (hn : l.Nodup) {a b : α} (ha : a ∈ l) (hb : b ∈ l) (hab : a ≠ b) (ht : tie less a b) :
    ∃ l₁ l₂ : List α, l₁.Perm l ∧ l₂.Perm l ∧ sortSlice less l₁ ≠ sortSlice less l₂ := by
  refine depends_of_heads ha hb fun e => ?_
  have s₁ := pair_sublist_sortSlice h ht.2 ((List.mem_erase_of_ne (Ne.symm hab)).2 hb)
  have s₂ := pair_sublist_sortSlice h ht.1 ((List.mem_erase_of_ne hab).2 ha)
  rw [← e] at s₂
  exact not_both_orders (((sortSlice_perm less _).trans (List.perm_cons_erase ha).symm).nodup_iff.2 hn) s₁ s₂

/-- **Characterisation.** For the (distinct) entries of a Go map and any comparator `sort.Slice`
accepts: the sorted result is independent of the collection order **iff** the comparator never ties on
two different entries. -/
theorem Pattern_sort_perm_iff {α : Type} [DecidableEq α] {less : α → α → Bool} (h : StrictWeak less)
    {l : List α} (hn : l.Nodup) :
    (∀ l₁ l₂ : List α, l₁.Perm l → l₂.Perm l → sortSlice less l₁ = sortSlice less l₂) ↔
    (∀ a ∈ l, ∀ b ∈ l, tie less a b → a = b) := by
  constructor
  · intro hall a ha b hb ht
    by_cases hab : a = b
    · exact hab
    · obtain ⟨l₁, l₂, p₁, p₂, ne⟩ := Pattern_sort_tie_depends h hn ha hb hab ht
      exact absurd (hall l₁ l₂ p₁ p₂) ne
  · intro hnt l₁ l₂ p₁ p₂
    apply sortSlice_perm_of_no_tie h (p₁.trans p₂.symm)
    intro a ha b hb
    exact hnt a (p₁.mem_iff.1 ha) b (p₁.mem_iff.1 hb)

/-- **Sorting through a key** (`numericSortKey(ki) < numericSortKey(kj)`, `len(ki) > len(kj)`,
`ms[i].GetName() < ms[j].GetName()`): independent of the collection order **iff** the key function is
injective on the collected entries. This is what has to be argued for every comparator of shape
`derived` (`C20Sites.sortArgued`). -/
theorem Pattern_sort_key_perm_iff {α ν : Type} [DecidableEq α] {lt : ν → ν → Bool} (h : StrictTotal lt)
    (f : α → ν) {l : List α} (hn : l.Nodup) :
    (∀ l₁ l₂ : List α, l₁.Perm l → l₂.Perm l → sortSlice (byKey lt f) l₁ = sortSlice (byKey lt f) l₂) ↔
    (∀ a ∈ l, ∀ b ∈ l, f a = f b → a = b) := by
  rw [Pattern_sort_perm_iff (byKey_strictWeak h f) hn]
  constructor
  · intro hh a ha b hb e; exact hh a ha b hb ((byKey_tie_iff h f a b).2 e)
  · intro hh a ha b hb t; exact hh a ha b hb ((byKey_tie_iff h f a b).1 t)

/-- **`ksort` / `krsort` as coded at the pinned tree** (every `$flags` value compares the raw key
strings): whatever order the map iterator delivers the keys in, the array is rebuilt in one order. -/
theorem C20_ksort_order_independent (desc : Bool) {collected₁ collected₂ : List (List Nat)}
    (hp : collected₁.Perm collected₂) : ksort desc collected₁ = ksort desc collected₂ :=
  Pattern_sort_whole_perm (rawLess_strictTotal desc) hp

/-- **Negation witness: a numeric sort key.** Compare the keys through a conversion under which two
different keys get the same number (every non-numeric string counts as 0; `"1"`, `"1.0"`, `" 1"` are
all 1) and the claim fails: for every such key function and every array holding two keys it
identifies there are two map orders with two different results. -/
theorem C20_ksort_numeric_key_counterexample (num : List Nat → Nat) {keys : List (List Nat)} (hn : keys.Nodup)
    {k₁ k₂ : List Nat} (h₁ : k₁ ∈ keys) (h₂ : k₂ ∈ keys) (hne : k₁ ≠ k₂) (he : num k₁ = num k₂) :
    ¬ (∀ c₁ c₂ : List (List Nat), c₁.Perm keys → c₂.Perm keys →
        sortSlice (byKey (fun a b : Nat => decide (a < b)) num) c₁ = sortSlice (byKey (fun a b : Nat => decide (a < b)) num) c₂) := by
  intro hall
  exact hne ((Pattern_sort_key_perm_iff natLt_strictTotal num hn).1 hall k₁ h₁ k₂ h₂ he)

/-- the hypotheses of the counterexample are satisfiable: the keys `width` and `depth` (as bytes) both
count as 0 -/
example : ¬ (∀ c₁ c₂ : List (List Nat), c₁.Perm [[119, 105, 100, 116, 104], [100, 101, 112, 116, 104]] →
    c₂.Perm [[119, 105, 100, 116, 104], [100, 101, 112, 116, 104]] →
    sortSlice (byKey (fun a b : Nat => decide (a < b)) (fun _ => 0)) c₁ = sortSlice (byKey (fun a b : Nat => decide (a < b)) (fun _ => 0)) c₂) :=
  C20_ksort_numeric_key_counterexample (fun _ => 0) (k₁ := [119, 105, 100, 116, 104]) (k₂ := [100, 101, 112, 116, 104])
    (by decide) (by decide) (by decide) (by decide) rfl

/-- a strict total order exists on the sort keys used above (`<` on lengths / numbers) and on the raw
strings (Go's `<`, bytewise) -/
example : StrictTotal (fun a b : Nat => decide (a < b)) ∧ StrictTotal bytesLt := ⟨natLt_strictTotal, bytesLt_strictTotal⟩

end Patterns

section Runs
open Model.Run Proofs.Run

/-- **No residue.** If a run reads a process-wide cell that earlier programs may have changed
(`D c`) only after writing it itself — on every path, whatever it reads meanwhile — then its
observable result is the same from every two stores that agree on the other cells. -/
theorem C20_no_residue {C V O : Type} [DecidableEq C] (D : C → Prop) (p : Prog C V O)
    (hd : Disc D [] p) (s₁ s₂ : Store C V) (hs : ∀ c, ¬ D c → s₁ c = s₂ c) :
    (Model.Run.run p s₁).1 = (Model.Run.run p s₂).1 := by
  apply run_agree D p [] s₁ s₂ hd
  intro c hc
  rcases hc with h | h
  · exact hs c h
  · simp at h

/-- **(A then B) = (B alone).** Whatever program `a` ran before in the same process: if every
cell that `a` leaves different from how it found it is one that `b` resets before reading, `b`
behaves exactly as on the untouched process. (Cells `a` restores before it ends — output writer,
buffer stack — are not in `D`.) -/
theorem C20_history_independent {C V O : Type} [DecidableEq C] (D : C → Prop) (a b : Prog C V O)
    (s : Store C V) (hd : Disc D [] b) (ha : ∀ c, ¬ D c → (Model.Run.run a s).2 c = s c) :
    after a b s = (Model.Run.run b s).1 :=
  C20_no_residue D b hd _ _ ha

/-- **Negation witness.** Without the discipline the claim is false: a run that reads a cell
before writing it shows what the previous program left there. (ini store, include cache,
superglobal caches … — the listed residue channels, replayed on the real interpreter by the
harness's known stream.) -/
theorem C20_no_residue_counterexample :
    ¬ (∀ (a b : Prog Unit Nat Nat) (s : Store Unit Nat), after a b s = (Model.Run.run b s).1) := by
  intro h
  have := h (.write () 3 (.done 0)) (.read () (fun v => .done v)) (fun _ => 14)
  simp [after, Model.Run.run, Store.put] at this

example : Disc (fun _ : String => True) [] (.write "userOutputEmitted" 0 (.read "userOutputEmitted" (fun v => (.done v : Prog String Nat Nat)))) := by
  simp [Disc]

example : after (.write "ini" 3 (.done 0)) (.write "ini" 14 (.read "ini" (fun v => (.done v : Prog String Nat Nat)))) (fun _ => 14) = 14 := by
  decide

theorem disc_resetThen {C V O : Type} [DecidableEq C] (D : C → Prop) (rs : List (C × V)) (k : Prog C V O) :
    ∀ W, Disc D ((rs.map Prod.fst).reverse ++ W) k → Disc D W (resetThen rs k) := by
  fun_induction resetThen rs k with
  | case1 k => exact fun W h => h
  | case2 c v r k ih =>
    -- `Disc D W (.write c v _)` is `Disc D (c :: W) _`
    intro W h
    exact ih (c :: W) (by
      simpa only [List.map_cons, List.reverse_cons, List.append_assoc, List.singleton_append] using h)

/-- **Resets at the start of a run.** A run that first stores fixed values into the cells `rs` —
unconditionally, before anything else — and afterwards reads, of the cells earlier programs may have
dirtied, only those (or ones it has written itself meanwhile), behaves the same whatever ran before
in the process. This is the shape `C20_resets_unconditional` checks on the source: the reset lies
directly in the body of `LoadAndRun` / `php.Load`. -/
theorem C20_entry_reset_no_residue {C V O : Type} [DecidableEq C] (D : C → Prop) (rs : List (C × V))
    (k : Prog C V O) (hk : Disc D (rs.map Prod.fst).reverse k) (s₁ s₂ : Store C V)
    (hs : ∀ c, ¬ D c → s₁ c = s₂ c) :
    (Model.Run.run (resetThen rs k) s₁).1 = (Model.Run.run (resetThen rs k) s₂).1 :=
  C20_no_residue D _ (disc_resetThen D rs k [] (by simpa using hk)) s₁ s₂ hs

/-- **A guard that holds on every fresh VM is harmless.** When the test of the guard cell succeeds
in the store the run starts from (the include cache of a VM that has run nothing is empty), the
guarded reset is the unconditional one. This is what the `guards` column of
`C20Sites.resetSpecs` claims for `if vm.GetPhpFileCache(file)`; the claim itself is by hand. -/
theorem C20_guarded_reset_when_guard_holds {C V O : Type} [DecidableEq C] (g c : C) (test : V → Bool) (v : V)
    (k : Prog C V O) (s : Store C V) (hg : test (s g) = true) :
    Model.Run.run (guardedReset g test c v k) s = Model.Run.run (.write c v k) s := by
  simp [guardedReset, Model.Run.run, hg]

/-- **Negation witness: a reset under a condition that can fail.** Put the reset under a test of
some other state and there are two stores that differ only in the dirty cell on which the run shows
different results: whenever the test fails the previous program's value is read. (`if
vm.isEntryScript() { data.ResetUserOutput() }` evaluated after the file was registered: the test
never succeeds, the flag set by an earlier program's `echo` reaches the next program's fatal-error
printer.) -/
theorem C20_guarded_reset_counterexample :
    ¬ (∀ (g c : Bool) (test : Nat → Bool) (s₁ s₂ : Store Bool Nat), (∀ x, x ≠ c → s₁ x = s₂ x) →
        (Model.Run.run (guardedReset g test c 0 (.read c (fun v => (.done v : Prog Bool Nat Nat)))) s₁).1 =
        (Model.Run.run (guardedReset g test c 0 (.read c (fun v => (.done v : Prog Bool Nat Nat)))) s₂).1) := by
  intro h
  have := h true false (fun n => n == 0) (fun x => if x then 1 else 0) (fun x => if x then 1 else 7)
    (by intro x hx; cases x <;> simp at hx ⊢)
  simp [guardedReset, Model.Run.run] at this

example : (Model.Run.run (resetThen [("userOutputEmitted", 0)] (.read "userOutputEmitted" (fun v => (.done v : Prog String Nat Nat)))) (fun _ => 1)).1 = 0 := by
  decide +kernel

example : Disc (fun c : String => c = "userOutputEmitted") (([("userOutputEmitted", 0)] : List (String × Nat)).map Prod.fst).reverse
    (.read "userOutputEmitted" (fun v => (.done v : Prog String Nat Nat))) := by
  simp [Disc]

end Runs

section Obligations
open Proofs.SitesObl (tables entryPath entryDiff_self)

/-- **Obligation (regenerated every run).** Every `for … range <map>` of the packages in scope is
classified in `C20Sites.table` for the loop-body summary it has today, with a pattern that admits
that summary, and no site is `firstMatch` / `leaks` unless it is a listed known finding; the
translator understood every file. A new or changed loop makes this fail. -/
theorem C20_map_ranges_classified :
    C20Sites.badSites C20Sites.table C20Sites.KnownSites Generated.C20MapRanges.sites = [] ∧
    Generated.C20MapRanges.shape = [] :=
  tables.1.1

/-- **Obligation (regenerated every run): no sort over a map-ordered slice can tie.** Every sort of a
slice that a `for … range <map>` loop collected either orders the collected elements themselves
(shape `whole`: `Pattern_sort_whole_perm`, nothing to argue), or is listed in `C20Sites.sortArgued`
with exactly the comparator it has today (the sort key is injective on the collected entries:
`Pattern_sort_key_perm_iff`), or is a listed known finding; and the translator found the sort of every
site claimed for the pattern `sort`. A comparator that starts looking at the keys through a function —
`numericSortKey(ki) < numericSortKey(kj)` — makes this fail (`Pattern_sort_tie_depends`: a tie shows the
map order). -/
theorem C20_sorts_over_map_order_tie_free :
    C20Sites.tyingSorts C20Sites.sortArgued C20Sites.KnownSorts Generated.C20Sorts.sorts = [] ∧
    C20Sites.sortSitesWithoutFact Generated.C20MapRanges.sites Generated.C20Sorts.sorts = [] ∧
    Generated.C20Sorts.shape = [] :=
  tables.1.2

/-- **Obligation (regenerated every run).** Every package-level variable written outside `init`
(and every call that changes process state outside Go variables) is classified in
`C20Sites.cells`, and none `leaks` unless it is a listed known finding. -/
theorem C20_pkg_state_classified :
    C20Sites.badCells C20Sites.cells C20Sites.KnownCells Generated.C20PkgState.cells = [] :=
  tables.2.1.1

/-- **Obligation (regenerated every run): the resets still happen on every run.** For every cell
whose discipline is `resetBeforeRead` / `restoredAtEnd` the table `C20Sites.resetSpecs` names the
place that keeps it clean; the regenerated source facts contain that place, directly in the body of
its function (enclosing conditions exactly as listed — normally none), preceded by no way out of the
function other than the listed guards; and no such cell is without a place. A reset that is
removed, put under a condition, or put behind a new early return makes this fail. -/
theorem C20_resets_unconditional :
    C20Sites.badResets C20Sites.cells C20Sites.resetSpecs Generated.C20Resets.uses = [] ∧
    Generated.C20Resets.shape = [] :=
  tables.2.2.1

/-- **Obligation (regenerated every run): every observer is probed.** Every function that reads a
reset-per-run cell which a script can leave in more than one state has a clean channel listed whose
`B` side reaches it (the harness checks that the named channels exist and runs them on every run).
A new reader of such a cell makes this fail until a probe is written for it. -/
theorem C20_reset_observers_probed :
    C20Sites.unprobed C20Sites.cells C20Sites.probes Generated.C20Resets.uses = [] :=
  tables.2.2.2

/-- **Obligation (regenerated every run): the entry path is the one the in-process runner mirrors.**
The functions a command-line run goes through around the script (`zy.go init`, `cmd.getRuntimeVM`,
`cmd.RunScriptFile`, `runtime.NewVM` with its default throw control, `VM.LoadAndRun`,
`VM.RunShutdownCallbacks`, `runHeaderCallbacks`) make exactly the calls, in the order and under the
conditions, that `C20Sites.expectedEntry` records and `harness/c20/runner.go` reproduces. -/
theorem C20_entry_path_as_mirrored :
    C20Sites.entryDiff Generated.C20Resets.entry C20Sites.expectedEntry = none :=
  entryPath ▸ entryDiff_self _

end Obligations

section Reductions
open Model.Reduce Proofs.Reduce

/-!
`max`, `min`, `array_search` … keep the *first* candidate that nothing beats and return it as itself.
When the candidates are collected by ranging over the Go map behind a string-keyed array, the candidate
list is an arbitrary permutation of the entries (`Model/Reduce.lean`). -/

/-- **First-of-ties, positive.** For any strict comparison (irreflexive, transitive — Go's `>` on
float64 with NaN, on integers, on strings; no totality assumed): when the entries contain only one
candidate that nothing beats, the loop returns it for every order in which the map iterator may
deliver the entries. -/
theorem Pattern_first_of_ties_perm {α : Type} {gt : α → α → Bool} (h : StrictOrder gt) {xs ys : List α}
    (uniq : ∀ a b, Maximal gt xs a → Maximal gt xs b → a = b) (hp : ys.Perm xs) :
    firstBest gt ys = firstBest gt xs := by
  simpa using firstBest_map_perm h id uniq hp

/-- **First-of-ties, NEGATIVE.** Two different entries that nothing beats (they tie at the top: `3`
and `3.0`): there are two orders of the same entries on which the loop returns different candidates —
each of the two comes out when the iterator delivers it first. No hypothesis on the comparison. -/
theorem Pattern_first_of_ties_depends {α : Type} [DecidableEq α] (gt : α → α → Bool) {xs : List α} {a b : α}
    (ha : Maximal gt xs a) (hb : Maximal gt xs b) (hab : a ≠ b) :
    ∃ l₁ l₂ : List α, l₁.Perm xs ∧ l₂.Perm xs ∧ firstBest gt l₁ ≠ firstBest gt l₂ := by
  refine Proofs.Pattern.depends_of_heads ha.1 hb.1 ?_
  rw [firstBest_head gt a _ (fun x hx => ha.2 x (List.mem_of_mem_erase hx)),
    firstBest_head gt b _ (fun x hx => hb.2 x (List.mem_of_mem_erase hx))]
  exact fun e => hab (Option.some.inj e)

/-- **First-of-ties is independent of the map order iff the best candidate is unique.** For the
entries of an array and any strict comparison: the loop gives one result for every order of the
entries exactly when no two different entries tie at the top. (What a classification of a
`range GetProperties()` site as `C20Sites.Pattern.fold` has to argue when the loop keeps the best entry;
`max` over values that may be `3` and `3.0` cannot.) -/
theorem Pattern_first_of_ties_perm_iff {α : Type} [DecidableEq α] {gt : α → α → Bool} (h : StrictOrder gt)
    (xs : List α) :
    (∀ l₁ l₂ : List α, l₁.Perm xs → l₂.Perm xs → firstBest gt l₁ = firstBest gt l₂) ↔
      (∀ a b, Maximal gt xs a → Maximal gt xs b → a = b) := by
  constructor
  · intro indep a b ha hb
    apply Classical.byContradiction
    intro hab
    obtain ⟨l₁, l₂, p₁, p₂, hne⟩ := Pattern_first_of_ties_depends gt ha hb hab
    exact hne (indep l₁ l₂ p₁ p₂)
  · intro uniq l₁ l₂ p₁ p₂
    rw [Pattern_first_of_ties_perm h uniq p₁, Pattern_first_of_ties_perm h uniq p₂]

/-- **`max` / `min` over the entries of a string-keyed array**, candidates taken in the order the loop
meets them: when one entry is strictly the largest (smallest), every collection order gives it. -/
theorem C20_max_unique_best_order_independent {κ : Type} {xs ys : List (κ × PVal)}
    (uniq : ∀ a b, Maximal (fun a b => numGt a.2 b.2) xs a → Maximal (fun a b => numGt a.2 b.2) xs b → a = b)
    (hp : ys.Perm xs) : maxOf ys = maxOf xs :=
  firstBest_map_perm (strict_comap numGt_strict (fun e : κ × PVal => e.2)) (·.2)
    (fun a b ha hb => congrArg _ (uniq a b ha hb)) hp

theorem C20_min_unique_best_order_independent {κ : Type} {xs ys : List (κ × PVal)}
    (uniq : ∀ a b, Maximal (fun a b => numLt a.2 b.2) xs a → Maximal (fun a b => numLt a.2 b.2) xs b → a = b)
    (hp : ys.Perm xs) : minOf ys = minOf xs :=
  firstBest_map_perm (strict_comap numLt_strict (fun e : κ × PVal => e.2)) (·.2)
    (fun a b ha hb => congrArg _ (uniq a b ha hb)) hp

/-- **Negation witness (replayed on the real interpreter by the reorder stream on a tree that collects
the candidates from the Go map):** `max(['a' => 3, 'b' => 3.0])` with the candidates in map order is not
a function of the array — the two orders of the two entries give `int(3)` and `float(3)`. -/
theorem C20_max_assoc_map_order_counterexample :
    ¬ (∀ l₁ l₂ : List (String × PVal), l₁.Perm [("a", .int 3), ("b", .float 3)] →
        l₂.Perm [("a", .int 3), ("b", .float 3)] → maxOf l₁ = maxOf l₂) := by
  intro hall
  have := hall [("a", .int 3), ("b", .float 3)] [("b", .float 3), ("a", .int 3)] (List.Perm.refl _)
    (List.Perm.swap _ _ _)
  revert this
  decide

/-- the hypotheses of `Pattern_first_of_ties_perm` are satisfiable: one entry on top, two orders -/
example : maxOf [("a", PVal.int 1), ("b", .float 3), ("c", .numstr 2)] = some (.float 3) ∧
    maxOf [("c", PVal.numstr 2), ("a", .int 1), ("b", .float 3)] = some (.float 3) := by decide

/-- the hypotheses of `Pattern_first_of_ties_depends` are satisfiable: `3` and `3.0` both on top -/
example : maxOf [("a", PVal.int 3), ("b", .float 3), ("c", .int 1)] = some (.int 3) ∧
    maxOf [("b", PVal.float 3), ("a", .int 3), ("c", .int 1)] = some (.float 3) := by decide

end Reductions

section Stacks
open Model.Stack Proofs.Lemmas.Stack

/-!
`core.obStack` keeps a sentinel at index 0; every function that reads it assumes `len ≥ 1`, and the
end-of-run repair (`FlushAllBuffers`) is itself guarded by `len <= 1`. A built-in that pops under a
weaker guard takes the process-wide stack below its floor for good. `Model/Stack.lean`: the length of
such a container under guarded effects, exactly the facts `extract/c20/stacks.go` regenerates. -/

/-- **Floor, positive (unbounded).** When every op is safe for floor `F` (a pop of `s` is not executed at
the lengths `F … F+s-1`, a reset stores at least `F` elements), every sequence of calls, started at any
length at or above the floor, stays at or above it. -/
theorem Stack_floor_kept {F : Nat} (ops : List Op) (h : ∀ o ∈ ops, o.safe F = true) {n : Nat} (hn : F ≤ n) :
    F ≤ run ops n := by
  unfold run
  exact List.foldlRecOn ops _ hn fun _ hn o ho => step_preserves (h o ho) hn

/-- **Floor, negative.** A pop that is not safe for a floor `F ≥ 1` has a length at or above the floor at
which one call takes the container below it. -/
theorem Stack_unsafe_pop_goes_below {F s : Nat} (hF : 0 < F) {o : Op} (he : o.eff = .pop s)
    (hu : o.safe F = false) : ∃ n, F ≤ n ∧ o.step n < F := by
  unfold Op.safe at hu
  rw [he] at hu
  obtain ⟨i, hi, hri⟩ := List.all_eq_false.1 hu
  have hi := List.mem_range.1 hi
  have hri : o.runs (F + i) = true := by simpa using hri
  refine ⟨F + i, Nat.le_add_right F i, ?_⟩
  have hstep : o.step (F + i) = F + i - s := by simp [Op.step, hri, he, Effect.apply]
  rw [hstep]
  omega

/-- **Floor, characterisation.** For an alphabet of pushes, pops and readers that contains the unguarded
push (`ob_start`) and a floor `F ≥ 1`: every sequence of calls started at the floor keeps `len ≥ F`
**iff** every popping op is guarded so that it is not executed at the lengths from which it would go
below `F` — for `obStack`: iff every pop is guarded by `len > 1`. (With floor 0 the left side is
trivially true: the model's subtraction stops at 0 where Go would panic.) -/
theorem Stack_floor_kept_iff (F : Nat) (hF : 0 < F) (A : List Op) (hplain : ∀ o ∈ A, Op.plain o)
    (hpush : push1 ∈ A) :
    (∀ seq : List Op, (∀ o ∈ seq, o ∈ A) → F ≤ run seq F) ↔ (∀ o ∈ A, o.safe F = true) := by
  constructor
  · intro h o ho
    cases hs : o.safe F with
    | true => rfl
    | false =>
      exfalso
      have hp := hplain o ho
      cases he : o.eff with
      | pop s =>
        -- pushes up to the length at which the unsafe pop goes below, then the pop
        obtain ⟨n, hn, hlt⟩ := Stack_unsafe_pop_goes_below hF he hs
        have hseq := h (List.replicate (n - F) push1 ++ [o]) (by
          intro o' ho'
          rcases List.mem_append.mp ho' with h1 | h1
          · rw [(List.mem_replicate.mp h1).2]; exact hpush
          · rw [List.mem_singleton.mp h1]; exact ho)
        rw [run_append, run_pushes, Nat.add_sub_of_le hn] at hseq
        exact Nat.not_le_of_lt hlt hseq
      | push k => simp [Op.safe, he] at hs
      | none => simp [Op.safe, he] at hs
      | reset r => simp [Op.plain, he] at hp
      | unknown => simp [Op.plain, he] at hp
  · intro h seq hseq
    exact Stack_floor_kept seq (fun o ho => h o (hseq o ho)) (Nat.le_refl F)

/-- **Obligation (regenerated every run): no process-wide slice is taken below its floor.** For every
slice that is process-wide state (field of a struct type with a package-level variable, or a package-level
slice variable) and every effect some function has on its length, with the length guards in force where
the effect stands: a pop is guarded against the lengths from which it would go below the number of
elements the initialiser stores, a reset stores at least as many, an assignment the translator cannot
read is admitted only for floor 0. A new popping function with a weaker guard than its siblings
(`len == 0` where they test `len <= 1`) makes this fail; `echo bad | vm_c20` names it. -/
theorem C20_process_wide_stacks_keep_their_floor :
    unsafeEffects Generated.C20Stacks.containers = [] ∧ Generated.C20Stacks.shape = [] := by
  decide

/-- **What `C20_process_wide_stacks_keep_their_floor` means, unbounded:** for every regenerated
container, every sequence of its regenerated effects, from any length at or above its floor, ends at or above its floor — in particular the guard of
the end-of-run repair (`len <= floor ⇒ nothing to do`) is right to assume the sentinel is there. -/
theorem C20_regenerated_stacks_floor_invariant :
    ∀ c ∈ Generated.C20Stacks.containers, ∀ seq : List Op, (∀ o ∈ seq, o ∈ c.ops) →
      ∀ n, c.floor ≤ n → c.floor ≤ run seq n := by
  intro c hc seq hseq n hn
  exact Stack_floor_kept seq
    (fun o ho => safe_of_unsafeEffects_nil C20_process_wide_stacks_keep_their_floor.1 hc (hseq o ho)) hn

/-! The output-buffer stack as coded at the pinned tree: `push` (ob_start), `pop` (ob_get_clean,
ob_end_clean), `FlushAllBuffers` (end of every run). -/

/-- `Proofs.Lemmas.Stack.push1` under the name of its built-in -/
def obPush : Op := ⟨[], .push 1⟩
def obPop : Op := ⟨[⟨.le, 1, true⟩], .pop 1⟩
def obFlushAll : Op := ⟨[⟨.le, 1, true⟩], .reset 1⟩
def obOps : List Op := [obPush, obPop, obFlushAll]

/-- the regenerated effects on `outputBufferStack.buffers` -/
def obRegenerated : List Op :=
  (Generated.C20Stacks.containers.filter (fun c => c.ty == "outputBufferStack" && c.field == "buffers")).flatMap (·.ops)

/-- **Obligation (regenerated every run): the output-buffer stack is the modelled one** — floor 1, and
every effect on its length is one of `obOps` (or a reader). -/
theorem C20_ob_stack_as_modelled :
    obRegenerated ≠ [] ∧ obRegenerated.all (fun o => o.eff == .none || obOps.contains o) = true ∧
    (Generated.C20Stacks.containers.filter (fun c => c.ty == "outputBufferStack" && c.field == "buffers")).all
      (fun c => c.floor == 1) = true := by
  decide +kernel

/-- **The output-buffer stack keeps its sentinel (unbounded):** after any sequence of ob_start /
ob_get_clean / ob_end_clean / end-of-run flushes — any history of programs in one process — the stack holds
its sentinel, `ob_get_level()` is not negative, and the next `ob_start()` does buffer. -/
theorem C20_ob_stack_sentinel_kept (seq : List Op) (h : ∀ o ∈ seq, o ∈ obOps) :
    1 ≤ run seq 1 ∧ 0 ≤ level (run seq 1) ∧ buffering (run (seq ++ [obPush]) 1) = true := by
  have h1 : 1 ≤ run seq 1 :=
    Stack_floor_kept seq (fun o ho => List.all_eq_true.1 (by decide : obOps.all (·.safe 1) = true) o (h o ho))
      (Nat.le_refl 1)
  refine ⟨h1, Int.sub_nonneg_of_le (Int.ofNat_le.2 h1), ?_⟩
  rw [run_append, run_cons, run_nil, show obPush = push1 from rfl, push1_step]
  exact decide_eq_true (Nat.lt_succ_of_le h1)

/-- **Negation witness (replayed on the real interpreter by the unbalanced stream on a tree that has it):**
an `ob_end_flush` whose pop is guarded by `len == 0` instead of `len <= 1`. One unmatched call removes the
sentinel (`ob_get_level()` = -1), the end-of-run repair skips it (`len <= 1`), and the next program's
`ob_start()` only re-creates the sentinel: it buffers nothing, where a fresh process buffers. -/
def seededFlush : Op := ⟨[⟨.eq, 0, true⟩], .pop 1⟩

theorem C20_ob_end_flush_sentinel_counterexample :
    seededFlush.safe 1 = false ∧
    run [seededFlush] 1 = 0 ∧ level (run [seededFlush] 1) = -1 ∧
    run [seededFlush, obFlushAll] 1 = 0 ∧
    buffering (run [seededFlush, obFlushAll, obPush] 1) = false ∧ buffering (run [obPush] 1) = true ∧
    ¬ (∀ seq : List Op, (∀ o ∈ seq, o ∈ seededFlush :: obOps) → 1 ≤ run seq 1) := by
  refine ⟨rfl, rfl, rfl, rfl, rfl, rfl, fun hall => ?_⟩
  exact absurd (hall [seededFlush] fun o ho => List.mem_singleton.1 ho ▸ List.mem_cons_self) (by decide)

end Stacks

section Errors
open Model.Shared Proofs.Lemmas.Shared
open Proofs.SitesObl (tables)

/-- **Obligation (regenerated every run): no mutable reference is handed out of a package-level
variable unaccounted for.** Every package-level variable of the linked packages that holds a reference
(pointer, or interface initialised with a pointer — through its constructor if need be) to a struct
some of whose fields are assigned anywhere in the linked packages, and that is used as a value
(returned, passed, stored), is either a classified cell whose discipline speaks about its content
(reset per run, out of scope, or a listed leak) or argued in `C20Sites.sharedArgued`; no argued entry is
stale; the translator could resolve every initialiser. An error value hoisted to package level
(`var errX = data.NewErrorThrow(…)` … `return nil, errX`) makes this fail: `ThrowValue.StackFrames`
and `Error.From` are assigned while it unwinds. -/
theorem C20_shared_references_classified :
    C20Sites.badShared C20Sites.cells C20Sites.KnownCells C20Sites.sharedArgued Generated.C20Shared.refs = [] ∧
    C20Sites.staleShared C20Sites.sharedArgued Generated.C20Shared.refs = [] ∧
    Generated.C20Shared.shape = [] :=
  tables.2.1.2

/-- **A fresh object per raise: what a program's errors show does not depend on the history.** For
every history of raises `h` (any programs, any VMs, caught or not — any steps) and every program `b`:
each raise of `b` shows exactly its own first offered position and its own frames. -/
theorem C20_error_fresh_per_raise_history_independent {P F : Type} (h b : List (List (Step P F))) :
    shows .perRaise h b = shows .perRaise [] b ∧
    shows .perRaise h b = b.map (fun r => (⟨firstFill r, pushes r⟩ : ErrObj P F)) :=
  ⟨by rw [shows_perRaise, shows_perRaise], shows_perRaise h b⟩

/-- **One object for the whole process: the first raise of the later program shows the history.** Its
position is the first position ANY raise of the process was offered (its own only if none was), and its
frames are the frames of every earlier raise followed by its own. -/
theorem C20_error_shared_object_carries_history {P F : Type} (h : List (List (Step P F)))
    (r : List (Step P F)) (b : List (List (Step P F))) :
    ∃ o rest, shows .shared h (r :: b) = o :: rest ∧
      o.frames = pushes h.flatten ++ pushes r ∧
      o.pos = (match firstFill h.flatten with
        | some p => some p
        | none => firstFill r) := by
  refine ⟨unwind r (unwind h.flatten ErrObj.fresh),
    (runRaises .shared (unwind r (unwind h.flatten ErrObj.fresh)) b).2, ?_, ?_, ?_⟩
  · rw [shows_eq, runRaises_shared_state]
    simp only [runRaises]
  · rw [unwind_frames, unwind_fresh]
  · rw [unwind_pos, unwind_fresh]; rfl

/-- **…and that is a difference whenever the history crossed a boundary.** If any earlier raise of the
process recorded a frame, the first raise of the later program does not show what it shows in a fresh
process — whatever the programs are. -/
theorem C20_error_shared_object_differs {P F : Type} (h : List (List (Step P F)))
    (r : List (Step P F)) (b : List (List (Step P F))) (hne : pushes h.flatten ≠ []) :
    (shows .shared h (r :: b)).head? ≠ (shows .shared [] (r :: b)).head? := by
  obtain ⟨o, rest, ho, hf, _⟩ := C20_error_shared_object_carries_history h r b
  obtain ⟨o', rest', ho', hf', _⟩ := C20_error_shared_object_carries_history [] r b
  rw [ho, ho']
  simp only [List.head?_cons, ne_eq, Option.some.injEq]
  intro heq
  rw [heq, hf'] at hf
  exact hne (List.self_eq_append_left.1 hf)

/-- **Negation witness (replayed on the real interpreter by the error stream on a tree that has it):**
the spread-operator error as one package-level value. Program A meets a bad spread operand at A.php:4
two boundaries deep and catches it; program B meets one at B.php:3 one boundary deep. With an object
per raise B shows B.php:3 and its own frame; with the shared object it shows A.php:4 and A's two
frames before its own. -/
theorem C20_spread_sentinel_counterexample :
    let a : List (List (Step (String × Nat) String)) := [[.fill ("A.php", 4), .push "merge_rows", .push "Report::add"]]
    let b : List (List (Step (String × Nat) String)) := [[.fill ("B.php", 3), .push "widen"]]
    shows .perRaise a b = [⟨some ("B.php", 3), ["widen"]⟩] ∧
    shows .shared [] b = [⟨some ("B.php", 3), ["widen"]⟩] ∧
    shows .shared a b = [⟨some ("A.php", 4), ["merge_rows", "Report::add", "widen"]⟩] ∧
    shows .shared b b = [⟨some ("B.php", 3), ["widen", "widen"]⟩] :=
  ⟨rfl, rfl, rfl, rfl⟩

end Errors

end C20
