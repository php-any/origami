import Model.Access
import Model.Types
/-
C07 — what a user relies on, stated on the declared hierarchy only (no fuel, no contexts, no access paths):

* `Sub H a b`      — class `a` is `b` or a descendant of `b` (reflexive-transitive closure of `extends`);
* `allowed`        — PHP's visibility rule in terms of the class whose **source text** contains the access
                     (`caller`) and the class that **declares** the member:
                     public: always; private: `caller` is the declaring class;
                     protected: `caller` is the declaring class, a descendant or an ancestor of it;
* `Spec.Types.IsA`, `Denotes`, `denote` (second namespace below) — the set of value kinds a declared type stands for;
* the abstract-class rules (`Requires`/`Provides`/`Complete`) are in `Spec/Inst.lean`.
-/
namespace Spec.Access
open Model.Access (Name Cls Hier getClass extOf Mod)

/-- `a` is `b` or inherits from it -/
inductive Sub (H : Hier) : Name → Name → Prop
  | refl (a : Name) : Sub H a a
  | step {a p b : Name} : extOf H a = some p → Sub H p b → Sub H a b

/-- same class, descendant or ancestor -/
def Related (H : Hier) (a b : Name) : Prop := Sub H a b ∨ Sub H b a

/-- may code of class `caller` (`none`: code outside every class) use a member with modifier `m` declared
by class `decl`? -/
def allowed (H : Hier) (m : Mod) (caller : Option Name) (decl : Name) : Prop :=
  match m with
  | .pub => True
  | .priv => caller = some decl
  | .prot => ∃ c, caller = some c ∧ Related H c decl

/-! A decision procedure for `allowed` (proved correct in `Proofs/Lemmas/Access.lean: allowedB_spec`); the
driver answers `spec` requests with it so that the harness can hold its own Go oracle against this file. -/

def subB (H : Hier) (a b : Name) : Option Bool :=
  if a = b then some true
  else
    match Model.Access.chainHas H b (Model.Access.fuel H) (extOf H a) with
    | .yes => some true
    | .fuel => none
    | .no => some false
    | .missing => some false

def relatedB (H : Hier) (a b : Name) : Option Bool :=
  match subB H a b with
  | none => none
  | some true => some true
  | some false => subB H b a

def allowedB (H : Hier) (m : Mod) (caller : Option Name) (decl : Name) : Option Bool :=
  match m with
  | .pub => some true
  | .priv => some (caller == some decl)
  | .prot =>
    match caller with
    | none => some false
    | some c => relatedB H c decl

end Spec.Access

namespace Spec.Types
open Model.Access (Name Hier getClass)
open Model.Types (Ty ValKind)

/-- an object of class `c` is a `t`: `t` is `c`, a class `c` inherits from, or an interface one of them
lists in `implements` -/
inductive IsA (H : Hier) : Name → Name → Prop
  | self {c : Name} {d : Model.Access.Cls} : getClass H c = some d → IsA H c c
  | impl {c t : Name} {d : Model.Access.Cls} : getClass H c = some d → t ∈ d.impl → IsA H c t
  | ext {c p t : Name} {d : Model.Access.Cls} : getClass H c = some d → d.ext = some p → IsA H p t → IsA H c t

/-- the value kinds a declared type stands for -/
inductive Denotes (H : Hier) : Ty → ValKind → Prop
  | int : Denotes H .int .int
  | str : Denotes H .str .str
  | arr : Denotes H .arr .arr
  | assoc : Denotes H .arr .assoc
  | cls {n c : Name} : IsA H c n → Denotes H (.cls n) (.obj c)
  | null {t : Ty} : Denotes H (.nullable t) .null
  | some {t : Ty} {v : ValKind} : Denotes H t v → Denotes H (.nullable t) v
  | union {ts : List Ty} {t : Ty} {v : ValKind} : t ∈ ts → Denotes H t v → Denotes H (.union ts) v

/-- `v ∈ denote H t` -/
def denote (H : Hier) (t : Ty) : ValKind → Prop := Denotes H t

end Spec.Types
