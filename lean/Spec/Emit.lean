import Model.Emit
/-!
# Spec.Emit — what survives a round trip through the generated Go source

`erase` is the statement of what the user may rely on, written without outcomes and without
literals: the AST that the compiled program evaluates is the AST the parser built, except that

* position info is reset (the flag `hasNode` becomes "a fresh Node was allocated"),
* a field of a reflectively emitted struct that is tagged `pp:"-"` is absent (Go zero value),
* a field that a hand-written handler does not read is absent.

`dropped` lists every (type, field) pair that `erase` removes anywhere in a tree, and
`staticDrops` computes from the struct tables alone every pair that can ever be removed.
The theorems in `Proofs.Properties.C16` connect the three; the obligations on the regenerated
tables bound `staticDrops` by two short lists kept in `Proofs/C16Record.lean`.
-/
namespace Spec.Emit
open Model.Emit

/-- rebuilt position flag of an object dispatched on its own type -/
def rebuiltNode (tbl : Tables) (ty : String) (hasNode : Bool) : Bool :=
  match path tbl ty with
  | .special _ => true
  | .scalar _ => true
  | .reflective d => needsNode tbl d
  | _ => hasNode

def keepField (m : Mode) (name : String) : Bool :=
  fieldAct m name == .emit

/-- the tree the compiled program evaluates, for a tree the generator accepts -/
def erase (tbl : Tables) (m : Mode) (ty : String) : Val → Val
  | .nil => .nil
  | .scalar s => .scalar s
  | .blob => .blob
  | .plainPtr => .plainPtr
  | .unnamed => .unnamed
  | .obj oty hn fields =>
      .obj oty (if m.isInline then true else rebuiltNode tbl oty hn)
        (erase tbl (objMode tbl m oty) (chainTy m oty) fields)
  | .list items => .list (erase tbl .elems ty items)
  | .fnil => .fnil
  | .fcons name v rest =>
      if keepField m name then .fcons name (erase tbl (valueMode m ty name) ty v) (erase tbl m ty rest)
      else erase tbl m ty rest

/-- every (type, field) that `erase` removes in the tree; `(ty, "Node")` when position info that
was there is not rebuilt. `ty` is the type owning the chain being walked. -/
def dropped (tbl : Tables) (m : Mode) (ty : String) : Val → List (String × String)
  | .obj oty hn fields =>
      (if !m.isInline && hn && !rebuiltNode tbl oty hn then [(oty, "Node")] else [])
      ++ dropped tbl (objMode tbl m oty) (chainTy m oty) fields
  | .list items => dropped tbl .elems ty items
  | .fcons name v rest =>
      if keepField m name then dropped tbl (valueMode m ty name) ty v ++ dropped tbl m ty rest
      else (ty, name) :: dropped tbl m ty rest
  | _ => []

/-- forget position flags -/
def stripPos : Val → Val
  | .obj ty _ fields => .obj ty true (stripPos fields)
  | .list items => .list (stripPos items)
  | .fcons name v rest => .fcons name (stripPos v) (stripPos rest)
  | v => v

/-- names of a field chain -/
def chainNames : Val → List String
  | .fcons name _ rest => name :: chainNames rest
  | _ => []

/-- names of the fields of a chain that the walk in mode `m` leaves out -/
def levelDrops (m : Mode) (fields : Val) : List String :=
  (chainNames fields).filter (fun n => !keepField m n)

/-! ### what can be dropped at all, from the tables alone -/

/-- fields of a reflectively emitted struct that the literal leaves out although they are data -/
def reflDrops (tbl : Tables) (d : StructDesc) : List (String × String) :=
  (d.fields.filter (fun f => !f.embeddedNode && f.ppSkip)).map (fun f => (d.name, f.name))
  ++ (if d.fields.any (·.embeddedNode) && !needsNode tbl d then [(d.name, "Node")] else [])

/-- fields of a hand-emitted struct that the handler does not read -/
def handlerDrops (tbl : Tables) (h : Handler) : List (String × String) :=
  match findStruct tbl h.ty with
  | none => [(h.ty, "?")]
  | some d => (d.fields.filter (fun f => !f.embeddedNode && !h.reads.contains f.name)).map (fun f => (h.ty, f.name))

/-- fields of an embedded struct that a handler takes apart itself and does not read;
keyed `Outer>Embedded` -/
def innerDrops (tbl : Tables) (h : Handler) : List (String × String) :=
  h.inner.flatMap fun e =>
    match findStruct tbl h.ty with
    | none => [(h.ty, "?")]
    | some d =>
      match d.fields.find? (fun f => f.name == e.1) with
      | none => [(h.ty ++ ">" ++ e.1, "?")]
      | some _ =>
        -- the embedded struct's description: its type is `node.<field name>` (Go embedding)
        match findStruct tbl ("node." ++ e.1) with
        | none => [(h.ty ++ ">" ++ e.1, "?")]
        | some ed => (ed.fields.filter (fun f => !f.embeddedNode && !e.2.contains f.name)).map
                       (fun f => (h.ty ++ ">" ++ "node." ++ e.1, f.name))

def isHandled (tbl : Tables) (ty : String) : Bool :=
  (findHandler tbl.special ty).isSome || (findHandler tbl.scalars ty).isSome

/-- structs that take the reflective path and produce a literal (all fields exported) -/
def emittable (tbl : Tables) : List StructDesc :=
  tbl.structs.filter (fun d => !isHandled tbl d.name && (firstUnexported d).isNone)

def staticDrops (tbl : Tables) : List (String × String) :=
  (emittable tbl).flatMap (reflDrops tbl)
  ++ (tbl.special ++ tbl.scalars ++ tbl.aux).flatMap (handlerDrops tbl)
  ++ tbl.special.flatMap (innerDrops tbl)

/-- field kinds `emitReflectValue` turns into text or into an explicit error -/
def kindOk (tbl : Tables) (k : FKind) : Bool :=
  match k with
  | .ptrPlain => !tbl.ptrAssertUnchecked
  | _ => true

/-- no emittable struct has a field whose value makes the compile command panic -/
def noCrashKinds (tbl : Tables) : Bool :=
  (emittable tbl).all fun d => d.fields.all fun f => f.embeddedNode || f.ppSkip || kindOk tbl f.kind

/-- a field whose slice / map element type has no name cannot be written by the reflective path
(`emitSlice` prints `[]{`): every struct that has one and takes the reflective path when handed to
`Emit` is one the handlers write by hand (registry `aux`: it never reaches `Emit` alone) -/
def unnamedByHand (tbl : Tables) : Bool :=
  (emittable tbl).all fun d =>
    d.fields.all (fun f => f.embeddedNode || f.ppSkip || f.kind != .unnamedElems)
      || (findHandler tbl.aux d.name).isSome

end Spec.Emit
